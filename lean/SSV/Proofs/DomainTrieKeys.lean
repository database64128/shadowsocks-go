import SSV.Proofs.DomainSuffix
/-
`Keys()` of a well-formed trie: the trie matches exactly the declarative language of its keys (so writing the keys out
and inserting them again, as the text round trip does, preserves the language); `Insert` keeps a trie well-formed
and adds no key but the inserted rule.
-/
namespace SSV.DomainSet

mutual
  /-- well-formed trie: what a Go map guarantees (distinct keys per node) and what `Insert` guarantees (labels without dots) -/
  def Trie.WF : Trie → Prop
    | .leaf => True
    | .node cs => cs.WF
  def Children.WF : Children → Prop
    | .nil => True
    | .cons k t rest => dot ∉ k ∧ rest.lookup k = none ∧ t.WF ∧ rest.WF
end

theorem prefix_nil_iff {α} (p : List α) : p <+: [] ↔ p = [] := List.prefix_nil

theorem paths_ne_nil : ∀ (cs : Children), ∀ p ∈ cs.paths, p ≠ []
  | .nil, p, hp => by simp [Children.paths] at hp
  | .cons k t rest, p, hp => by
    simp only [Children.paths, List.mem_append, List.mem_map] at hp
    rcases hp with ⟨q, _, rfl⟩ | hp
    · exact List.cons_ne_nil k q
    · exact paths_ne_nil rest p hp

mutual
  theorem matchTrie_iff_paths : ∀ (t : Trie) (d : List Str), t.WF →
      (matchTrie t d = true ↔ ∃ p ∈ t.paths, p <+: d)
    | .leaf, d, _ => by simp [Trie.paths]
    | .node cs, d, h => by
      simp only [matchTrie, Trie.paths]
      exact matchLabels_iff_paths cs d h
  theorem matchLabels_iff_paths : ∀ (cs : Children) (d : List Str), cs.WF →
      (matchLabels cs d = true ↔ ∃ p ∈ cs.paths, p <+: d)
    | .nil, d, _ => by simp [matchLabels_nil_children, Children.paths]
    | .cons k t rest, d, h => by
      obtain ⟨_, hk, ht, hrest⟩ := h
      have ihr := matchLabels_iff_paths rest d hrest
      cases d with
      | nil =>
        -- no name is matched by zero labels, and no path is empty
        exact ⟨nofun, fun ⟨p, hp, hpre⟩ => absurd (List.prefix_nil.mp hpre) (paths_ne_nil _ p hp)⟩
      | cons x ds =>
        rw [matchLabels_cons]
        simp only [Children.lookup, Children.paths, List.mem_append, List.mem_map]
        by_cases hkx : k = x
        · subst hkx
          simp only [↓reduceIte]
          rw [matchTrie_iff_paths t ds ht]
          constructor
          · rintro ⟨p, hp, hpre⟩
            exact ⟨k :: p, Or.inl ⟨p, hp, rfl⟩, by simpa using hpre⟩
          · rintro ⟨p, (⟨q, hq, rfl⟩ | hp), hpre⟩
            · exact ⟨q, hq, by simpa using hpre⟩
            · -- a path of `rest` that starts with `k` would let `rest` match `k :: ds`, but `rest` has no child `k`
              exfalso
              have := ihr.mpr ⟨p, hp, hpre⟩
              rw [matchLabels_cons, hk] at this
              simp at this
        · simp only [hkx, ↓reduceIte]
          rw [matchLabels_cons] at ihr
          rw [ihr]
          constructor
          · rintro ⟨p, hp, hpre⟩; exact ⟨p, Or.inr hp, hpre⟩
          · rintro ⟨p, (⟨q, _, rfl⟩ | hp), hpre⟩
            · exfalso
              rw [List.cons_prefix_cons] at hpre
              exact hkx hpre.1
            · exact ⟨p, hp, hpre⟩
end

mutual
  theorem Trie.paths_labels : ∀ (t : Trie), t.WF → ∀ p ∈ t.paths, ∀ l ∈ p, dot ∉ l
    | .leaf, _, p, hp, l, hl => by
      simp only [Trie.paths, List.mem_singleton] at hp
      subst hp; simp at hl
    | .node cs, h, p, hp, l, hl => Children.paths_labels cs h p hp l hl
  theorem Children.paths_labels : ∀ (cs : Children), cs.WF → ∀ p ∈ cs.paths, ∀ l ∈ p, dot ∉ l
    | .nil, _, p, hp => by simp [Children.paths] at hp
    | .cons k t rest, h, p, hp => by
      obtain ⟨hk, _, ht, hrest⟩ := h
      simp only [Children.paths, List.mem_append, List.mem_map] at hp
      rcases hp with ⟨q, hq, rfl⟩ | hp
      · intro l hl
        rcases List.mem_cons.mp hl with rfl | hl
        · exact hk
        · exact Trie.paths_labels t ht q hq l hl
      · exact Children.paths_labels rest hrest p hp
end

theorem labelsRev_pathToStr (p : List Str) (hne : p ≠ []) (hl : ∀ l ∈ p, dot ∉ l) :
    labelsRev (pathToStr p) = p := by
  unfold labelsRev pathToStr
  rw [splitOn_joinWith dot p.reverse (by simpa using hne) (fun l h => hl l (List.mem_reverse.mp h)),
    List.reverse_reverse]

theorem pathToStr_labelsRev (r : Str) : pathToStr (labelsRev r) = r := by
  unfold labelsRev pathToStr
  rw [List.reverse_reverse, joinWith_splitOn]

theorem trieMatch_iff_keys (root : Children) (h : root.WF) (d : Str) :
    trieMatch root d = true ↔ ∃ r ∈ trieKeys root, SuffixOf r d := by
  unfold trieMatch trieKeys
  rw [matchLabels_iff_paths root _ h]
  have key : ∀ p ∈ root.paths, (p <+: labelsRev d ↔ SuffixOf (pathToStr p) d) := by
    intro p hp
    rw [← labelsRev_prefix_iff, labelsRev_pathToStr p (paths_ne_nil root p hp) (Children.paths_labels root h p hp),
      List.isPrefixOf_iff_prefix]
  simp only [List.mem_map]
  constructor
  · rintro ⟨p, hp, hpre⟩; exact ⟨_, ⟨p, hp, rfl⟩, (key p hp).mp hpre⟩
  · rintro ⟨_, ⟨p, hp, rfl⟩, hs⟩; exact ⟨p, hp, (key p hp).mpr hs⟩

theorem Children.lookup_WF (cs : Children) (s : Str) (t : Trie) (hw : cs.WF) (h : cs.lookup s = some t) : t.WF := by
  fun_induction Children.lookup cs s
  case case1 => cases h
  -- the first key is `s`, or the rest is searched
  case case2 => cases h; exact hw.2.2.1
  case case3 ih => exact ih hw.2.2.2 h

theorem Children.set_WF (cs : Children) (s : Str) (t : Trie) (hw : cs.WF) (hs : dot ∉ s) (ht : t.WF) : (cs.set s t).WF := by
  fun_induction Children.set cs s t
  case case1 => exact ⟨hs, rfl, ht, trivial⟩
  -- the first key is `s`: its child is replaced; another key: `s` is set in the rest, which still lacks the first key
  case case2 => exact ⟨hw.1, hw.2.1, ht, hw.2.2.2⟩
  case case3 hk ih =>
    exact ⟨hw.1, by rw [Children.lookup_set, if_neg (Ne.symm hk)]; exact hw.2.1, hw.2.2.1, ih hw.2.2.2 hs ht⟩

theorem insertLabels_WF (r : List Str) (cs : Children) (h : cs.WF) (hl : ∀ l ∈ r, dot ∉ l) : (insertLabels cs r).WF := by
  fun_induction insertLabels cs r
  -- no label left, or a leaf met on the way: nothing changes
  case case1 | case4 => exact h
  case case2 l => exact Children.set_WF _ l .leaf h (hl l (by simp)) trivial
  -- no child `l`: a fresh chain; a node under `l`: the rest goes into it
  case case3 cs l rest _ _ ih => exact Children.set_WF cs l _ h (hl l (by simp)) (ih trivial fun x hx => hl x (by simp [hx]))
  case case5 cs l rest _ cs1 hlk ih =>
    exact Children.set_WF cs l _ h (hl l (by simp)) (ih (Children.lookup_WF cs l _ h hlk) fun x hx => hl x (by simp [hx]))

theorem trieInsert_WF (root : Children) (r : Str) (h : root.WF) : (trieInsert root r).WF := by
  unfold trieInsert labelsRev
  apply insertLabels_WF _ _ h
  intro l hl
  exact mem_splitOn_no_sep dot r l (List.mem_reverse.mp hl)

theorem trieFromList_WF (rs : List Str) : (trieFromList rs).WF :=
  List.foldlRecOn rs trieInsert trivial fun root hw r _ => trieInsert_WF root r hw

theorem Children.paths_set (cs : Children) (s : Str) (t : Trie) (p : List Str) (h : p ∈ (cs.set s t).paths) :
    p ∈ cs.paths ∨ ∃ q ∈ t.paths, p = s :: q := by
  fun_induction Children.set cs s t
  -- no child: `t` is the only one; the first key is `s`: its paths are `t`'s; another key: `s` is set in the rest
  case case1 =>
    simp only [Children.paths, List.append_nil, List.mem_map] at h
    obtain ⟨q, hq, rfl⟩ := h
    exact Or.inr ⟨q, hq, rfl⟩
  case case2 =>
    simp only [Children.paths, List.mem_append, List.mem_map] at h ⊢
    rcases h with ⟨q, hq, rfl⟩ | h
    · exact Or.inr ⟨q, hq, rfl⟩
    · exact Or.inl (Or.inr h)
  case case3 ih =>
    simp only [Children.paths, List.mem_append] at h ⊢
    rcases h with h | h
    · exact Or.inl (Or.inl h)
    · exact (ih h).imp_left Or.inr

theorem Children.paths_of_lookup (cs : Children) (l : Str) (t : Trie) (h : cs.lookup l = some t) (q : List Str)
    (hq : q ∈ t.paths) : (l :: q) ∈ cs.paths := by
  fun_induction Children.lookup cs l
  case case1 => cases h
  case case2 => cases h; exact List.mem_append_left _ (List.mem_map.mpr ⟨q, hq, rfl⟩)
  case case3 ih => exact List.mem_append_right _ (ih h)

theorem paths_insertLabels (r : List Str) (cs : Children) (p : List Str) (h : p ∈ (insertLabels cs r).paths) :
    p ∈ cs.paths ∨ p = r := by
  fun_induction insertLabels cs r generalizing p
  -- the arms of `insertLabels`: no label left, the last label, no child `l`, a leaf under `l`, a node under `l`
  case case1 | case4 => exact Or.inl h
  case case2 cs l =>
    rcases Children.paths_set cs l .leaf p h with h' | ⟨q, hq, rfl⟩
    · exact Or.inl h'
    · rw [List.mem_singleton.mp hq]; exact Or.inr rfl
  case case3 cs l rest _ _ ih =>
    rcases Children.paths_set cs l _ p h with h' | ⟨q, hq, rfl⟩
    · exact Or.inl h'
    · exact (ih q hq).imp nofun (congrArg _)
  case case5 cs l rest _ cs1 hlk ih =>
    rcases Children.paths_set cs l _ p h with h' | ⟨q, hq, rfl⟩
    · exact Or.inl h'
    · exact (ih q hq).imp (Children.paths_of_lookup cs l (.node cs1) hlk q) (congrArg _)

theorem keys_trieInsert (root : Children) (r k : Str) (h : k ∈ trieKeys (trieInsert root r)) :
    k ∈ trieKeys root ∨ k = r := by
  unfold trieKeys trieInsert at *
  rw [List.mem_map] at h
  obtain ⟨p, hp, rfl⟩ := h
  rcases paths_insertLabels _ root p hp with h' | rfl
  · exact Or.inl (List.mem_map.mpr ⟨p, h', rfl⟩)
  · exact Or.inr (pathToStr_labelsRev r)

end SSV.DomainSet
