import SSV.Proofs.Parsers
/-
The relays' re-pack step and the ss2022 TCP client's padding split never panic.
-/
namespace SSV.Parsers.Proofs
open SSV SSV.Go SSV.Outcome SSV.Parsers

theorem socksLen_spec {a : Addr} (h : a.nameFits = true) : Ensures a.socksLen fun n => n ≤ 259 := by
  fun_cases Addr.socksLen a
  -- 4-in-6 or plain IPv6
  case case3 => exact .ok (by split <;> omega)
  -- a name of more than 255 bytes does not fit
  case case4 hd => exact absurd (of_decide_eq_true h) (Nat.not_le_of_gt hd)
  all_goals exact .ok (by omega)

theorem intN_spec (draw : Nat) {n : Int} (h : 0 < n) : Ensures (intN draw n) fun d => 0 ≤ d ∧ d < n := by
  unfold intN
  rw [if_neg (by omega)]
  exact .ok ⟨Int.emod_nonneg _ (by omega), Int.emod_lt_of_pos _ h⟩

theorem goSlice_ok {n : Nat} {i j : Int} (h : 0 ≤ i ∧ i ≤ j ∧ j ≤ (n : Int)) : goSlice n i j = .ok () := by
  unfold goSlice; rw [if_pos h]

theorem intToUint16_ok {i : Int} (h : 0 ≤ i ∧ i < 65536) : intToUint16 i = .ok () := by
  unfold intToUint16; rw [if_pos h]

/-- the padding draw of both ss2022 packers when it is guarded, as the source has it. `maxPaddingLen` is the least of what
the packet size limit leaves (`a`), the room in front of the payload (`b`) and 65535; the last two are what keeps the
packers' slices and the `uint16` in range. -/
theorem pad_spec {guarded : Bool} (hg : guarded = true) (shouldPad : Bool) (draw : Nat) {a b : Int} (h : 0 ≤ min (min a b) 65535) :
    Ensures (if (!guarded || decide (min (min a b) 65535 > 0)) && shouldPad then do
        let d ← intN draw (min (min a b) 65535)
        pure (1 + d)
      else pure 0 : R Int) fun pad => 0 ≤ pad ∧ pad ≤ b ∧ pad ≤ 65535 := by
  subst hg
  generalize hm : min (min a b) 65535 = maxPad at h ⊢
  have hle : maxPad ≤ b ∧ maxPad ≤ 65535 := by omega
  clear hm
  refine .ite (fun hc => ?_) fun _ => .ok (by omega)
  simp only [Bool.not_true, Bool.false_or, Bool.and_eq_true, decide_eq_true_eq] at hc
  exact (intN_spec draw hc.1).bind fun d hd => .ok (by omega)

theorem np_prefixPack (hdr addrLen : Nat) (maxPacketSize : Int) (bufLen ps pl : Nat)
    (hh : addrLen + hdr ≤ ps) (hb : ps + pl ≤ bufLen) : NoPanic (prefixPack hdr addrLen maxPacketSize bufLen ps pl) := by
  unfold prefixPack
  simp (disch := omega) only [goSlice_ok, ok_bind]
  exact noPanic_ite (noPanic_err _) (noPanic_ok _)

theorem np_prefixClientPack (hdr : Nat) (target : Addr) (ht : target.nameFits = true) (maxPacketSize : Int) (bufLen ps pl : Nat)
    (hh : Gen.C06.MaxAddrLen + hdr ≤ ps) (hb : ps + pl ≤ bufLen) :
    NoPanic (prefixClientPack hdr target maxPacketSize bufLen ps pl) := by
  unfold prefixClientPack
  refine (socksLen_spec ht).noPanic_bind fun tal t259 => ?_
  dsimp only [Gen.C06.MaxAddrLen] at hh
  exact np_prefixPack hdr tal maxPacketSize bufLen ps pl (by omega) hb

theorem np_prefixServerPack (hdr : Nat) (src4 : Bool) (maxPacketLen : Int) (bufLen ps pl : Nat)
    (hh : Gen.C06.IPv6AddrLen + hdr ≤ ps) (hb : ps + pl ≤ bufLen) :
    NoPanic (prefixServerPack hdr src4 maxPacketLen bufLen ps pl) := by
  unfold prefixServerPack
  dsimp only [Gen.C06.IPv6AddrLen] at hh
  refine np_prefixPack hdr _ maxPacketLen bufLen ps pl ?_ hb
  split <;> omega

theorem np_dialStreamFinish (tal payloadLen : Nat) (ppl sent : Int) (h1 : 0 ≤ sent) (h2 : sent ≤ ppl) (h3 : tal + 2 + ppl < 65536) :
    Ensures (dialStreamFinish tal payloadLen ppl sent) fun _ => True := by
  unfold dialStreamFinish
  simp (disch := omega) only [intToUint16_ok, ok_bind, pure_eq, ensures_ok]

end SSV.Parsers.Proofs
