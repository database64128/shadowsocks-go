import SSV.Proofs.ClientGroupsRun
/-
C19, whole histories: after a history the selection is the first best over the statement's figures;
a history run in small steps (`roundSmall`, `runSmall`: per round the jobs finish in any order).
-/
namespace SSV.ClientGroups
open SSV.Gen.C19

theorem firstBest_ofFn {n : Nat} (b : Nat → Nat → Bool) (sc : Fin n → Nat) (i : Nat)
    (h : FirstBest b (List.ofFn sc) i) :
    ∃ hi : i < n, (∀ j : Fin n, b (sc j) (sc ⟨i, hi⟩) = false) ∧ (∀ j : Fin n, j.val < i → b (sc ⟨i, hi⟩) (sc j) = true) := by
  obtain ⟨hlt, h1, h2⟩ := h
  have hi : i < n := by simpa using hlt
  refine ⟨hi, ?_, ?_⟩
  · intro j
    have := h1 j.val (by simp)
    simpa [List.getElem_ofFn] using this
  · intro j hj
    have := h2 j.val hj
    simpa [List.getElem_ofFn] using this

theorem strictOrd_cmpOf : ∀ p : Policy, StrictOrd (cmpTest (cmpOf p))
  | .avail => by rw [cmpOf, avail_cmp]; exact strictOrd_gt
  | .lat => by rw [cmpOf, lat_cmp]; exact strictOrd_lt
  | .minmax => by rw [cmpOf, minmax_cmp]; exact strictOrd_lt

theorem sentinel_not_beaten (p : Policy) (t : Nat) (col : List Outcome)
    (h : p ≠ .avail → ∀ o ∈ col, ∀ d, o = some d → d ≤ t) :
    cmpTest (cmpOf p) (valOf (initBestOf p) t) (specScore p t col) = false := by
  cases p with
  | avail => simp [cmpOf, initBestOf, avail_cmp, avail_init, valOf, cmpTest]
  | lat => simpa [cmpOf, initBestOf, lat_cmp, lat_init, valOf, cmpTest] using specScore_le .lat (by decide) t col (h (by decide))
  | minmax => simpa [cmpOf, initBestOf, minmax_cmp, minmax_init, valOf, cmpTest] using specScore_le .minmax (by decide) t col (h (by decide))

/-- all three policies at once, in the policy's own comparison; the property theorems read `≤` / `<` off it by unfolding `cmpTest` -/
theorem run_first_best (p : Policy) (t : Nat) {n : Nat} (hn : 0 < n) (hist : History n) (hne : hist ≠ [])
    (hlat : p ≠ .avail → ∀ f ∈ hist, ∀ (i : Fin n) (d : Nat), f i = some d → d ≤ t) :
    ∃ h : (run p t (init p n) (hist.map List.ofFn)).sel < n,
      (∀ j : Fin n, cmpTest (cmpOf p) (specScore p t (column hist j))
          (specScore p t (column hist ⟨(run p t (init p n) (hist.map List.ofFn)).sel, h⟩)) = false) ∧
      (∀ j : Fin n, j.val < (run p t (init p n) (hist.map List.ofFn)).sel →
          cmpTest (cmpOf p) (specScore p t (column hist ⟨(run p t (init p n) (hist.map List.ofFn)).sel, h⟩))
            (specScore p t (column hist j)) = true) :=
  by
  refine firstBest_ofFn (cmpTest (cmpOf p)) (fun i => specScore p t (column hist i)) _ ?_
  rw [(run_spec p t hist).sel, if_neg hne]
  refine scan_firstBest _ (strictOrd_cmpOf p) _ _ (by rw [List.length_ofFn]; exact hn) fun x hx => ?_
  obtain ⟨i, rfl⟩ := List.mem_ofFn.mp hx
  refine sentinel_not_beaten p t _ fun hp o ho d hd => ?_
  obtain ⟨f, hf, rfl⟩ := List.mem_map.mp ho
  exact hlat hp f hf i d hd

/-- one round in small steps: `ord` is the order in which the clients' jobs finish -/
def roundSmall (p : Policy) (t : Nat) {n : Nat} (st : State) (r : (Fin n → Outcome) × List (Fin n)) : State :=
  finish p t (runJobs p t st (r.2.map (fun i => (i.val, r.1 i))))

def runSmall (p : Policy) (t : Nat) {n : Nat} (st : State) (hist : List ((Fin n → Outcome) × List (Fin n))) : State :=
  hist.foldl (roundSmall p t) st

theorem runSmall_eq_run (p : Policy) (t : Nat) {n : Nat} :
    ∀ (hist : List ((Fin n → Outcome) × List (Fin n))) (st : State), st.rings.length = n →
      (∀ r ∈ hist, ∀ i : Fin n, i ∈ r.2) →
      runSmall p t st hist = run p t st (hist.map (fun r => List.ofFn r.1))
  | [], _, _, _ => rfl
  | r :: rest, st, hlen, hall =>
    (congrArg (runSmall p t · rest) (jobs_then_finish p t r.1 r.2 (hall r List.mem_cons_self) st hlen)).trans
      (runSmall_eq_run p t rest _ (by simp [round, finish, hlen]) fun q hq => hall q (List.mem_cons_of_mem _ hq))

end SSV.ClientGroups
