import SSV.Model.Cred
/-
C08: the consistency invariant `Inv` of the credential manager: add / update / delete keep it, the validation loop
of LoadFromFile establishes it, and under it `handshake` and `handleStream` through a live map answer from the cache.
-/
namespace SSV.Cred
open SSV.Gen.C08

section amap
variable {α β : Type} [DecidableEq α]

theorem find_erase (m : List (α × β)) (a x : α) :
    find (erase m a) x = if a = x then none else find m x := by
  induction m with
  | nil => simp [erase, find]
  | cons p m ih =>
    obtain ⟨a', b'⟩ := p
    by_cases h : a' = a
    · subst h
      simp only [erase, if_true, ih, find]
      split <;> rfl
    · simp only [erase, h, if_false, find, ih]
      by_cases hx : a' = x
      · have : ¬ a = x := fun e => h (hx.trans e.symm)
        simp [hx, this]
      · simp [hx]

theorem find_insert (m : List (α × β)) (a : α) (b : β) (x : α) :
    find (insert m a b) x = if a = x then some b else find m x := by
  simp only [insert, find, find_erase]
  split <;> rfl

theorem find_insert_congr {m m' : List (α × β)} (h : ∀ x, find m x = find m' x) (a : α) (b : β) (x : α) :
    find (insert m a b) x = find (insert m' a b) x := by
  simp only [find_insert, h]

theorem find_erase_congr {m m' : List (α × β)} (h : ∀ x, find m x = find m' x) (a x : α) :
    find (erase m a) x = find (erase m' a) x := by
  simp only [find_erase, h]

theorem insert_erase (m : List (α × β)) (a : α) (b : β) : insert (erase m a) a b = insert m a b := by
  have h : erase (erase m a) a = erase m a := by
    induction m with
    | nil => rfl
    | cons p m ih =>
      simp only [erase]
      split
      · exact ih
      · next e => simp only [erase, if_neg e, ih]
  simp only [insert, h]

theorem find_nil (x : α) : find ([] : List (α × β)) x = none := rfl

theorem find_eq_none (m : List (α × β)) (a : α) : find m a = none ↔ a ∉ m.map Prod.fst := by
  induction m with
  | nil => simp [find]
  | cons p m ih =>
    rw [List.map_cons, List.mem_cons, not_or, ← ih, find]
    split
    · next e => simp [e]
    · next e => simp [Ne.symm e]

theorem erase_sublist (m : List (α × β)) (a : α) : (erase m a).Sublist m := by
  induction m with
  | nil => exact .slnil
  | cons p m ih =>
    simp only [erase]
    split
    · exact ih.cons _
    · exact ih.cons_cons _

theorem nodup_erase (m : List (α × β)) (a : α) (h : (m.map Prod.fst).Nodup) :
    ((erase m a).map Prod.fst).Nodup :=
  h.sublist ((erase_sublist m a).map _)

theorem nodup_insert (m : List (α × β)) (a : α) (b : β) (h : (m.map Prod.fst).Nodup) :
    ((insert m a b).map Prod.fst).Nodup :=
  List.nodup_cons.2 ⟨(find_eq_none _ a).1 (by simp [find_erase]), nodup_erase m a h⟩

theorem find_perm {l l' : List (α × β)} (h : l.Perm l') (hn : (l.map Prod.fst).Nodup) (x : α) :
    find l x = find l' x := by
  induction h with
  | nil => rfl
  | cons p _ ih =>
    simp only [List.map_cons, List.nodup_cons] at hn
    simp only [find, ih hn.2]
  | swap p q l =>
    have hne : q.1 ≠ p.1 := fun e => (List.nodup_cons.1 hn).1 (List.mem_cons.2 (.inl e))
    simp only [find]
    by_cases e : q.1 = x
    · rw [if_pos e, if_pos e, if_neg fun e' => hne (e.trans e'.symm)]
    · rw [if_neg e, if_neg e]
  | trans h1 _ ih1 ih2 => exact (ih1 hn).trans (ih2 ((h1.map _).nodup_iff.1 hn))

end amap

theorem nodup_foldl_insert (l : List Entry) (acc : List Entry) (h : (acc.map Prod.fst).Nodup) :
    ((l.foldl (fun m p => insert m p.1 p.2) acc).map Prod.fst).Nodup := by
  induction l generalizing acc with
  | nil => exact h
  | cons p l ih => exact ih _ (nodup_insert acc p.1 p.2 h)

theorem decodeDoc_nodup {d : Doc} {l : List Entry} (h : decodeDoc d = some l) : (l.map Prod.fst).Nodup := by
  cases d with
  | entries es =>
    cases h
    exact nodup_foldl_insert es [] .nil
  | _ => cases h

theorem find_foldl_insert (l : List Entry) (hl : (l.map Prod.fst).Nodup) (acc : List Entry) (n : Name) :
    find (l.foldl (fun m p => insert m p.1 p.2) acc) n = (find l n).or (find acc n) := by
  induction l generalizing acc with
  | nil => rfl
  | cons p r ih =>
    simp only [List.map_cons, List.nodup_cons] at hl
    simp only [List.foldl_cons, ih hl.2, find, find_insert]
    split
    · next h => subst h; simp [(find_eq_none r p.1).2 hl.1]
    · rfl

theorem insSorted_perm (p : Entry) (l : List Entry) : (insSorted p l).Perm (p :: l) := by
  induction l with
  | nil => exact .refl _
  | cons q r ih =>
    simp only [insSorted]
    split
    · exact .refl _
    · exact (ih.cons q).trans (.swap p q r)

theorem canon_perm (l : List Entry) : (canon l).Perm l := by
  induction l with
  | nil => exact .refl _
  | cons p r ih => exact (insSorted_perm p _).trans (ih.cons p)

def Represents (d : Doc) (cache : List Entry) : Prop :=
  ∃ l, decodeDoc d = some l ∧ ∀ n, find l n = find cache n

theorem render_represents (c : List Entry) (hc : (c.map Prod.fst).Nodup) : Represents (render c) c := by
  have hn : ((canon c).map Prod.fst).Nodup := ((canon_perm c).map _).nodup_iff.2 hc
  refine ⟨_, rfl, fun n => ?_⟩
  rw [find_foldl_insert _ hn, find_perm (canon_perm c) hn]
  cases find c n <;> rfl

variable (H : Key → Hash)

def Indexed (lk : ULM) (c : List Entry) : Prop :=
  (∀ h n k, find lk h = some (n, k) → find c n = some k ∧ H k = h) ∧
  (∀ n k, find c n = some k → find lk (H k) = some (n, k))

/-- `H` need not be injective: an old key colliding with `k` would sit in the lookup map under `H k`. -/
theorem index_insert {lk : ULM} {c : List Entry} (hx : Indexed H lk c) (n : Name) (k : Key)
    (h1 : find c n = none) (h2 : find lk (H k) = none) :
    Indexed H (insert lk (H k) (n, k)) (insert c n k) := by
  obtain ⟨hs, hc⟩ := hx
  refine ⟨fun h n' k' hf => ?_, fun n' k' hf => ?_⟩
  · rw [find_insert] at hf ⊢
    split at hf
    · next e =>
      cases hf
      exact ⟨if_pos rfl, e⟩
    · obtain ⟨hf', hh⟩ := hs h n' k' hf
      have hne : n ≠ n' := fun e => by rw [e, hf'] at h1; cases h1
      exact ⟨(if_neg hne).trans hf', hh⟩
  · rw [find_insert] at hf ⊢
    split at hf
    · next e =>
      cases hf
      subst e
      exact if_pos rfl
    · have hl := hc n' k' hf
      have hne : H k ≠ H k' := fun e => by rw [e, hl] at h2; cases h2
      exact (if_neg hne).trans hl

/-- Again without injectivity: a key colliding with `k0` would make its owner the entry under `H k0`, which is `n`. -/
theorem index_erase {lk : ULM} {c : List Entry} (hx : Indexed H lk c) (n : Name) (k0 : Key)
    (h1 : find c n = some k0) : Indexed H (erase lk (H k0)) (erase c n) := by
  obtain ⟨hs, hc⟩ := hx
  refine ⟨fun h n' k' hf => ?_, fun n' k' hf => ?_⟩
  · rw [find_erase] at hf ⊢
    split at hf
    · cases hf
    · next e =>
      obtain ⟨hf', hh⟩ := hs h n' k' hf
      have hne : n ≠ n' := fun e' => by
        rw [e', hf'] at h1
        cases h1
        exact e hh
      exact ⟨(if_neg hne).trans hf', hh⟩
  · rw [find_erase] at hf ⊢
    split at hf
    · cases hf
    · next e =>
      have hl := hc n' k' hf
      have hne : H k0 ≠ H k' := fun e' => by
        have hn := hc n k0 h1
        rw [e', hl] at hn
        cases hn
        exact e rfl
      exact (if_neg hne).trans hl

/-- the three in-memory views agree: the lookup map is the index of the cache (`sound` and `complete` together
are `Indexed H st.lookup st.cache`), and every live map equals the lookup map; the maps exist; no unsynchronised
access / nil-map panic happened. -/
structure Inv (H : Key → Hash) (st : St) : Prop where
  loaded : st.loaded = true
  noFault : st.fault = false
  nodup : (st.cache.map Prod.fst).Nodup
  sound : ∀ h n k, find st.lookup h = some (n, k) → find st.cache n = some k ∧ H k = h
  complete : ∀ n k, find st.cache n = some k → find st.lookup (H k) = some (n, k)
  tcp_eq : ∀ m, st.tcp = some m → ∀ h, find m h = find st.lookup h
  udp_eq : ∀ m, st.udp = some m → ∀ h, find m h = find st.lookup h

variable {H} in
theorem Inv.indexed {st : St} (hi : Inv H st) : Indexed H st.lookup st.cache := ⟨hi.sound, hi.complete⟩

variable {H} in
theorem Inv.frame {st : St} (hi : Inv H st) (f d : Doc) (p b : Bool) :
    Inv H { st with file := f, cachedContent := d, pending := p, saverBusy := b } :=
  ⟨hi.loaded, hi.noFault, hi.nodup, hi.sound, hi.complete, hi.tcp_eq, hi.udp_eq⟩

variable {H} in
theorem Inv.mapViews {st : St} (hi : Inv H st) {c : List Entry} (f : ULM → ULM) (hn : (c.map Prod.fst).Nodup)
    (hx : Indexed H (f st.lookup) c)
    (hf : ∀ m, (∀ h, find m h = find st.lookup h) → ∀ h, find (f m) h = find (f st.lookup) h) :
    Inv H { st with cache := c, lookup := f st.lookup, tcp := st.tcp.map f, udp := st.udp.map f } :=
  have hl : ∀ o : Option ULM, (∀ m, o = some m → ∀ h, find m h = find st.lookup h) →
      ∀ m, o.map f = some m → ∀ h, find m h = find (f st.lookup) h :=
    fun o ho m hm => by obtain ⟨m0, h0, rfl⟩ := Option.map_eq_some_iff.1 hm; exact hf m0 (ho m0 h0)
  ⟨hi.loaded, hi.noFault, hn, hx.1, hx.2, hl _ hi.tcp_eq, hl _ hi.udp_eq⟩

/-- what a successful add / delete / update does to the cache, the lookup map and the live maps -/
def addSt (st : St) (n : Name) (k : Key) : St :=
  { st with cache := insert st.cache n k, lookup := insert st.lookup (H k) (n, k),
            tcp := st.tcp.map (fun m => insert m (H k) (n, k)),
            udp := st.udp.map (fun m => insert m (H k) (n, k)) }

def delSt (st : St) (n : Name) (k0 : Key) : St :=
  { st with cache := erase st.cache n, lookup := erase st.lookup (H k0),
            tcp := st.tcp.map (fun m => erase m (H k0)), udp := st.udp.map (fun m => erase m (H k0)) }

def updSt (st : St) (n : Name) (k k0 : Key) : St :=
  { st with cache := insert st.cache n k, lookup := insert (erase st.lookup (H k0)) (H k) (n, k),
            tcp := st.tcp.map (fun m => insert (erase m (H k0)) (H k) (n, k)),
            udp := st.udp.map (fun m => insert (erase m (H k0)) (H k) (n, k)) }

theorem inv_add {st : St} (hi : Inv H st) (n : Name) (k : Key)
    (h1 : find st.cache n = none) (h2 : find st.lookup (H k) = none) : Inv H (addSt H st n k) :=
  hi.mapViews (fun m => insert m (H k) (n, k)) (nodup_insert _ _ _ hi.nodup) (index_insert H hi.indexed n k h1 h2)
    fun _ hm => find_insert_congr hm (H k) (n, k)

theorem inv_delete {st : St} (hi : Inv H st) (n : Name) (k0 : Key) (h1 : find st.cache n = some k0) :
    Inv H (delSt H st n k0) :=
  hi.mapViews (fun m => erase m (H k0)) (nodup_erase _ _ hi.nodup) (index_erase H hi.indexed n k0 h1)
    fun _ hm => find_erase_congr hm (H k0)

theorem inv_update {st : St} (hi : Inv H st) (n : Name) (k k0 : Key)
    (h1 : find st.cache n = some k0) (h2 : find st.lookup (H k) = none) : Inv H (updSt H st n k k0) := by
  have h2' : find (erase st.lookup (H k0)) (H k) = none := by
    rw [find_erase]
    split
    · rfl
    · exact h2
  -- an update is a delete followed by an add
  have hx := index_insert H (index_erase H hi.indexed n k0 h1) n k (by rw [find_erase, if_pos rfl]) h2'
  rw [insert_erase] at hx
  exact hi.mapViews (fun m => insert (erase m (H k0)) (H k) (n, k)) (nodup_insert _ _ _ hi.nodup) hx
    fun _ hm => find_insert_congr (find_erase_congr hm (H k0)) (H k) (n, k)

/-- the state a successful LoadFromFile installs -/
def installed (st : St) (lk : ULM) (c : List Entry) : St :=
  { st with cachedContent := st.file, lookup := lk, cache := c, loaded := true,
            tcp := st.tcp.map (fun _ => lk), udp := st.udp.map (fun _ => lk) }

theorem inv_load {st : St} (hf : st.fault = false) (lk : ULM) (c : List Entry)
    (hnd : (c.map Prod.fst).Nodup) (hx : Indexed H lk c) : Inv H (installed st lk c) :=
  have hl : ∀ o : Option ULM, ∀ m, o.map (fun _ => lk) = some m → ∀ h, find m h = find lk h :=
    fun o m hm => by obtain ⟨_, _, rfl⟩ := Option.map_eq_some_iff.1 hm; exact fun _ => rfl
  ⟨rfl, hf, hnd, hx.1, hx.2, hl _, hl _⟩

theorem build_spec {p : Nat} {l : List Entry} {lk : ULM} {c : List Entry} (hb : build H p l = some (lk, c)) :
    (c.map Prod.fst).Nodup ∧ (∀ n, find c n = find l n) ∧ ((l.map Prod.fst).Nodup → Indexed H lk c) := by
  fun_induction build H p l generalizing lk c with
  | case1 => cases hb; exact ⟨.nil, fun _ => rfl, fun _ => ⟨fun _ _ _ h => (nomatch h), fun _ _ h => (nomatch h)⟩⟩
  | case5 n0 k0 rest lk0 c0 hr _ hd ih =>
    -- the arm that accepts an entry; `case1` is the empty map, the other three arms fail
    cases hb
    obtain ⟨hc, hf, hx⟩ := ih hr
    refine ⟨nodup_insert _ _ _ hc, fun x => by simp only [find_insert, find, hf x], fun hn => ?_⟩
    simp only [List.map_cons, List.nodup_cons] at hn
    -- `n0` is new to the cache because it is new to the decoded map
    exact index_insert H (hx hn.2) n0 k0 ((hf n0).trans ((find_eq_none rest n0).2 hn.1))
      (Option.not_isSome_iff_eq_none.1 hd)
  | _ => cases hb

theorem live_eq {st : St} (hi : Inv H st) {m : ULM} (hm : st.tcp = some m ∨ st.udp = some m) (h : Hash) :
    find m h = find st.lookup h :=
  hm.elim (hi.tcp_eq m · h) (hi.udp_eq m · h)

theorem handshake_eq_some (m : ULM) (k : Key) (n : Name) :
    handshake H m k = some n ↔ find m (H k) = some (n, k) := by
  unfold handshake
  split
  · next h => simp [h]
  · next n' k' h =>
    rw [h]
    by_cases e : k' = k <;> simp [e]

theorem handshake_iff {st : St} (hi : Inv H st) {m : ULM} (hm : st.tcp = some m ∨ st.udp = some m)
    (k : Key) (n : Name) : handshake H m k = some n ↔ find st.cache n = some k := by
  rw [handshake_eq_some, live_eq H hi hm]
  exact ⟨fun h => (hi.sound _ _ _ h).1, hi.complete n k⟩

theorem handshake_none {st : St} (hi : Inv H st) {m : ULM} (hm : st.tcp = some m ∨ st.udp = some m)
    (k : Key) (h : ∀ n, find st.cache n ≠ some k) : handshake H m k = none :=
  Option.eq_none_iff_forall_ne_some.2 fun n hn => h n ((handshake_iff H hi hm k n).1 hn)

theorem owner_unique {st : St} (hi : Inv H st) (n n' : Name) (k : Key)
    (h : find st.cache n = some k) (h' : find st.cache n' = some k) : n = n' := by
  have a := hi.complete n k h
  rw [hi.complete n' k h'] at a
  cases a
  rfl

/-- the regenerated `fallbackFreshRequest` is evaluated here, once -/
theorem handleStream_eq (fb : Bool) (m : ULM) (h : Hash) (k : Key) :
    handleStream H fb m h k =
      match find m h with
      | some (n, k') => if k' = k ∧ H k = h then .request n else if fb then .fallback "" else .refused
      | none => if fb then .fallback "" else .refused := by
  unfold handleStream
  rcases find m h with _ | ⟨n, k'⟩ <;> rfl

theorem handleStream_request (fb : Bool) (m : ULM) (h : Hash) (k : Key) (n : Name) :
    handleStream H fb m h k = .request n ↔ find m h = some (n, k) ∧ H k = h := by
  rw [handleStream_eq]
  split
  · next n' k' hf =>
    rw [hf]
    by_cases e : k' = k ∧ H k = h
    · simp [e]
    · rw [if_neg e]
      refine ⟨fun hr => (by cases fb <;> cases hr), fun ⟨hq, hh⟩ => ?_⟩
      cases hq
      exact absurd ⟨rfl, hh⟩ e
  · next hf => cases fb <;> simp [hf]

theorem handleStream_fallback {fb : Bool} {m : ULM} {h : Hash} {k : Key} {u : Name}
    (hr : handleStream H fb m h k = .fallback u) : u = "" := by
  rw [handleStream_eq] at hr
  split at hr
  · split at hr
    · cases hr
    · split at hr <;> cases hr <;> rfl
  · split at hr <;> cases hr <;> rfl

end SSV.Cred
