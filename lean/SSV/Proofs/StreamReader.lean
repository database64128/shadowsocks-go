import SSV.Proofs.StreamCodec
/-
The reader invariant of layer 1: a reader is "in sync" with a list of chunks still on the wire;
every reader call (Read with any buffer length, WriteTo, tunnel copy) keeps it in sync and hands
over the next bytes of the stream, each exactly once.
-/
namespace SSV.Stream
open SSV.Gen.C01

/-- the transport still holds exactly the encoding of `cs` under the reader's key and nonce -/
structure Sync (C : Crypto) (r : Reader) (cs : List Bytes) : Prop where
  wire : r.wire = encodeChunks C r.key r.nonce cs
  valid : ValidChunks cs

/-- bytes the application has not seen yet -/
def pending (r : Reader) (cs : List Bytes) : Bytes := r.left ++ cs.flatten

/-- one unit of fuel per chunk on the wire is enough for the copy loops -/
theorem Sync.fuel {C : Crypto} (hC : AeadOK C) {r : Reader} {cs : List Bytes} (hs : Sync C r cs) :
    cs.length < r.wire.length + 1 := by
  rw [hs.wire]
  exact Nat.lt_succ_of_le (encodeChunks_length_ge hC r.key r.nonce cs)

theorem Sync.readChunk_eof {C : Crypto} {r : Reader} (hs : Sync C r []) :
    readChunk C r.key r.nonce r.wire = ⟨.error .eof, r.nonce, []⟩ := by
  rw [hs.wire, encodeChunks, readChunk_nil]

theorem Sync.readChunk_ok {C : Crypto} (hC : AeadOK C) {r : Reader} {p : Bytes} {ps : List Bytes}
    (hs : Sync C r (p :: ps)) :
    readChunk C r.key r.nonce r.wire = ⟨.ok p, r.nonce + 2, encodeChunks C r.key (r.nonce + 2) ps⟩ := by
  have hp := hs.valid p List.mem_cons_self
  rw [hs.wire, encodeChunks, readChunk_sealChunk hC _ _ _ _ hp.1 hp.2]

theorem Sync.tail {C : Crypto} {r : Reader} {p : Bytes} {ps : List Bytes} (hs : Sync C r (p :: ps)) :
    Sync C { r with nonce := r.nonce + 2, wire := encodeChunks C r.key (r.nonce + 2) ps } ps :=
  ⟨rfl, hs.valid.tail⟩

theorem Sync.of_left {C : Crypto} {r : Reader} {cs : List Bytes} (hs : Sync C r cs) (l : Bytes) :
    Sync C { r with left := l } cs :=
  ⟨hs.wire, hs.valid⟩

theorem copyLoop_sync {C : Crypto} (hC : AeadOK C) (cs : List Bytes) :
    ∀ (fuel : Nat) (r : Reader) (acc : List Bytes), Sync C r cs → cs.length < fuel →
      copyLoop C fuel r acc =
        (.copied (acc.reverse ++ cs) none, { r with nonce := r.nonce + 2 * cs.length, wire := [] }) := by
  induction cs with
  | nil =>
    intro fuel r acc hs hf
    cases fuel with
    | zero => cases hf
    | succ f => simp [copyLoop, hs.readChunk_eof]
  | cons p ps ih =>
    intro fuel r acc hs hf
    cases fuel with
    | zero => cases hf
    | succ f =>
      simp only [copyLoop, hs.readChunk_ok hC]
      rw [ih f _ (p :: acc) hs.tail (by simpa using hf)]
      simp only [List.reverse_cons, List.append_assoc, List.singleton_append, List.length_cons]
      congr 2
      omega

theorem Reader.writeTo_eq (C : Crypto) (r : Reader) :
    r.writeTo C =
      copyLoop C (r.wire.length + 1) { r with left := [] } (if r.left.length = 0 then [] else [r.left]) := by
  by_cases hl : r.left.length = 0
  · obtain ⟨k, n, l, w⟩ := r
    obtain rfl : l = [] := List.length_eq_zero_iff.mp hl
    simp [Reader.writeTo, writeTo_flushes]
  · simp [Reader.writeTo, writeTo_flushes, hl]

theorem Reader.tunnel_eq (C : Crypto) (r : Reader) : r.tunnel C = r.writeTo C := by
  simp [Reader.tunnel, Reader.writeTo, writeTo_flushes, tunnel_flushes]

theorem Sync.writeTo_eq {C : Crypto} {r : Reader} {cs : List Bytes} (hs : Sync C r cs) (hC : AeadOK C) :
    r.writeTo C = (.copied (if r.left.length = 0 then cs else r.left :: cs) none,
      { r with left := [], nonce := r.nonce + 2 * cs.length, wire := [] }) := by
  rw [Reader.writeTo_eq, copyLoop_sync hC cs _ { r with left := [] } _ (hs.of_left []) (hs.fuel hC)]
  split <;> rfl

theorem copyLoop_error {C : Crypto} {r : Reader} {e : Err} (h : (readChunk C r.key r.nonce r.wire).res = .error e)
    (fuel : Nat) (acc : List Bytes) :
    copyLoop C (fuel + 1) r acc = (.copied acc.reverse (if e = .eof then none else some e),
      { r with nonce := (readChunk C r.key r.nonce r.wire).nonce, wire := (readChunk C r.key r.nonce r.wire).wire }) := by
  rw [copyLoop]
  simp only [h]
  split <;> simp_all

theorem Reader.read_buffered (C : Crypto) {r : Reader} (hl : r.left ≠ []) (n : Nat) :
    r.step C (.read n) = (.data (r.left.take n), { r with left := r.left.drop n }) := by
  simp only [Reader.step, Reader.read, List.length_eq_zero_iff, hl, ↓reduceIte]

/-- a buffer of `streamReadMinBufferSize` takes any chunk whole, so both branches of `Read` hand over
`p.take n` and keep `p.drop n` -/
theorem Reader.read_chunk {C : Crypto} {r : Reader} {p w' : Bytes} {n' : Nat} (hl : r.left = [])
    (hc : readChunk C r.key r.nonce r.wire = ⟨.ok p, n', w'⟩) (hp : p.length ≤ streamMaxPayloadSize) (n : Nat) :
    r.step C (.read n) = (.data (p.take n), ⟨r.key, n', p.drop n, w'⟩) := by
  have hl0 : r.left.length = 0 := congrArg List.length hl
  simp only [Reader.step, Reader.read, hl0, ↓reduceIte, hc]
  split
  · have : streamMaxPayloadSize ≤ streamReadMinBufferSize := by decide
    rw [List.take_of_length_le (by omega), List.drop_of_length_le (by omega), hl]
  · rfl

theorem Reader.read_error {C : Crypto} {r : Reader} {e : Err} {n' : Nat} {w' : Bytes} (hl : r.left = [])
    (hc : readChunk C r.key r.nonce r.wire = ⟨.error e, n', w'⟩) (n : Nat) :
    r.step C (.read n) = (.fail e, { r with nonce := n', wire := w' }) := by
  have hl0 : r.left.length = 0 := congrArg List.length hl
  simp only [Reader.step, Reader.read, hl0, ↓reduceIte, hc]

theorem Reader.step_read_error {C : Crypto} {r : Reader} {e : Err} {n' : Nat} {w' : Bytes} (hl : r.left = [])
    (hc : readChunk C r.key r.nonce r.wire = ⟨.error e, n', w'⟩) (op : ROp) :
    r.step C op = (if e = .eof then (match op with | .read _ => .fail .eof | _ => .copied [] none) else failedOut op e,
      { r with nonce := n', wire := w' }) := by
  have hl0 : r.left.length = 0 := congrArg List.length hl
  have hcopy : r.writeTo C = (if e = .eof then .copied [] none else .copied [] (some e), { r with nonce := n', wire := w' }) := by
    rw [Reader.writeTo_eq, if_pos hl0, copyLoop_error (by rw [hc]), hc]
    split <;> simp [hl]
  cases op with
  | read n =>
    rw [Reader.read_error hl hc]
    split
    next h => rw [h]
    next => rfl
  | writeTo => rw [Reader.step, hcopy]; split <;> rfl
  | tunnel => rw [Reader.step, Reader.tunnel_eq, hcopy]; split <;> rfl

structure StepOK (C : Crypto) (r : Reader) (cs : List Bytes) (op : ROp) (cs' : List Bytes) : Prop where
  sync : Sync C (r.step C op).2 cs'
  /-- no error other than end of stream -/
  noErr : (r.step C op).1.err = none ∨ (r.step C op).1.err = some .eof
  /-- the call hands over a prefix of the pending bytes and keeps the rest pending -/
  split : pending r cs = (r.step C op).1.bytes ++ pending (r.step C op).2 cs'
  /-- end of stream is only reported when nothing is pending any more -/
  atEnd : (r.step C op).1.sawEnd = true → pending (r.step C op).2 cs' = []
  /-- a `Read` reporting end of stream delivers nothing with it -/
  eofEmpty : (r.step C op).1.err = some .eof → (r.step C op).1.bytes = []
  /-- a copy call always runs to the end of the stream -/
  copyEnds : op ≠ .read 0 → (∀ n, op ≠ .read n) → (r.step C op).1.sawEnd = true
  /-- a `Read` into a non-empty buffer makes progress while bytes are pending -/
  progress : ∀ n, op = .read n → 0 < n → pending r cs ≠ [] → (r.step C op).1.bytes ≠ []
  /-- and reports end of stream when nothing is pending -/
  readEnd : ∀ n, op = .read n → pending r cs = [] → (r.step C op).1 = .fail .eof
  /-- `nonce_lockstep`: the reader's counter advances by two per consumed chunk, like the writer's -/
  nonce : (r.step C op).2.nonce + 2 * cs'.length = r.nonce + 2 * cs.length
  key : (r.step C op).2.key = r.key

theorem hardErr_none_iff (o : ROut) : o.hardErr = none ↔ (o.err = none ∨ o.err = some .eof) := by
  unfold ROut.hardErr
  split <;> simp_all

theorem Reader.run_cons (C : Crypto) (r : Reader) (op : ROp) (ops : List ROp) :
    r.run C (op :: ops) =
      (r.step C op).1 :: (if (r.step C op).1.hardErr = none then (r.step C op).2.run C ops else []) := by
  rw [Reader.run, ROut.hardErr]
  dsimp only
  split <;> simp_all

theorem StepOK.drained {C : Crypto} {r : Reader} {cs cs' : List Bytes} {op : ROp} (h : StepOK C r cs op cs')
    (hend : (r.step C op).1.sawEnd = true) :
    cs' = [] ∧ (r.step C op).2.left = [] ∧ (r.step C op).2.wire = [] ∧
      (r.step C op).2.nonce = r.nonce + 2 * cs.length := by
  have hp := List.append_eq_nil_iff.mp (h.atEnd hend)
  obtain rfl := flatten_nil_of_valid h.sync.valid hp.2
  exact ⟨rfl, hp.1, by simpa [encodeChunks] using h.sync.wire, by simpa using h.nonce⟩

theorem StepOK.of_data {C : Crypto} {r r' : Reader} {cs cs' : List Bytes} {n : Nat} {x : Bytes}
    (e : r.step C (.read n) = (.data (x.take n), r')) (hx : x ≠ [])
    (hp : pending r cs = x ++ cs'.flatten) (hl : r'.left = x.drop n) (hs : Sync C r' cs')
    (hn : r'.nonce + 2 * cs'.length = r.nonce + 2 * cs.length) (hk : r'.key = r.key) :
    StepOK C r cs (.read n) cs' := by
  constructor <;> rewrite [e]
  case sync => exact hs
  case noErr => exact Or.inl rfl
  case split => rw [hp, pending, hl, ROut.bytes, ← List.append_assoc, List.take_append_drop]
  case atEnd => intro h; cases h
  case eofEmpty => intro h; cases h
  case copyEnds => intro _ h; exact absurd rfl (h n)
  case progress =>
    intro m hm hpos _
    cases hm
    simp only [ROut.bytes, ne_eq, List.take_eq_nil_iff, not_or]
    exact ⟨by omega, hx⟩
  case readEnd => intro _ _ hpd; rw [hp] at hpd; exact absurd (List.append_eq_nil_iff.mp hpd).1 hx
  case nonce => exact hn
  case key => exact hk

theorem read_ok {C : Crypto} (hC : AeadOK C) (r : Reader) (cs : List Bytes) (hs : Sync C r cs) (n : Nat) :
    ∃ cs', StepOK C r cs (.read n) cs' := by
  by_cases hl' : r.left = []
  · cases cs with
    | nil =>
      have e := Reader.read_error hl' hs.readChunk_eof n
      refine ⟨[], ?_⟩
      constructor <;> rewrite [e]
      case sync => exact ⟨rfl, ValidChunks.nil⟩
      case noErr => exact Or.inr rfl
      case split => simp [pending, hl', ROut.bytes]
      case atEnd => simp [pending, hl']
      case eofEmpty => intro _; rfl
      case copyEnds => intro _ h; exact absurd rfl (h n)
      case progress => intro _ _ _ hp; simp [pending, hl'] at hp
      case readEnd => intro _ _ _; rfl
      case nonce => rfl
      case key => rfl
    | cons p ps =>
      have hp := hs.valid p List.mem_cons_self
      exact ⟨ps, .of_data (Reader.read_chunk hl' (hs.readChunk_ok hC) hp.2 n) (fun h => hp.1 (by rw [h]; rfl))
        (by simp [pending, hl']) rfl (hs.tail.of_left _) (by simp only [List.length_cons]; omega) rfl⟩
  · exact ⟨cs, .of_data (Reader.read_buffered C hl' n) hl' rfl rfl (hs.of_left _) rfl rfl⟩

theorem copy_ok {C : Crypto} (hC : AeadOK C) (r : Reader) (cs : List Bytes) (hs : Sync C r cs) (op : ROp)
    (hop : op = .writeTo ∨ op = .tunnel) : StepOK C r cs op [] := by
  have e : r.step C op = (.copied (if r.left.length = 0 then cs else r.left :: cs) none,
      { r with left := [], nonce := r.nonce + 2 * cs.length, wire := [] }) := by
    rcases hop with rfl | rfl
    · exact hs.writeTo_eq hC
    · exact (Reader.tunnel_eq C r).trans (hs.writeTo_eq hC)
  have hb : (if r.left.length = 0 then cs else r.left :: cs).flatten = pending r cs := by
    split
    · rename_i hl; rw [pending, List.length_eq_zero_iff.mp hl]; rfl
    · rfl
  have hnr : ∀ n, op ≠ .read n := by rcases hop with rfl | rfl <;> intro n h <;> cases h
  constructor <;> rewrite [e]
  case sync => exact ⟨rfl, ValidChunks.nil⟩
  case noErr => exact Or.inl rfl
  case split => simp only [ROut.bytes, hb, pending, List.flatten_nil, List.append_nil]
  case atEnd => intro _; rfl
  case eofEmpty => intro h; cases h
  case copyEnds => intro _ _; rfl
  case progress => intro m hm; exact absurd hm (hnr m)
  case readEnd => intro m hm; exact absurd hm (hnr m)
  case nonce => simp
  case key => rfl

theorem step_ok {C : Crypto} (hC : AeadOK C) (r : Reader) (cs : List Bytes) (hs : Sync C r cs) (op : ROp) :
    ∃ cs', StepOK C r cs op cs' := by
  cases op with
  | read n => exact read_ok hC r cs hs n
  | writeTo => exact ⟨[], copy_ok hC r cs hs _ (Or.inl rfl)⟩
  | tunnel => exact ⟨[], copy_ok hC r cs hs _ (Or.inr rfl)⟩

/-- the sink keeps the `io.Writer` contract: it takes fewer bytes than offered only together with an error -/
def SinkOK (sink : List SinkRes) : Prop := ∀ r ∈ sink, r.err = true ∨ streamMaxPayloadSize ≤ r.accept

theorem sinkWrite_ok {sink : List SinkRes} (h : SinkOK sink) (p : Bytes) (hp : p.length ≤ streamMaxPayloadSize) :
    (∃ rest, p = (sinkWrite sink p).1 ++ rest) ∧ ((sinkWrite sink p).2.1 = false → (sinkWrite sink p).1 = p) ∧
    SinkOK (sinkWrite sink p).2.2 := by
  cases sink with
  | nil => exact ⟨⟨[], by simp [sinkWrite]⟩, fun _ => rfl, h⟩
  | cons r rest =>
    refine ⟨⟨p.drop r.accept, by simp [sinkWrite]⟩, fun he => ?_, fun x hx => h x (List.mem_cons_of_mem _ hx)⟩
    rcases h r List.mem_cons_self with h1 | h1
    · simp [sinkWrite, h1] at he
    · simp only [sinkWrite]
      exact List.take_of_length_le (by omega)

/-- what a copy into a failing sink / destination leaves of `stream`, the bytes pending before it: the
reader is in sync with the chunks after the one in flight; the stream splits into what the sink took,
what was lost of the chunk in flight (at most the rest of that one chunk; nothing if the sink never
failed), and what is still pending — so nothing can be delivered twice and nothing beyond the chunk
in flight is lost -/
structure CopyLeft (C : Crypto) (stream : Bytes) (pieces : List Bytes) (e : Option Err) (r' : Reader)
    (cs' : List Bytes) (lost : Bytes) : Prop where
  sync : Sync C r' cs'
  split : stream = pieces.flatten ++ lost ++ pending r' cs'
  lost_le : lost.length ≤ streamMaxPayloadSize
  clean : e = none → lost = [] ∧ pending r' cs' = []
  errs : e = none ∨ e = some .sinkErr

theorem CopyLeft.cons {C : Crypto} {stream : Bytes} {pieces : List Bytes} {e : Option Err} {r' : Reader}
    {cs' : List Bytes} {lost : Bytes} (h : CopyLeft C stream pieces e r' cs' lost) (a : Bytes) :
    CopyLeft C (a ++ stream) (a :: pieces) e r' cs' lost :=
  ⟨h.sync, by rw [h.split, List.flatten_cons, List.append_assoc, List.append_assoc, List.append_assoc],
    h.lost_le, h.clean, h.errs⟩

theorem copyLoopSink_sync {C : Crypto} (hC : AeadOK C) (cs : List Bytes) :
    ∀ (fuel : Nat) (r : Reader) (sink : List SinkRes) (acc : List Bytes), Sync C r cs → r.left = [] → SinkOK sink →
      cs.length < fuel →
      ∃ pieces e r' sink' cs' lost, copyLoopSink C fuel r sink acc = (.copied (acc.reverse ++ pieces) e, r', sink') ∧
        CopyLeft C cs.flatten pieces e r' cs' lost := by
  induction cs with
  | nil =>
    intro fuel r sink acc hs hl _ hf
    cases fuel with
    | zero => cases hf
    | succ f =>
      exact ⟨[], none, { r with wire := [] }, sink, [], [], by simp [copyLoopSink, hs.readChunk_eof],
        ⟨rfl, ValidChunks.nil⟩, by simp [pending, hl], Nat.zero_le _, fun _ => ⟨rfl, by simp [pending, hl]⟩, Or.inl rfl⟩
  | cons p ps ih =>
    intro fuel r sink acc hs hl hk hf
    cases fuel with
    | zero => cases hf
    | succ f =>
      obtain ⟨⟨rest0, hpre⟩, hfull, hk'⟩ := sinkWrite_ok hk p (hs.valid p List.mem_cons_self).2
      cases he : (sinkWrite sink p).2.1 with
      | true =>
        -- the sink fails on `p`: what it did not take of `p` is lost, the later chunks stay pending
        refine ⟨[(sinkWrite sink p).1], some .sinkErr, _, (sinkWrite sink p).2.2, ps, rest0,
          by simp [copyLoopSink, hs.readChunk_ok hC, he], hs.tail, ?_, ?_, nofun, Or.inr rfl⟩
        · simp only [List.flatten_cons, List.flatten_nil, List.append_nil, pending, hl, List.nil_append]
          rw [← hpre]
        · have := congrArg List.length hpre
          have := (hs.valid p List.mem_cons_self).2
          simp only [List.length_append] at *
          omega
      | false =>
        obtain ⟨pieces, e, r', sink', cs', lost, h1, h2⟩ :=
          ih f _ (sinkWrite sink p).2.2 ((sinkWrite sink p).1 :: acc) hs.tail hl hk' (by simpa using hf)
        rw [hfull he] at h1
        exact ⟨p :: pieces, e, r', sink', cs', lost, by simp [copyLoopSink, hs.readChunk_ok hC, he, hfull he, h1],
          h2.cons p⟩

/-- the flush of the left-over may fail too: what the sink did not take of it stays buffered, so
nothing is lost -/
theorem writeToSink_sync {C : Crypto} (hC : AeadOK C) {r : Reader} {cs : List Bytes} (hs : Sync C r cs)
    (hleft : r.left.length ≤ streamMaxPayloadSize) {sink : List SinkRes} (hk : SinkOK sink) :
    ∃ pieces e r' sink' cs' lost, r.writeToSink C sink = (.copied pieces e, r', sink') ∧
      CopyLeft C (pending r cs) pieces e r' cs' lost := by
  by_cases hl : r.left.length = 0
  · have hl' : r.left = [] := List.length_eq_zero_iff.mp hl
    obtain ⟨pieces, e, r', sink', cs', lost, h1, h2⟩ := copyLoopSink_sync hC cs _ r sink [] hs hl' hk (hs.fuel hC)
    refine ⟨pieces, e, r', sink', cs', lost, by simpa [Reader.writeToSink, hl] using h1, ?_⟩
    rw [pending, hl']
    exact h2
  · obtain ⟨⟨rest0, hpre⟩, hfull, hk'⟩ := sinkWrite_ok hk r.left hleft
    cases he : (sinkWrite sink r.left).2.1 with
    | true =>
      refine ⟨[(sinkWrite sink r.left).1], some .sinkErr,
        { r with left := r.left.drop (sinkWrite sink r.left).1.length }, (sinkWrite sink r.left).2.2, cs, [],
        by simp [Reader.writeToSink, writeTo_flushes, hl, he], hs.of_left _, ?_, Nat.zero_le _,
        nofun, Or.inr rfl⟩
      generalize (sinkWrite sink r.left).1 = a at hpre
      simp only [pending, List.flatten_cons, List.flatten_nil, List.append_nil]
      rw [hpre, List.drop_left, List.append_assoc]
    | false =>
      -- the flush went through: the copy loop runs on an empty left-over
      have hd : r.left.drop (sinkWrite sink r.left).1.length = [] := by rw [hfull he]; simp
      obtain ⟨pieces, e, r', sink', cs', lost, h1, h2⟩ :=
        copyLoopSink_sync hC cs _ { r with left := r.left.drop (sinkWrite sink r.left).1.length } (sinkWrite sink r.left).2.2
          [(sinkWrite sink r.left).1] (hs.of_left _) hd hk' (hs.fuel hC)
      rw [hfull he] at h1
      exact ⟨r.left :: pieces, e, r', sink', cs', lost,
        by simpa [Reader.writeToSink, writeTo_flushes, hl, he, hfull he] using h1, h2.cons r.left⟩

end SSV.Stream
