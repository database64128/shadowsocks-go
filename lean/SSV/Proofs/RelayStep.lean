import SSV.Proofs.Relay
/-
The invariant `Inv` behind the destination half of `no_cross_session_send` (when sessions do not share a packer): what is
known of the target of the packet an uplink holds and of its packer's cache. What each arm does to the part that speaks of
its own session (`Arm.inv`), and the frame around it (`inv_of_Arm`). Whose packet a datagram carries holds for every
configuration: `FInv.sentOwn` (RelayFate).
-/
namespace SSV.Relay

theorem destOK_mono {up : Option (IP × Nat)} {a a' : List (Dom × IP)} (h : ∀ x ∈ a, x ∈ a') {w : Sent}
    (hw : destOK up a w) : destOK up a' w := by
  unfold destOK at *
  cases up with
  | some ap => exact hw
  | none =>
    -- only a domain target speaks of the answers
    cases htg : w.pkt.target with
    | ip a p => simpa only [htg] using hw
    | dom d p =>
      simp only [htg] at hw ⊢
      exact ⟨h _ hw.1, hw.2⟩

def cacheOK (answers : List (Dom × IP)) (c : Cache) : Prop := ∀ d, c.dom = some d → (d, c.ip) ∈ answers

/-- what is known of the target of the packet the uplink holds at `pc`, given the answers `A` given so far and the cache
`c` of the session's packer -/
def PcOK (cfg : Config) (A : List (Dom × IP)) (c : Cache) : UpPc → Prop
  | .idle => True
  | .resolving q d => cfg.upstream = none ∧ ∃ port, q.target = .dom d port
  | .storedDomain q ip => cfg.upstream = none ∧ ∃ d port, q.target = .dom d port ∧ c.dom = some d ∧ (d, ip) ∈ A
  | .storedIP q => cfg.upstream = none ∧ ∃ d port, q.target = .dom d port ∧ c.dom = some d ∧ (d, c.ip) ∈ A

structure Inv (cfg : Config) (st : State) : Prop where
  fresh : ∀ sid s, st.sess sid = some s → sid < st.next
  pc : ∀ sid s, st.sess sid = some s → PcOK cfg st.answers (st.cache (cfg.packerOf sid)) s.pc
  /-- with a packer per session, the cache of `sid`'s packer is consistent unless `sid` itself is between the two cache
  stores of `PackInPlace` -/
  cache : ∀ sid, cacheOK st.answers (st.cache (cfg.packerOf sid)) ∨
      ∃ s q ip, st.sess sid = some s ∧ s.pc = .storedDomain q ip
  sent : ∀ w ∈ st.sent, destOK cfg.upstream st.answers w

theorem inv_init (cfg : Config) : Inv cfg State.init := by
  refine ⟨?_, ?_, ?_, ?_⟩ <;> simp [State.init, cacheOK, Cache.empty]

theorem PcOK_mono {cfg : Config} {A A' : List (Dom × IP)} {c : Cache}
    {pc : UpPc} (ha : ∀ x ∈ A, x ∈ A') (h : PcOK cfg A c pc) : PcOK cfg A' c pc := by
  cases pc with
  | idle | resolving q d => exact h
  | storedDomain _ _ | storedIP _ =>
    obtain ⟨hu, d, port, h2, h3, h4⟩ := h
    exact ⟨hu, d, port, h2, h3, ha _ h4⟩

variable {cfg : Config}

theorem Arm.inv {st : State} {a : Act} {sid : Nat} {s s' : Sess} {c' : Cache} {o : Out}
    (ha : Arm cfg st sid (some s) a s' c' o)
    (hpc : PcOK cfg st.answers (st.cache (cfg.packerOf sid)) s.pc)
    (hc : cacheOK st.answers (st.cache (cfg.packerOf sid)) ∨ ∃ q ip, s.pc = .storedDomain q ip) :
    PcOK cfg (st.answers ++ o.answers) c' s'.pc ∧
    (cacheOK (st.answers ++ o.answers) c' ∨ ∃ q ip, s'.pc = .storedDomain q ip) ∧
    ∀ x ∈ o.sent, destOK cfg.upstream (st.answers ++ o.answers) ⟨sid, x.1, x.2.1, x.2.2⟩ := by
  cases ha with
  | resolvedOk hp =>
    obtain ⟨hup, port, htg⟩ := hp ▸ hpc
    exact ⟨⟨hup, _, port, htg, rfl, List.mem_append_right _ (List.mem_singleton.2 rfl)⟩, .inr ⟨_, _, rfl⟩,
      List.forall_mem_nil _⟩
  | storeIP hp =>
    -- the second store makes the cache consistent again
    obtain ⟨hup, d, port, htg, hdom, hans⟩ := hp ▸ hpc
    have hans' := List.mem_append_left ([] : List (Dom × IP)) hans
    exact ⟨⟨hup, d, port, htg, hdom, hans'⟩, .inl fun d' hd' => by rw [hdom] at hd'; cases hd'; exact hans',
      List.forall_mem_nil _⟩
  | readSend hp =>
    obtain ⟨hup, d, port, htg, hdom, hans⟩ := hp ▸ hpc
    refine ⟨trivial, .inl (by rw [List.append_nil]; exact hc.resolve_right (by simp [hp])), fun x hx => ?_⟩
    cases List.mem_singleton.1 hx
    simp [destOK, hup, htg, Target.port, hans]
  | recvOld | initOk | initFail | evict | down =>
    simp only [List.append_nil]
    exact ⟨hpc, hc, List.forall_mem_nil _⟩
  | @takeHit _ q rest d port _ hidle hqe hup htg hhit =>
    -- a cache hit while idle: nobody is between the two stores, so the cached address is an answer for `d`
    have hcok := hc.resolve_right (by simp [hidle])
    exact ⟨⟨hup, d, port, htg, hhit, List.mem_append_left _ (hcok d hhit)⟩,
      .inl (by rw [List.append_nil]; exact hcok), List.forall_mem_nil _⟩
  | takeUp | takeIp | takeMiss | packErr | resolvedFail =>
    -- `takeUp`, `takeIp` send, and `destOK` is their guard; the other three send nothing
    simp_all [PcOK, destOK]

theorem inv_of_Arm (hinj : ∀ a b, cfg.packerOf a = cfg.packerOf b → a = b) {st st' : State} {a : Act} {sid : Nat}
    {os : Option Sess} {s' : Sess} {c' : Cache} {o : Out}
    (hI : Inv cfg st) (ha : Arm cfg st sid os a s' c' o) (ht : Touch cfg st st' sid os s' c' o) : Inv cfg st' := by
  have hold := ht.sess_before hI.fresh
  have hans : ∀ x ∈ st.answers, x ∈ st'.answers := fun _ h => by rw [ht.answers]; exact List.mem_append_left _ h
  have ⟨hpc, hc, hsent⟩ : PcOK cfg st'.answers c' s'.pc ∧
      (cacheOK st'.answers c' ∨ ∃ q ip, s'.pc = .storedDomain q ip) ∧
      ∀ x ∈ o.sent, destOK cfg.upstream st'.answers ⟨sid, x.1, x.2.1, x.2.2⟩ := by
    rw [ht.answers]
    cases os with
    | some s =>
      exact ha.inv (hI.pc _ _ hold) ((hI.cache sid).imp_right fun ⟨_, q, ip, hs, h⟩ =>
        ⟨q, ip, by rw [hold] at hs; cases hs; exact h⟩)
    | none =>
      -- a new session: nothing in flight, nobody has used its packer
      obtain ⟨h1, h2, h3, h4, -, -, -⟩ := ha.new_session
      refine ⟨by rw [h2]; trivial, .inl ?_, by simp [h3]⟩
      rw [h4, h1, List.append_nil]
      exact (hI.cache sid).resolve_right fun ⟨_, _, _, hs, _⟩ => by rw [hold] at hs; cases hs
  refine ⟨ht.fresh hI.fresh, ?_, ?_, ?_⟩
  · intro i s hs
    rcases ht.sess_cases hs with ⟨rfl, rfl⟩ | ⟨he, hs⟩
    · rw [ht.cacheAt]; exact hpc
    · rw [ht.cacheOther _ fun h => he (hinj _ _ h)]; exact PcOK_mono hans (hI.pc _ _ hs)
  · intro i
    by_cases he : i = sid
    · subst he
      rw [ht.cacheAt]
      exact hc.imp_right fun ⟨q, ip, h⟩ => ⟨s', q, ip, ht.sess_at, h⟩
    · rw [ht.cacheOther _ fun h => he (hinj _ _ h), ht.sess_other he]
      exact (hI.cache i).imp_left fun h d hd => hans _ (h d hd)
  · intro w hw
    rw [ht.sent] at hw
    rcases List.mem_append.mp hw with h | h
    · exact destOK_mono hans (hI.sent w h)
    · obtain ⟨x, hx, rfl⟩ := List.mem_map.mp h
      exact hsent x hx

theorem inv_run (hinj : ∀ a b, cfg.packerOf a = cfg.packerOf b → a = b) (acts : List Act) {st : State}
    (hI : Inv cfg st) : Inv cfg (run cfg st acts) :=
  run_preserves (fun _ _ _ _ _ _ _ _ hI ha ht => inv_of_Arm hinj hI ha ht) acts hI

end SSV.Relay
