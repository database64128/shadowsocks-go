import SSV.Proofs.RelayLifeProgress
/-
C12: eviction for ALL runs.  Once a session's tear-down has begun (its downlink read failed with the deadline, or its
initialiser failed) the position of I_i in its program only moves forward, whatever else happens (including datagrams of
the same client, other sessions, Stop); I_i can always make its next step, except while it waits for the mutex, whose
holder can then move; once I_i has returned nothing but U_i touches the channel any more, U_i can always move and each of
its steps decreases `q*7 + rank`.  FAIRNESS ASSUMPTION for "the eviction completes": I_i, U_i and the current holder of
the mutex are each scheduled again and again (weak fairness of the Go scheduler, FIFO-ish mutex); then after at most 6
steps of I_i and `q*7+6` steps of U_i the entry is out of the table, the socket is closed and both goroutines have returned.
-/
namespace SSV.RelayLife
variable (cfg : Cfg)

/-- the tear-down of session `e` has begun: I_i is at or past `mu.Lock()` of the deferred clean-up (`9 ≤ ipc.idx` in the
numbering of `EInv`) -/
def Entry.tearingDown (e : Entry) : Prop := e.ipc.rank ≤ 6

theorem evict_starts {s : State} {i : Nat} (hi : i < s.n) (hp : (s.ent i).ipc = .dRead) (hd : (s.ent i).dl = .past) :
    ∃ s', step cfg s (.dTimeout i) = some s' ∧ (s'.ent i).ipc = .cLock := by
  refine ⟨_, by simp [step, hi, hp, hd]; rfl, ?_⟩
  simp [State.setE]

theorem Own.rank_le {e e' : Entry} {b : Bool} (o : Own cfg e b e') (ht : e.tearingDown) : e'.ipc.rank ≤ e.ipc.rank := by
  obtain ⟨_, h | h | ⟨_, _, h | h⟩⟩ := Own.delta cfg o
  · omega
  · rw [h.2.1]; omega
  · rw [h]; omega
  · rw [Entry.tearingDown, h] at ht; simp [IPc.rank] at ht

theorem setE_le (f : Entry → Nat) {s : State} {i j : Nat} {e' : Entry} (h : i = j → f e' ≤ f (s.ent j)) :
    f ((s.setE j e').ent i) ≤ f (s.ent i) := by
  simp only [State.setE]; split
  · next hij => subst hij; exact h rfl
  · exact Nat.le_refl _

theorem teardown_monotone {s s' : State} (e : Ev) (hs : step cfg s e = some s') {i : Nat} (hi : i < s.n)
    (ht : (s.ent i).tearingDown) : (s'.ent i).ipc.rank ≤ (s.ent i).ipc.rank := by
  obtain ⟨b, st⟩ := step_exists hs
  clear hs
  cases st
  case own j e' hj o => exact setE_le (·.ipc.rank) fun hij => Own.rank_le cfg o (hij ▸ ht)
  case rNew => simp only; rw [if_neg (by omega)]; exact Nat.le_refl _
  case cLock j _ hp _ | cCloseAgain j _ hp _ | cDelete j _ hp | cUnlock j _ hp =>
    exact setE_le (·.ipc.rank) fun _ => by rw [hp]; cases (s.ent j).clean <;> simp [IPc.rank]
  case rEnqueue | stopForce | visitNil | visit => exact setE_le (·.ipc.rank) fun _ => Nat.le_refl _
  all_goals exact Nat.le_refl _

theorem cleanup_strict {s s' : State} {i : Nat} (hs : step cfg s (.cleanup i) = some s') :
    (s'.ent i).ipc.rank < (s.ent i).ipc.rank := by
  generalize he : Ev.cleanup i = ev at hs
  revert hs
  fun_cases step cfg s ev <;> cases he <;> intro hs <;> cases hs <;>
    simp +zetaDelta only [*, State.setE, ↓reduceIte, apply_ite IPc.rank, IPc.rank_cLock, IPc.rank_cClose, IPc.rank_cDelete,
      IPc.rank_cUnlock, IPc.rank_cDrain, IPc.rank_done] <;>
    first | omega | (split <;> omega)

theorem teardown_can_move {s : State} (h : Reachable cfg s) {i : Nat} (hi : i < s.n) (ht : (s.ent i).tearingDown)
    (hnd : (s.ent i).ipc ≠ .done) :
    (step cfg s (.cleanup i)).isSome = true ∨
    ((s.ent i).ipc = .cLock ∧ s.mu ≠ .free ∧ ∃ e, e.internal = true ∧ (step cfg s e).isSome = true) := by
  unfold Entry.tearingDown at ht
  cases hp : (s.ent i).ipc with
  | cLock =>
    by_cases hf : s.mu = .free
    · left; simp [step, hi, hp, hf]
    · right; exact ⟨rfl, hf, mutex_holder_moves cfg h hf⟩
  | cClose | cDelete | cUnlock => left; exact cleanup_enabled_in_crit cfg hi (by rw [hp]; rfl)
  | cDrain => left; simp [step, hi, hp]
  | done => exact absurd hp hnd
  | _ => simp [hp, IPc.rank] at ht

theorem Own.work_le {e e' : Entry} {b : Bool} (o : Own cfg e b e') (hp : e.ipc = .done) : e'.uplinkWork ≤ e.uplinkWork := by
  obtain ⟨_, h | h | h⟩ := Own.delta cfg o
  · exact h.2.2 (by rw [hp]; simp [IPc.idx])
  · omega
  · omega

/-- once I_i has returned the receive loop cannot find the entry any more, so nobody but U_i touches the queue -/
theorem uplink_work_monotone {s s' : State} (h : Reachable cfg s) (e : Ev) (hs : step cfg s e = some s') {i : Nat} (hi : i < s.n)
    (hp : (s.ent i).ipc = .done) : (s'.ent i).uplinkWork ≤ (s.ent i).uplinkWork := by
  obtain ⟨b, st⟩ := step_exists hs
  clear hs
  cases st
  case own j e' hj o => exact setE_le (·.uplinkWork) fun hij => Own.work_le cfg o (hij ▸ hp)
  case rNew => simp only; rw [if_neg (by omega)]; exact Nat.le_refl _
  case rEnqueue c j hr ht hc =>
    refine setE_le (·.uplinkWork) fun hij => ?_
    subst hij
    rw [← ((inv1_reachable h).tab c i ht).2] at ht
    exact absurd ht (deleted_not_in_table cfg h hi (by rw [hp]; rfl))
  case cLock | cCloseAgain | cDelete | cUnlock | stopForce | visitNil | visit =>
    exact setE_le (·.uplinkWork) fun _ => Nat.le_refl _
  all_goals exact Nat.le_refl _

theorem uplink_step_strict {s s' : State} {i : Nat} (e : Ev) (he : e = .uStep i ∨ e = .uFail i ∨ ∃ k, e = .uRecv i k)
    (hs : step cfg s e = some s') : (s'.ent i).uplinkWork < (s.ent i).uplinkWork := by
  revert hs
  fun_cases step cfg s e <;> intro hs <;> cases hs <;> rcases he with he | he | ⟨k, he⟩ <;> cases he <;>
    simp +zetaDelta only [*, Entry.uplinkWork, State.setE, ↓reduceIte, Entry.closeIf, apply_ite UPc.rank, UPc.rank_send,
      UPc.rank_arm, UPc.rank_check, UPc.rank_force, UPc.rank_recv, UPc.rank_closeSock, UPc.rank_done] <;>
    first | omega | (split <;> omega)

theorem swap_succeeds_unless_stopping {s s' : State} (h : Reachable cfg s) {i : Nat} (hi : i < s.n)
    (hp : (s.ent i).ipc = .swap) (hv : (s.ent i).visited = false) (hnp : s.spc ≠ .pend i) (ok : Bool)
    (hs : step cfg s (.init i ok) = some s') : (s'.ent i).ipc = .spawn ∧ (s'.ent i).clean = true ∧ (s'.ent i).st = .nat := by
  have hst : (s.ent i).st = .nil := by
    rcases ((inv_reachable h).pass i hi).1 hv hnp with ⟨h1, _⟩ | ⟨_, h2⟩
    · exact h1
    · have := (einv_reachable h hi).cleanPos h2; rw [hp] at this; simp [IPc.idx] at this
  simp [step, hi, hp, hst] at hs
  subst hs
  simp [State.setE]

end SSV.RelayLife
