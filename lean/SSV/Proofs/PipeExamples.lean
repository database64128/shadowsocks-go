import SSV.Proofs.PipeFair
/-
C15 — concrete runs of the model (witnesses that the hypotheses of the property theorems are satisfiable, and
that the model can actually transfer data, half-close, time out), and two concrete fair runs.
-/
namespace SSV.Pipe.Ex

/-- run the first enabled local step of thread `i` (in these runs: the only one) -/
def step1 (s : State) (i : Nat) : State := (localSteps s i).headD s

def startD (s : State) (i : Nat) (op : Op) : State := (start s i op).getD s
def dataD (s : State) (i j : Nat) : State := (data s i j).getD s
def countD (s : State) (i j : Nat) : State := (count s i j).getD s
def finishD (s : State) (i : Nat) : State := (finish s i).getD s

theorem step_step1 {s : State} (i : Nat) (h : localSteps s i ≠ []) : Step s (step1 s i) := by
  unfold step1
  cases hl : localSteps s i with
  | nil => exact absurd hl h
  | cons x xs => exact .loc i (by simp [hl])

theorem step_getD {s : State} {o : Option State} (hstep : ∀ s', o = some s' → Step s s') (h : o.isSome) :
    Step s (o.getD s) := by
  cases o with
  | none => cases h
  | some s' => exact hstep s' rfl

theorem step_startD {s : State} (i : Nat) (op : Op) (h : (start s i op).isSome) : Step s (startD s i op) :=
  step_getD (fun _ => .start i op) h

theorem step_dataD {s : State} (i j : Nat) (h : (data s i j).isSome) : Step s (dataD s i j) :=
  step_getD (fun _ => .data i j) h

theorem step_countD {s : State} (i j : Nat) (h : (count s i j).isSome) : Step s (countD s i j) :=
  step_getD (fun _ => .count i j) h

theorem step_finishD {s : State} (i : Nat) (h : (finish s i).isSome) : Step s (finishD s i) :=
  step_getD (fun _ => .finish i) h

theorem reach_step1 {s : State} (r : Reachable s) (i : Nat) (h : localSteps s i ≠ []) : Reachable (step1 s i) :=
  .step r (step_step1 i h)

theorem reach_start {s : State} (r : Reachable s) (i : Nat) (op : Op) (h : (start s i op).isSome) :
    Reachable (startD s i op) := .step r (step_startD i op h)

/-! CloseWrite: Store(EOF) ; close -/
def c1 := startD init 0 (.closeWrite none)
def c2 := step1 c1 0
def c3 := step1 c2 0

theorem c3_reachable : Reachable c3 :=
  reach_step1 (reach_step1 (reach_start .init 0 _ (by decide)) 0 (by decide)) 0 (by decide)

theorem c3_closed : closedAs c3 .eof := ⟨by decide, by decide⟩

theorem c3_bounded : Bounded 1 c3 := by
  intro i hi
  obtain ⟨k, rfl⟩ := Nat.exists_eq_add_of_le' hi
  rfl

/-! thread 0 writes [1,2,3]; thread 1 reads with a 2-byte buffer -/
def w1 := startD init 0 (.write [1, 2, 3])
def w2 := step1 (step1 (step1 (step1 w1 0) 0) 0) 0      -- wChk1, wChk2, wLock, wEnter  → in the select
def w3 := startD w2 1 (.read 2)
def w4 := step1 (step1 (step1 w3 1) 1) 1                -- rChk1, rChk2, rEnter → in the select
def w5 := dataD w4 1 0                                   -- data channel
def w6 := countD w5 1 0                                  -- count-back

theorem w6_reachable : Reachable w6 := by
  refine .step (.step (reach_step1 (reach_step1 (reach_step1 (reach_start
    (reach_step1 (reach_step1 (reach_step1 (reach_step1 (reach_start .init 0 _ ?_) 0 ?_) 0 ?_) 0 ?_) 0 ?_) 1 _ ?_) 1 ?_) 1 ?_) 1 ?_)
    (step_dataD 1 0 ?_)) (step_countD 1 0 ?_) <;> decide

theorem w6_facts : w6.rret = [1, 2] ∧ w6.wlog = [([1, 2, 3], 2)] ∧ w6.thr 1 = .rRet 2 .nil ∧
    w6.thr 0 = .wEnter [3] 2 0 := by decide

theorem w4_in_selects : w4.thr 0 = .wSel [1, 2, 3] 0 0 0 ∧ w4.thr 1 = .rSel (.read 2) 0 0 := by decide
theorem w5_in_handshake : w5.thr 1 = .rAck (.read 2) 0 2 false [1, 2] ∧ w5.thr 0 = .wAwait [1, 2, 3] 0 0 := by decide


/-! CloseRead: Store(ErrClosedPipe) ; close -/
def r3 := step1 (step1 (startD init 0 (.closeRead none)) 0) 0
theorem r3_reachable : Reachable r3 :=
  reach_step1 (reach_step1 (reach_start .init 0 _ (by decide)) 0 (by decide)) 0 (by decide)
theorem r3_closed : closedAs r3 .closedPipe := ⟨by decide, by decide⟩

/-! thread 1 blocks in a Read; thread 2 sets a past read deadline; thread 0 blocks in a Write and thread 3
queues on the mutex -/
def d1 := step1 (step1 (step1 (startD init 1 (.read 4)) 1) 1) 1
def d2 := step1 (step1 (startD d1 2 (.setRD .past)) 2) 2
def d3 := step1 (step1 (step1 (step1 (startD d2 0 (.write [7])) 0) 0) 0) 0
def d4 := step1 (step1 (startD d3 3 (.write [8])) 3) 3

theorem d4_reachable : Reachable d4 := by
  refine reach_step1 (reach_step1 (reach_start (reach_step1 (reach_step1 (reach_step1 (reach_step1 (reach_start
    (reach_step1 (reach_step1 (reach_start (reach_step1 (reach_step1 (reach_step1 (reach_start .init 1 _ ?_) 1 ?_) 1 ?_) 1 ?_)
    2 _ ?_) 2 ?_) 2 ?_) 0 _ ?_) 0 ?_) 0 ?_) 0 ?_) 0 ?_) 3 _ ?_) 3 ?_) 3 ?_ <;> decide

theorem d4_facts : d4.rdl.closed = true ∧ d4.thr 1 = .rSel (.read 4) 0 0 ∧ d4.thr 0 = .wSel [7] 0 0 0 ∧
    d4.thr 3 = .wLock [8] ∧ d4.mu = some 0 ∧ d4.done = false := by decide


/-! …then thread 2 collects its result, sets a past WRITE deadline too and collects again: both expired -/
def d5 := step1 (step1 (startD (finishD d4 2) 2 (.setWD .past)) 2) 2
def d6 := finishD d5 2

theorem d6_reachable : Reachable d6 := by
  refine .step (reach_step1 (reach_step1 (reach_start (.step d4_reachable (step_finishD 2 ?_)) 2 _ ?_) 2 ?_) 2 ?_)
    (step_finishD 2 ?_) <;> decide

theorem d6_bounded : Bounded 4 d6 := by
  intro i hi
  obtain ⟨k, rfl⟩ := Nat.exists_eq_add_of_le' hi
  rfl

theorem d6_expired : Expired d6 := by
  refine ⟨by decide, by decide, fun i => ?_⟩
  match i with
  | 0 | 1 | 2 | 3 => decide
  | _ + 4 => rfl

end SSV.Pipe.Ex

/-
A concrete fair run (witness that the hypotheses of `C15.write_returns_fair` / `C15.read_returns_fair` are satisfiable):
thread 1 blocks in Read(cap 4); thread 0 writes [1,2,3]; data; count; both return; then the run stutters.
-/
namespace SSV.Pipe.FairEx
open SSV.Pipe.Ex

def s0 := init
def s1 := startD s0 1 (.read 4)
def s2 := step1 s1 1
def s3 := step1 s2 1
def s4 := step1 s3 1          -- reader in its select
def s5 := startD s4 0 (.write [1, 2, 3])
def s6 := step1 s5 0
def s7 := step1 s6 0
def s8 := step1 s7 0          -- writer holds the lock, loop head
def s9 := step1 s8 0          -- writer in its select
def s10 := dataD s9 1 0       -- committed hand-shake
def s11 := countD s10 1 0     -- both returned

def run : Nat → State
  | 0 => s0 | 1 => s1 | 2 => s2 | 3 => s3 | 4 => s4 | 5 => s5 | 6 => s6 | 7 => s7 | 8 => s8 | 9 => s9 | 10 => s10
  | _ => s11

theorem run_isRun : IsRun run := by
  refine ⟨.init, ?_⟩
  intro n
  match n with
  | 0 => exact Or.inl (step_startD 1 _ (by decide))
  | 1 | 2 | 3 => exact Or.inl (step_step1 1 (by decide))
  | 4 => exact Or.inl (step_startD 0 _ (by decide))
  | 5 | 6 | 7 | 8 => exact Or.inl (step_step1 0 (by decide))
  | 9 => exact Or.inl (step_dataD 1 0 (by decide))
  | 10 => exact Or.inl (step_countD 1 0 (by decide))
  | _ + 11 => exact Or.inr rfl

theorem run_tail (m : Nat) (h : 11 ≤ m) : run m = s11 := by
  obtain ⟨k, rfl⟩ := Nat.exists_eq_add_of_le' h
  rfl

theorem run_fair0 : WeakFair run 0 := fair_of_tail run_tail (by decide)

theorem run_fair1 : WeakFair run 1 := fair_of_tail run_tail (by decide)

theorem run_partner : ∀ m b c g, (run m).thr 0 = .wSel b c 0 g → ∃ i k acc gr, (run m).thr i = .rSel k acc gr := by
  intro m b c g
  fun_cases run m <;> intro h
  case case10 => exact ⟨1, .read 4, 0, 0, by decide⟩  -- m = 9
  all_goals cases h

theorem run_pos : ∀ m i k acc nr fail chunk b c, (run m).thr i = .rAck k acc nr fail chunk →
    (run m).thr 0 = .wAwait b c 0 → b ≠ [] → 1 ≤ nr := by
  intro m i k acc nr fail chunk b c
  fun_cases run m <;> intro hi h _
  case case11 =>  -- m = 10
    -- the only thread owing a count is thread 1, with nr = 3
    have inv : Inv s10 := run_inv run_isRun 10
    obtain rfl := inv.ack_unique (by decide : s10.hs = some (1, 0)) (x := i) (by rw [hi]; rfl)
    have e1 : s10.thr 1 = .rAck (.read 4) 0 3 false [1, 2, 3] := by decide
    rw [e1] at hi; cases hi; omega
  all_goals cases h

/-! second run: the writer blocks first, then the reader arrives -/
def t1 := startD init 0 (.write [1, 2, 3])
def t2 := step1 t1 0
def t3 := step1 t2 0
def t4 := step1 t3 0
def t5 := step1 t4 0          -- writer in its select
def t6 := startD t5 1 (.read 4)
def t7 := step1 t6 1
def t8 := step1 t7 1
def t9 := step1 t8 1          -- reader in its select
def t10 := dataD t9 1 0
def t11 := countD t10 1 0

def run2 : Nat → State
  | 0 => init | 1 => t1 | 2 => t2 | 3 => t3 | 4 => t4 | 5 => t5 | 6 => t6 | 7 => t7 | 8 => t8 | 9 => t9 | 10 => t10
  | _ => t11

theorem run2_isRun : IsRun run2 := by
  refine ⟨.init, ?_⟩
  intro n
  match n with
  | 0 => exact Or.inl (step_startD 0 _ (by decide))
  | 1 | 2 | 3 | 4 => exact Or.inl (step_step1 0 (by decide))
  | 5 => exact Or.inl (step_startD 1 _ (by decide))
  | 6 | 7 | 8 => exact Or.inl (step_step1 1 (by decide))
  | 9 => exact Or.inl (step_dataD 1 0 (by decide))
  | 10 => exact Or.inl (step_countD 1 0 (by decide))
  | _ + 11 => exact Or.inr rfl

theorem run2_tail (m : Nat) (h : 11 ≤ m) : run2 m = t11 := by
  obtain ⟨k, rfl⟩ := Nat.exists_eq_add_of_le' h
  rfl

theorem run2_fair1 : WeakFair run2 1 := fair_of_tail run2_tail (by decide)

theorem run2_partner : ∀ m k acc g, (run2 m).thr 1 = .rSel k acc g → ∃ j b c ci gw, (run2 m).thr j = .wSel b c ci gw := by
  intro m k acc g
  fun_cases run2 m <;> intro h
  case case10 => exact ⟨0, [1, 2, 3], 0, 0, 0, by decide⟩  -- m = 9
  all_goals cases h

theorem run2_at9 : (run2 9).thr 1 = .rSel (.read 4) 0 0 := by decide
theorem run_at8 : (run 8).thr 0 = .wEnter [1, 2, 3] 0 0 := by decide

end SSV.Pipe.FairEx
