import SSV.Model.Relay
/-
The sendmmsg relay loops send exactly the kept messages (fill index = kept-counter).
-/
namespace SSV.Relay

theorem take_set_succ {α : Type} (l : List α) (n : Nat) (x : α) (h : n < l.length) :
    (l.set n x).take (n + 1) = l.take n ++ [x] := by
  rw [List.take_add_one, List.take_set_of_le (Nat.le_refl n)]
  simp [h]

theorem take_set_of_le {α : Type} (l : List α) (n k : Nat) (x : α) (h : k ≤ n) :
    (l.set n x).take k = l.take k := List.take_set_of_le h

theorem batchLoop_counter {α : Type} (rx : List (Option α)) (i ns : Nat) (slots : List α)
    (h : ns + rx.length ≤ slots.length) :
    (batchLoop .counter rx i ns slots).2.take (batchLoop .counter rx i ns slots).1 =
      slots.take ns ++ rx.filterMap id := by
  fun_induction batchLoop FillIdx.counter rx i ns slots with
  | case1 => simp
  | case2 rest i ns slots ih => -- dropped message
    exact ih (by simp at h; omega)
  | case3 x rest i ns slots ih => -- kept message
    have hlt : ns < slots.length := by simp at h; omega
    rw [ih (by simp at h ⊢; omega), take_set_succ slots ns x hlt]
    simp

end SSV.Relay
