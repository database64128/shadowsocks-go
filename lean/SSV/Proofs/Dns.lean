import SSV.Model.Dns
import SSV.Proofs.LruSpec
/-
Lemmas about the DNS model. Every stage of `parseMsg` before a response is accepted is an
*advance* (`Adv`): the expiry is only lowered, the done flags stay, addresses come from the
message's own answer records. What `parseMsg` has done when it returns is `Parsed`: an advance,
except that an accepted response which is not a truncated UDP one may have marked its family done;
"malformed responses complete nothing" and "only upstream's answers" are fields of `parseMsg_spec`.
The receive loops only feed messages from their source to `parseMsg` (`feed`, `Sourced`).
For lookups of several goroutines interleaved on one cache (`cstep`), the invariant `CInv` says that
whatever is cached or carried by a pending lookup was built by a lookup of that same name (`Justified`).
-/
namespace SSV.Dns
open SSV.Gen.C17 SSV.Lru

def ExpLe (x : Option Nat) (t : Nat) : Prop := ∃ e, x = some e ∧ e ≤ t

/-- `x'` is at most `x` (an unset expiry is the top element) -/
def Lowers (x x' : Option Nat) : Prop := ∀ t, ExpLe x t → ExpLe x' t

theorem Lowers.refl (x : Option Nat) : Lowers x x := fun _ h => h
theorem Lowers.trans {x y z : Option Nat} (h1 : Lowers x y) (h2 : Lowers y z) : Lowers x z :=
  fun t h => h2 t (h1 t h)
theorem lowers_none (x : Option Nat) : Lowers none x := by
  intro t h; obtain ⟨e, he, _⟩ := h; cases he

theorem minExp_le (x : Option Nat) (t : Nat) : ExpLe (minExp x t) t := by
  fun_cases minExp x t with
  | case1 | case2 => exact ⟨t, rfl, Nat.le_refl _⟩
  | case3 a h => exact ⟨a, rfl, by omega⟩

theorem minExp_lowers (x : Option Nat) (t : Nat) : Lowers x (minExp x t) := by
  fun_cases minExp x t with
  | case1 => exact lowers_none _
  | case2 a h =>
    rintro u ⟨e, ⟨⟩, hle⟩
    exact ⟨t, rfl, by omega⟩
  | case3 => exact Lowers.refl _

/-- Gen fact: the answer loop takes the minimum -/
theorem answerExp_eq (x : Option Nat) (now ttl : Nat) : answerExp x now ttl = minExp x (now + ttl * sec) := by
  simp [answerExp, answerExpiryMin]

/-- Gen fact `failureExpiryMin`: the failure branch takes the minimum. With the overwriting shape of that assignment
(finding F11) this, and `expiry_le_every_ttl` with it, does not check -/
theorem failureExp_eq (x : Option Nat) (now : Nat) : failureExp x now = minExp x (now + rcodeFailureCachingDuration) := by
  simp [failureExp, failureExpiryMin]

def Builder.addrs (b : Builder) : List String := b.a ++ b.aaaa

/-- from `b` to `b'` the expiry was only lowered, no family was marked done, and every new address satisfies `src` -/
structure Adv (src : String → Prop) (b b' : Builder) : Prop where
  exp : Lowers b.exp b'.exp
  v4 : b'.v4done = b.v4done
  v6 : b'.v6done = b.v6done
  addrs : ∀ x ∈ b'.addrs, x ∈ b.addrs ∨ src x

theorem Adv.refl (src : String → Prop) (b : Builder) : Adv src b b :=
  ⟨Lowers.refl _, rfl, rfl, fun _ h => Or.inl h⟩

theorem Adv.trans {src : String → Prop} {b1 b2 b3 : Builder} (h1 : Adv src b1 b2) (h2 : Adv src b2 b3) :
    Adv src b1 b3 :=
  ⟨h1.exp.trans h2.exp, h2.v4.trans h1.v4, h2.v6.trans h1.v6,
    fun x hx => (h2.addrs x hx).elim (h1.addrs x) Or.inr⟩

theorem Adv.setExp (src : String → Prop) (b : Builder) {e : Option Nat} (he : Lowers b.exp e) :
    Adv src b { b with exp := e } :=
  ⟨he, rfl, rfl, fun _ hx => Or.inl hx⟩

theorem Adv.of_fields (src : String → Prop) {b b' : Builder} (he : Lowers b.exp b'.exp)
    (h4 : b'.v4done = b.v4done) (h6 : b'.v6done = b.v6done)
    (ha : ∀ y ∈ b'.a, y ∈ b.a ∨ src y) (haaaa : ∀ y ∈ b'.aaaa, y ∈ b.aaaa ∨ src y) : Adv src b b' :=
  ⟨he, h4, h6, fun y hy => (List.mem_append.mp hy).elim
    (fun h => (ha y h).imp_left (List.mem_append_left _)) (fun h => (haaaa y h).imp_left (List.mem_append_right _))⟩

/-- the response gets past the rcode switch of `parseMsg`: a response with recursion available and an rcode the switch knows -/
def Usable (m : Msg) : Prop :=
  m.response = true ∧ m.ra = true ∧ (rcodeOk.contains m.rcode || rcodeFailure.contains m.rcode) = true

theorem markDone_fields (b : Builder) (id : Nat) :
    (markDone b id).exp = b.exp ∧ (markDone b id).a = b.a ∧ (markDone b id).aaaa = b.aaaa := by
  fun_cases markDone b id with
  | case1 | case2 | case3 => exact ⟨rfl, rfl, rfl⟩

/-- what `parseMsg`, or the rest of it from some stage on, has done when it returns `r` from builder `b`: an advance,
except that an accepted response which is not a truncated UDP one may have marked its family done -/
structure Parsed (src : String → Prop) (u : Bool) (b : Builder) (r : Builder × Option Hdr) : Prop where
  exp : Lowers b.exp r.1.exp
  addrs : ∀ x ∈ r.1.addrs, x ∈ b.addrs ∨ src x
  flags : (r.1.v4done = b.v4done ∧ r.1.v6done = b.v6done) ∨ ∃ h, r.2 = some h ∧ (h.tc = false ∨ u = false)

theorem Adv.parsed {src : String → Prop} {b b' : Builder} (a : Adv src b b') (u : Bool) (o : Option Hdr) :
    Parsed src u b (b', o) := ⟨a.exp, a.addrs, Or.inl ⟨a.v4, a.v6⟩⟩

theorem Adv.marked {src : String → Prop} {b b' : Builder} (a : Adv src b b') {u : Bool} (m : Msg)
    (h : m.tc = false ∨ u = false) : Parsed src u b (markDone b' m.id, some m.hdr) := by
  have hm := markDone_fields b' m.id
  exact ⟨hm.1 ▸ a.exp, by simp only [Builder.addrs, hm.2.1, hm.2.2]; exact a.addrs, Or.inr ⟨m.hdr, rfl, h⟩⟩

theorem Adv.then {src : String → Prop} {u : Bool} {b b1 : Builder} {r : Builder × Option Hdr} (a : Adv src b b1)
    (p : Parsed src u b1 r) : Parsed src u b r :=
  ⟨a.exp.trans p.exp, fun x hx => (p.addrs x hx).elim (a.addrs x) Or.inr,
    p.flags.imp_left fun f => ⟨f.1.trans a.v4, f.2.trans a.v6⟩⟩

theorem Parsed.mono {src src' : String → Prop} {u : Bool} {b : Builder} {r : Builder × Option Hdr}
    (p : Parsed src u b r) (hs : ∀ x, src x → src' x) : Parsed src' u b r :=
  ⟨p.exp, fun x hx => (p.addrs x hx).imp_right (hs x), p.flags⟩

/-- the addresses `parseBody` may take from `m`; `AddrIn m x` is this together with the id test of `idCheck` -/
def OwnAnswer (m : Msg) (x : String) : Prop :=
  m.response = true ∧ m.ra = true ∧ ∃ r ∈ m.answers, r.addr = x ∧ (r.kind = typeA ∨ r.kind = typeAAAA)

/-- `x` is the address of an A/AAAA record in the answer section of `m`, a response (QR=1, RA=1)
carrying one of the lookup's own two transaction ids -/
def AddrIn (m : Msg) (x : String) : Prop :=
  (m.id = idV4 ∨ m.id = idV6) ∧ m.response = true ∧ m.ra = true ∧
    ∃ r ∈ m.answers, r.addr = x ∧ (r.kind = typeA ∨ r.kind = typeAAAA)

theorem applyAns_cases (now : Nat) (b : Builder) (x : Ans) :
    (x.kind = typeA ∧ applyAns now b x = { b with exp := answerExp b.exp now x.ttl, a := b.a ++ [x.addr] }) ∨
    (x.kind = typeAAAA ∧ applyAns now b x = { b with exp := answerExp b.exp now x.ttl, aaaa := b.aaaa ++ [x.addr] }) ∨
    applyAns now b x = { b with exp := answerExp b.exp now x.ttl } := by
  fun_cases applyAns now b x with
  | case1 _ h => exact Or.inl ⟨h, rfl⟩
  | case2 _ _ h => exact Or.inr (Or.inl ⟨h, rfl⟩)
  | case3 => exact Or.inr (Or.inr rfl)

theorem applyAns_exp (now : Nat) (b : Builder) (x : Ans) :
    (applyAns now b x).exp = minExp b.exp (now + x.ttl * sec) := by
  rcases applyAns_cases now b x with ⟨-, h⟩ | ⟨-, h⟩ | h <;> rw [h] <;> exact answerExp_eq _ _ _

theorem applyAns_adv (src : String → Prop) (now : Nat) (b : Builder) (x : Ans)
    (hx : x.kind = typeA ∨ x.kind = typeAAAA → src x.addr) : Adv src b (applyAns now b x) := by
  have he : Lowers b.exp (answerExp b.exp now x.ttl) := by rw [answerExp_eq]; exact minExp_lowers _ _
  have own (l : List String) (hk : x.kind = typeA ∨ x.kind = typeAAAA) : ∀ y ∈ l ++ [x.addr], y ∈ l ∨ src y :=
    fun y hy => (List.mem_append.mp hy).imp_right fun h => by rw [List.mem_singleton.mp h]; exact hx hk
  rcases applyAns_cases now b x with ⟨hk, h⟩ | ⟨hk, h⟩ | h <;> rw [h]
  · exact Adv.of_fields src he rfl rfl (own b.a (Or.inl hk)) fun _ => Or.inl
  · exact Adv.of_fields src he rfl rfl (fun _ => Or.inl) (own b.aaaa (Or.inr hk))
  · exact Adv.setExp src b he

theorem foldAns_adv (src : String → Prop) (now : Nat) (xs : List Ans) (b : Builder)
    (hx : ∀ x ∈ xs, x.kind = typeA ∨ x.kind = typeAAAA → src x.addr) :
    Adv src b (xs.foldl (applyAns now) b) := by
  induction xs generalizing b with
  | nil => exact Adv.refl _ _
  | cons x r ih =>
    exact (applyAns_adv src now b x (hx x List.mem_cons_self)).trans
      (ih _ (fun y hy => hx y (List.mem_cons_of_mem _ hy)))

theorem foldAns_le (now : Nat) (xs : List Ans) (b : Builder) (x : Ans) (hx : x ∈ xs) :
    ExpLe (xs.foldl (applyAns now) b).exp (now + x.ttl * sec) := by
  induction xs generalizing b with
  | nil => cases hx
  | cons y r ih =>
    rcases List.mem_cons.mp hx with h | h
    · subst h
      exact (foldAns_adv (fun _ => True) now r _ fun _ _ _ => trivial).exp _ (by rw [applyAns_exp]; exact minExp_le _ _)
    · exact ih _ h

theorem foldAuth_adv (src : String → Prop) (now : Nat) (xs : List (Bool × Nat)) (b : Builder) (hb : b.exp = none) :
    Adv src b (xs.foldl (applyAuth now) b) := by
  obtain ⟨e, he⟩ : ∃ e, xs.foldl (applyAuth now) b = { b with exp := e } := by
    clear hb
    induction xs generalizing b with
    | nil => exact ⟨b.exp, rfl⟩
    | cons y r ih =>
      obtain ⟨e, he⟩ := ih (applyAuth now b y)
      refine ⟨e, he.trans ?_⟩
      unfold applyAuth; split <;> rfl
  rw [he]
  exact Adv.setExp _ b (hb ▸ lowers_none _)

theorem parseBody_of_not_usable (b : Builder) (now : Nat) (m : Msg) (isUDP : Bool) (hu : ¬ Usable m) :
    parseBody b now m isUDP = (b, none) := by
  unfold parseBody
  cases h1 : m.response; · rfl
  cases h2 : m.ra; · rfl
  cases h3 : (rcodeOk.contains m.rcode || rcodeFailure.contains m.rcode); · rfl
  exact absurd ⟨h1, h2, h3⟩ hu

/-- what `parseBody` has done (for `parseMsg_spec`) and the expiry bounds it has reached (for `parseMsg_le`) -/
theorem parseBody_spec (b : Builder) (now : Nat) (m : Msg) (u : Bool) :
    Parsed (OwnAnswer m) u b (parseBody b now m u) ∧
      (Usable m → (m.qOk = true → ∀ x ∈ m.answers, ExpLe (parseBody b now m u).1.exp (now + x.ttl * sec)) ∧
        (rcodeFailure.contains m.rcode = true → ExpLe (parseBody b now m u).1.exp (now + rcodeFailureCachingDuration))) := by
  by_cases hu : Usable m
  · obtain ⟨h1, h2, h3⟩ := hu
    generalize hr : parseBody b now m u = r
    unfold parseBody at hr
    simp -zeta only [h1, h2, h3, Bool.not_true, Bool.false_eq_true, if_false] at hr
    -- the model's own intermediate values: the builder after the rcode switch `b1`, after the answer loop `b2`, after the
    -- authority loop `au`; the authority section's result `aa` (builder, parsed?), its builder `ba`, that builder marked `bd`
    extract_lets b1 b2 au aa ba bd at hr
    have a1 : Adv (OwnAnswer m) b b1 := by
      unfold b1; split
      · exact Adv.setExp _ b (by rw [failureExp_eq]; exact minExp_lowers _ _)
      · exact Adv.refl _ _
    have f1 : rcodeFailure.contains m.rcode = true → ExpLe b1.exp (now + rcodeFailureCachingDuration) := by
      intro hf; simp only [b1, hf, if_true, failureExp_eq]; exact minExp_le _ _
    have a2 : Adv (OwnAnswer m) b1 b2 := foldAns_adv _ now m.answers _ fun x hx hk => ⟨h1, h2, x, hx, rfl, hk⟩
    have f2 : ∀ x ∈ m.answers, ExpLe b2.exp (now + x.ttl * sec) := foldAns_le now m.answers b1
    -- the authority section is entered only while no expiry is set (Gen fact `soaOnlyIfZero`), so its SOA records,
    -- which overwrite the expiry, never raise one
    have a3 : Adv (OwnAnswer m) b2 aa.1 := by
      unfold aa
      cases hb : b2.exp with
      | some e => rw [show soaOnlyIfZero = true from rfl]; exact Adv.refl _ _
      | none =>
        simp only [Option.isSome_none, Bool.and_false, Bool.false_eq_true, if_false]
        cases m.authEnd with
        | done | hdrErr => exact foldAuth_adv _ now m.auths b2 hb
        | skipErr soa ttl => have := foldAuth_adv (OwnAnswer m) now (m.auths ++ [(soa, ttl)]) b2 hb; rwa [List.foldl_append] at this
    subst hr
    cases hq : m.qOk
    · exact ⟨a1.parsed u none, fun _ => ⟨fun h => (nomatch h), f1⟩⟩
    -- what follows the answer loop starts from `b2`, so it keeps the bounds reached there
    suffices t : Parsed (OwnAnswer m) u b2 _ from
      ⟨a1.then (a2.then t), fun _ => ⟨fun _ x hx => t.exp _ (f2 x hx), fun hf => (a2.then t).exp _ (f1 hf)⟩⟩
    simp only [Bool.not_true, Bool.false_eq_true, if_false]
    cases m.ansEnd with
    | hdrErr => exact (Adv.refl _ b2).parsed u none
    | bodyErr ttl => exact (Adv.setExp _ b2 (by rw [answerExp_eq]; exact minExp_lowers _ _)).parsed u none
    | done =>
      dsimp only
      split
      · exact a3.parsed u none
      · unfold bd; split
        · rename_i h; exact a3.marked m (by simpa using h)
        · exact a3.parsed u _
  · rw [parseBody_of_not_usable b now m u hu]
    exact ⟨(Adv.refl _ b).parsed u none, fun h => absurd h hu⟩

theorem idCheck_adv (src : String → Prop) (b b' : Builder) (id : Nat) (d : Bool) (h : idCheck b id = some (b', d)) :
    Adv src b b' ∧ (id = idV4 ∨ id = idV6) := by
  revert h
  -- own id 4: 1 family done, 2 still open; own id 6: 3 done, 4 open; 5 foreign id
  fun_cases idCheck b id with
  | case1 h4 =>
    rintro ⟨⟩
    exact ⟨Adv.refl _ _, Or.inl h4⟩
  | case2 h4 =>
    rintro ⟨⟩
    exact ⟨Adv.of_fields src (Lowers.refl _) rfl rfl (fun _ h => absurd h List.not_mem_nil) fun _ => Or.inl, Or.inl h4⟩
  | case3 _ h6 =>
    rintro ⟨⟩
    exact ⟨Adv.refl _ _, Or.inr h6⟩
  | case4 _ h6 =>
    rintro ⟨⟩
    exact ⟨Adv.of_fields src (Lowers.refl _) rfl rfl (fun _ => Or.inl) fun _ h => absurd h List.not_mem_nil, Or.inr h6⟩
  | case5 => exact fun h => nomatch h

theorem parseMsg_spec (b : Builder) (now : Nat) (w : Wire) (u : Bool) :
    Parsed (fun x => ∃ m, w = .msg m ∧ AddrIn m x) u b (parseMsg b now w u) := by
  -- garbage; a message with 2 a foreign id, 3 the id of a family that is done, 4 of an open one
  fun_cases parseMsg b now w u with
  | case1 | case2 => exact (Adv.refl _ b).parsed u none
  | case3 m b1 h => exact (idCheck_adv _ b b1 m.id true h).1.parsed u _
  | case4 m b1 h =>
    obtain ⟨ha, hid⟩ := idCheck_adv _ b b1 m.id false h
    exact ha.then ((parseBody_spec b1 now m u).1.mono fun x hx => ⟨m, rfl, hid, hx⟩)

/-- the message is looked at beyond the id check: its family is still open -/
def Open (b : Builder) (m : Msg) : Prop := ∃ b', idCheck b m.id = some (b', false)

theorem parseMsg_le (b : Builder) (now : Nat) (m : Msg) (isUDP : Bool) (ho : Open b m) (hu : Usable m) :
    (m.qOk = true → ∀ x ∈ m.answers, ExpLe (parseMsg b now (.msg m) isUDP).1.exp (now + x.ttl * sec)) ∧
    (rcodeFailure.contains m.rcode = true →
      ExpLe (parseMsg b now (.msg m) isUDP).1.exp (now + rcodeFailureCachingDuration)) := by
  obtain ⟨b1, h⟩ := ho
  simp only [parseMsg, h]
  exact (parseBody_spec b1 now m isUDP).2 hu

/-- feeding a timed sequence of received messages to the builder -/
def feed (b : Builder) : List (Nat × Wire × Bool) → Builder
  | [] => b
  | (now, w, u) :: rest => feed (parseMsg b now w u).1 rest

theorem feed_append (b : Builder) (xs ys : List (Nat × Wire × Bool)) : feed b (xs ++ ys) = feed (feed b xs) ys := by
  fun_induction feed b xs with
  | case1 => rfl
  | case2 b now w u rest ih => exact ih

theorem feed_cons_of {b b' : Builder} {t : Nat} {w : Wire} {u : Bool} {r : Option Hdr}
    (hp : parseMsg b t w u = (b', r)) (tr : List (Nat × Wire × Bool)) : feed b ((t, w, u) :: tr) = feed b' tr := by
  simp only [feed, hp]

theorem feed_spec (tr : List (Nat × Wire × Bool)) (b : Builder) :
    Lowers b.exp (feed b tr).exp ∧
    ∀ x ∈ (feed b tr).addrs, x ∈ b.addrs ∨ ∃ e ∈ tr, ∃ m, e.2.1 = .msg m ∧ AddrIn m x := by
  fun_induction feed b tr with
  | case1 => exact ⟨Lowers.refl _, fun _ hx => Or.inl hx⟩
  | case2 b now w u rest ih =>
    obtain ⟨l1, a1, -⟩ := parseMsg_spec b now w u
    obtain ⟨l2, a2⟩ := ih
    refine ⟨l1.trans l2, fun x hx => ?_⟩
    rcases a2 x hx with h | ⟨e', he', h⟩
    · exact (a1 x h).imp_right fun ⟨m, hm, h1⟩ => ⟨(now, w, u), List.mem_cons_self, m, hm, h1⟩
    · exact Or.inr ⟨e', List.mem_cons_of_mem _ he', h⟩

/-- rejected whatever the builder. A family that is already done accepts every message with its id unread
(`idCheck`), so only `garbage` and messages with a foreign id are `Bad` -/
def Bad (w : Wire) : Prop := ∀ b now u, (parseMsg b now w u).2 = none

theorem feed_bad_done (tr : List (Nat × Wire × Bool)) (b : Builder) (hb : ∀ e ∈ tr, Bad e.2.1) :
    (feed b tr).v4done = b.v4done ∧ (feed b tr).v6done = b.v6done := by
  fun_induction feed b tr with
  | case1 => exact ⟨rfl, rfl⟩
  | case2 b now w u rest ih =>
    have h2 := ih fun e he => hb e (List.mem_cons_of_mem _ he)
    rcases (parseMsg_spec b now w u).flags with h1 | ⟨h, hh, _⟩
    · exact ⟨h2.1.trans h1.1, h2.2.trans h1.2⟩
    · rw [hb _ List.mem_cons_self b now u] at hh; cases hh

/-- a message the scripted upstream of this lookup really sent: a datagram from the configured
server address, or a frame on one of the TCP connections -/
def FromUpstream (up : Upstream) (w : Wire) : Prop :=
  (∃ dt, UdpEv.dgram dt true w ∈ up.udp) ∨ (∃ fr fin dt, Conn.conn fr fin ∈ up.conns ∧ Frame.wire dt w ∈ fr)

/-- the TCP half of `FromUpstream` -/
def InConns (conns : List Conn) (w : Wire) : Prop :=
  ∃ fr fin dt, Conn.conn fr fin ∈ conns ∧ Frame.wire dt w ∈ fr

def Sourced (src : Wire → Prop) (tr : List (Nat × Wire × Bool)) : Prop := ∀ e ∈ tr, src e.2.1

theorem Sourced.nil (src : Wire → Prop) : Sourced src [] := fun _ h => nomatch h

theorem Sourced.append {src : Wire → Prop} {tr tr' : List (Nat × Wire × Bool)}
    (h : Sourced src tr) (h' : Sourced src tr') : Sourced src (tr ++ tr') :=
  fun x hx => (List.mem_append.mp hx).elim (h x) (h' x)

theorem Sourced.mono {src src' : Wire → Prop} {tr : List (Nat × Wire × Bool)} (h : Sourced src tr)
    (hs : ∀ w, src w → src' w) : Sourced src' tr := fun x hx => hs _ (h x hx)

theorem trace_cons {src : Wire → Prop} {b b' x : Builder} {t : Nat} {w : Wire} {u : Bool} {r : Option Hdr}
    (hp : parseMsg b t w u = (b', r)) (hw : src w) {tr : List (Nat × Wire × Bool)} (h1 : x = feed b' tr)
    (h2 : Sourced src tr) : ∃ tr, x = feed b tr ∧ Sourced src tr :=
  ⟨(t, w, u) :: tr, h1.trans (feed_cons_of hp tr).symm, List.forall_mem_cons.mpr ⟨hw, h2⟩⟩

theorem readLoop_trace (dl : Nat) (fin : ConnEnd) (frames : List Frame) (b : Builder) (now : Nat) :
    ∃ tr, (readLoop dl b now fin frames).b = feed b tr ∧
      Sourced (fun w => ∃ dt, Frame.wire dt w ∈ frames) tr := by
  -- the exits of `readLoop`: 1–5 no frame left, 6–7 zero length field, 8 deadline passed, 9 message rejected,
  -- 10 accepted and both families done; 11 accepted, the loop goes on
  fun_induction readLoop dl b now fin frames with
  | case1 | case2 | case3 | case4 | case5 | case6 | case7 | case8 => exact ⟨[], rfl, Sourced.nil _⟩
  | case9 b now dt w rest _ b' hp | case10 b now dt w rest _ b' _ hp _ =>
    exact trace_cons hp ⟨dt, List.mem_cons_self⟩ rfl (Sourced.nil _)
  | case11 b now dt w rest _ b' _ hp _ ih =>
    obtain ⟨tr, h1, h2⟩ := ih
    exact trace_cons hp ⟨dt, List.mem_cons_self⟩ h1 (h2.mono fun _ ⟨d, hd⟩ => ⟨d, List.mem_cons_of_mem _ hd⟩)

theorem readLoop_now (dl : Nat) (fin : ConnEnd) (frames : List Frame) (b : Builder) (now : Nat) (h : now ≤ dl) :
    now ≤ (readLoop dl b now fin frames).now := by
  -- the cases as in `readLoop_trace`: an exit past the deadline ends at it, every other exit at `now + dt`
  fun_induction readLoop dl b now fin frames with
  | case1 | case3 | case5 | case6 | case8 => exact h
  | case2 | case4 | case7 | case9 | case10 => exact Nat.le_add_right _ _
  | case11 _ _ _ _ _ _ _ _ _ _ ih => exact Nat.le_trans (Nat.le_add_right _ _) (ih (by omega))

theorem doTCP_trace (dl : Nat) (b : Builder) (now : Nat) (conns : List Conn) :
    ∃ tr, (doTCP dl b now (conns.headD .dialFail)).b = feed b tr ∧ Sourced (InConns conns) tr := by
  rcases conns with _ | ⟨_ | ⟨fr, fin⟩, rest⟩
  · exact ⟨[], rfl, Sourced.nil _⟩
  · exact ⟨[], rfl, Sourced.nil _⟩
  · obtain ⟨tr, h1, h2⟩ := readLoop_trace dl fin fr b now
    exact ⟨tr, h1, h2.mono fun _ ⟨dt, hd⟩ => ⟨fr, fin, dt, List.mem_cons_self, hd⟩⟩

theorem tcpLoop_trace (dl : Nat) (n : Nat) (t : TcpTrace) (conns : List Conn) :
    ∃ tr, (tcpLoop dl n t conns).b = feed t.b tr ∧ Sourced (InConns conns) tr := by
  -- 1 no attempt left, 2 already done, 3 the attempt failed; 4 it succeeded, next attempt on the next connection
  fun_induction tcpLoop dl n t conns with
  | case1 | case2 => exact ⟨[], rfl, Sourced.nil _⟩
  | case3 _ t conns => exact doTCP_trace dl t.b t.now conns
  | case4 _ t conns _ _ _ _ _ ih =>
    obtain ⟨tr1, h1, h2⟩ := doTCP_trace dl t.b t.now conns
    obtain ⟨tr2, g1, g2⟩ := ih
    exact ⟨tr1 ++ tr2, by rw [feed_append, ← h1]; exact g1,
      h2.append (g2.mono fun _ ⟨fr, fin, dt, hm, hw⟩ => ⟨fr, fin, dt, List.mem_of_mem_tail hm, hw⟩)⟩

theorem udpLoop_trace (dl : Nat) (evs : List UdpEv) (o : UdpOut) :
    ∃ tr, (udpLoop dl o evs).b = feed o.b tr ∧ Sourced (fun w => ∃ dt, UdpEv.dgram dt true w ∈ evs) tr := by
  -- the cases of `udpLoop`, here and below: 1 script exhausted, 2 silence, 3 and 5 the deadline passes; 4 read error and
  -- 6 datagram from another source, the loop goes on; a datagram from the server is parsed: 7 rejected, 8 truncated,
  -- 9 both families done; 10 accepted, the loop goes on
  fun_induction udpLoop dl o evs with
  | case1 | case2 | case3 | case5 => exact ⟨[], rfl, Sourced.nil _⟩
  | case4 o dt rest _ ih | case6 o dt _ _ rest _ _ _ ih =>
    obtain ⟨tr, h1, h2⟩ := ih
    exact ⟨tr, h1, h2.mono fun _ ⟨d, hd⟩ => ⟨d, List.mem_cons_of_mem _ hd⟩⟩
  | case7 o dt fs w rest _ _ hfs b hp | case8 o dt fs w rest _ _ hfs b _ hp | case9 o dt fs w rest _ _ hfs b _ hp =>
    obtain rfl : fs = true := by simpa using hfs
    exact trace_cons hp ⟨dt, List.mem_cons_self⟩ rfl (Sourced.nil _)
  | case10 o dt fs w rest _ _ hfs b _ hp _ _ _ ih =>
    obtain rfl : fs = true := by simpa using hfs
    obtain ⟨tr, h1, h2⟩ := ih
    exact trace_cons hp ⟨dt, List.mem_cons_self⟩ h1 (h2.mono fun _ ⟨d, hd⟩ => ⟨d, List.mem_cons_of_mem _ hd⟩)

theorem udpLoop_timeout_now (dl : Nat) (evs : List UdpEv) (o : UdpOut)
    (h : (udpLoop dl o evs).why = .timeout) : (udpLoop dl o evs).now = dl := by
  fun_induction udpLoop dl o evs with
  | case1 | case2 | case3 | case5 => rfl
  | case4 _ _ _ _ ih | case6 _ _ _ _ _ _ _ _ ih | case10 _ _ _ _ _ _ _ _ _ _ _ _ _ _ ih => exact ih h
  | case7 | case8 | case9 => cases h

theorem parseMsg_udp_unfinished {b b' : Builder} {t : Nat} {w : Wire} {r : Option Hdr} (hp : parseMsg b t w true = (b', r))
    (hr : ∀ h, r = some h → h.tc = true) (h0 : b.isDone = false) : b'.isDone = false := by
  rcases (parseMsg_spec b t w true).flags with hf | ⟨h, hh, htc⟩
  · rw [hp] at hf
    unfold Builder.isDone at h0 ⊢
    rw [show b'.v4done = _ from hf.1, show b'.v6done = _ from hf.2]; exact h0
  · rw [hp] at hh; rcases htc with htc | htc
    · rw [hr h hh] at htc; cases htc
    · cases htc

theorem udpLoop_unfinished (dl : Nat) (evs : List UdpEv) (o : UdpOut) (h0 : o.b.isDone = false)
    (hs : (udpLoop dl o evs).why ≠ .done) : (udpLoop dl o evs).b.isDone = false := by
  fun_induction udpLoop dl o evs with
  | case1 | case2 | case3 | case5 => exact h0
  | case4 _ _ _ _ ih | case6 _ _ _ _ _ _ _ _ ih => exact ih h0 hs
  | case7 o _ _ _ _ _ _ _ b hp => exact parseMsg_udp_unfinished hp (fun _ h => nomatch h) h0
  | case8 o _ _ _ _ _ _ _ b hdr hp _ htc => exact parseMsg_udp_unfinished hp (fun _ h => Option.some.inj h ▸ htc) h0
  | case9 => exact absurd rfl hs
  | case10 _ _ _ _ _ _ _ _ b _ _ _ _ hnd ih => exact ih (by simpa using hnd) hs

theorem sendQueries_trace (cfg : Config) (now : Nat) (up : Upstream) :
    ∃ tr, (sendQueries cfg now up).b = feed {} tr ∧ Sourced (FromUpstream up) tr := by
  unfold sendQueries
  extract_lets b0 u s1 t
  have hs1 : ∃ tr, s1.b = feed {} tr ∧ Sourced (FromUpstream up) tr := by
    unfold s1
    split
    · obtain ⟨tr, h1, h2⟩ := udpLoop_trace (now + lookupTimeout) up.udp { b := {}, now := now }
      exact ⟨tr, h1, h2.mono fun _ => Or.inl⟩
    · exact ⟨[], rfl, Sourced.nil _⟩
  obtain ⟨tr1, h1, h2⟩ := hs1
  by_cases hc : (!s1.b.isDone && cfg.hasTCP) = true
  · obtain ⟨tr2, g1, g2⟩ := tcpLoop_trace (s1.now + lookupTimeout) tcpAttempts { b := s1.b, now := s1.now } up.conns
    rw [if_pos hc]
    exact ⟨tr1 ++ tr2, by rw [feed_append, ← h1]; exact g1, h2.append (g2.mono fun _ => Or.inr)⟩
  · rw [if_neg hc]
    exact ⟨tr1, h1, h2⟩

theorem lookup_cases (cfg : Config) (st : State) (name : String) (up : Upstream) :
    (∃ r, Spec.find st.cache name = some r ∧ r.hasExpired st.now = false ∧
      lookup cfg st name up = { st := { st with cache := (Spec.get st.cache name).1 }, out := .hit r, send := none }) ∨
    ((∀ r, Spec.find st.cache name = some r → r.hasExpired st.now = true) ∧
      (lookup cfg st name up).send = some (sendQueries cfg st.now up) ∧
      (((sendQueries cfg st.now up).b.isDone = false ∧
          (lookup cfg st name up).st.cache = (Spec.get st.cache name).1 ∧
          (lookup cfg st name up).out = match Spec.find st.cache name with | some r => .stale r | none => .fail) ∨
       ((sendQueries cfg st.now up).b.isDone = true ∧
          (lookup cfg st name up).st.cache =
            Spec.set cfg.cap (Spec.get st.cache name).1 name (sendQueries cfg st.now up).b.result ∧
          (lookup cfg st name up).out = .fresh (sendQueries cfg st.now up).b.result))) := by
  have hg := get_snd st.cache name
  -- once the probe's answer (`hg`), the expiry test and `isDone` are decided, `lookup` is a record literal and
  -- `simp` compares its fields with the disjunct claimed
  unfold lookup
  cases hf : Spec.find st.cache name with
  | none =>
    rw [hf] at hg
    refine Or.inr ⟨fun _ h => (nomatch h), ?_⟩
    cases hd : (sendQueries cfg st.now up).b.isDone <;> simp [hg, hd]
  | some r =>
    rw [hf] at hg
    cases he : r.hasExpired st.now with
    | false => exact Or.inl ⟨r, rfl, he, by simp [hg, he]⟩
    | true =>
      refine Or.inr ⟨fun r' h => Option.some.inj h ▸ he, ?_⟩
      cases hd : (sendQueries cfg st.now up).b.isDone <;> simp [hg, hd, he]

/-- the outcome hands `r` to the caller -/
def Carries (o : Outcome) (r : Result) : Prop := o = .hit r ∨ o = .fresh r ∨ o = .stale r

theorem Carries.eq {o : Outcome} {r : Result} (h : Carries o r) :
    match o with | .hit r0 | .fresh r0 | .stale r0 => r = r0 | .fail => False := by
  rcases h with h | h | h <;> subst h <;> rfl

/-- `r` is the completed result of an upstream round trip that some goroutine made *for this name*:
it probed `name` at `t0`, its round trip ended with script `up`, and `r` is what `sendQueries`
built from that script -/
def Justified (cfg : Config) (all : List Act) (name : String) (r : Result) : Prop :=
  ∃ tid t0 up, Act.probe tid name t0 ∈ all ∧ Act.finish tid up ∈ all ∧
    (sendQueries cfg t0 up).b.isDone = true ∧ r = (sendQueries cfg t0 up).b.result

/-- invariant of the interleaved system: every cache binding and every value a pending lookup carries
was produced by a lookup of that very name. `all` is the whole run and stays fixed: the justifying actions
are only asked to occur in it, so a step needs no more than that its own action does -/
def CInv (cfg : Config) (all : List Act) (s : CState) : Prop :=
  (∀ kv ∈ s.cache, Justified cfg all kv.1 kv.2) ∧
  (∀ tp ∈ s.pending, Act.probe tp.1 tp.2.name tp.2.start ∈ all ∧
      ∀ r, tp.2.cached = some r → Justified cfg all tp.2.name r)

theorem findPending_some (ps : List (Nat × Pending)) (tid : Nat) (tp : Nat × Pending)
    (h : findPending ps tid = some tp) : tp ∈ ps ∧ tp.1 = tid := by
  unfold findPending at h
  exact ⟨List.mem_of_find?_eq_some h, by simpa using List.find?_some h⟩

section
variable {cfg : Config} {all : List Act} {s : CState} (hi : CInv cfg all s)
include hi

theorem CInv.get {k : String} {cache : Spec String Result} {o : Option Result} (h : Spec.get s.cache k = (cache, o)) :
    CInv cfg all { s with cache := cache } ∧ ∀ r, o = some r → Justified cfg all k r := by
  obtain ⟨rfl, rfl⟩ := Prod.mk.inj (h.symm.trans (Prod.eta _).symm)
  exact ⟨⟨fun kv h => hi.1 kv (mem_get _ k _ h), hi.2⟩, fun r h => hi.1 (k, r) (find_mem _ _ _ (get_snd s.cache k ▸ h))⟩

theorem CInv.set {k : String} {r : Result} (hj : Justified cfg all k r) (cap : Nat) :
    CInv cfg all { s with cache := Spec.set cap s.cache k r } :=
  ⟨fun kv h => (mem_set _ _ _ _ _ h).elim (hi.1 kv) fun e => e ▸ hj, hi.2⟩

theorem CInv.filter (q : Nat × Pending → Bool) : CInv cfg all { s with pending := s.pending.filter q } :=
  ⟨hi.1, fun tp h => hi.2 tp (List.mem_filter.mp h).1⟩

theorem CInv.push (tid : Nat) (p : Pending) (hp : Act.probe tid p.name p.start ∈ all)
    (hc : ∀ r, p.cached = some r → Justified cfg all p.name r) :
    CInv cfg all { s with pending := (tid, p) :: s.pending } :=
  ⟨hi.1, fun tp h => (List.mem_cons.mp h).elim (fun e => e ▸ ⟨hp, hc⟩) (hi.2 tp)⟩

end

theorem cstep_inv (cfg : Config) (all : List Act) (s : CState) (a : Act) (ha : a ∈ all) (hi : CInv cfg all s) :
    CInv cfg all (cstep cfg s a).1 ∧
    ∀ e, (cstep cfg s a).2 = some e → ∀ r, Carries e.out r → Justified cfg all e.name r := by
  -- 1 the goroutine is busy; its probe finds 2 an unexpired entry, 3 an expired one, 4 none; 5 no lookup is pending;
  -- the round trip 6 failed, 7 completed
  fun_cases cstep cfg s a with
  | case1 | case5 => exact ⟨hi, fun _ he => nomatch he⟩
  | case2 tid name now _ cache r0 _ hg =>
    refine ⟨(hi.get hg).1, fun e he r hr => ?_⟩
    cases he
    obtain rfl : r = r0 := hr.eq
    exact (hi.get hg).2 r rfl
  | case3 tid name now _ cache r0 _ hg | case4 tid name now _ cache hg =>
    -- the probe copies out the cached value, which a lookup of this name produced
    exact ⟨(hi.get hg).1.push tid _ ha (hi.get hg).2, fun _ he => nomatch he⟩
  | case6 tid up tp hp p so pending hd =>
    -- only the value the probe copied out can be served
    obtain ⟨hmem, -⟩ := findPending_some _ _ _ hp
    refine ⟨hi.filter _, fun e he r hr => ?_⟩
    cases he
    cases hc : p.cached with
    | none => rw [hc] at hr; exact hr.eq.elim
    | some r0 => rw [hc] at hr; obtain rfl : r = r0 := hr.eq; exact (hi.2 tp hmem).2 r hc
  | case7 tid up tp hp p so pending hd =>
    obtain ⟨hmem, htid⟩ := findPending_some _ _ _ hp
    have hj : Justified cfg all p.name so.b.result :=
      ⟨tp.1, p.start, up, (hi.2 tp hmem).1, htid ▸ ha, by simpa using hd, rfl⟩
    refine ⟨(hi.filter _).set hj cfg.cap, fun e he r hr => ?_⟩
    cases he
    obtain rfl : r = _ := hr.eq
    exact hj

theorem crun_inv (cfg : Config) (all acts : List Act) (s : CState) (ha : ∀ a ∈ acts, a ∈ all) (hi : CInv cfg all s) :
    ∀ e ∈ (crun cfg s acts).2, ∀ r, Carries e.out r → Justified cfg all e.name r := by
  fun_induction crun cfg s acts with
  | case1 => exact fun _ h => nomatch h
  | case2 s a rest s1 ev h1 s2 evs h2 ih =>
    obtain ⟨g1, g2⟩ := cstep_inv cfg all s a (ha a List.mem_cons_self) hi
    rw [h1] at g1 g2
    have g3 := ih (fun x hx => ha x (List.mem_cons_of_mem _ hx)) g1
    rw [h2] at g3
    intro e hmem r hr
    cases ev with
    | none => exact g3 e hmem r hr
    | some e0 =>
      rcases List.mem_cons.mp hmem with h | h
      · exact h ▸ g2 e0 rfl r (h ▸ hr)
      · exact g3 e h r hr

end SSV.Dns
