import SSV.Proofs.Handshake
import SSV.Model.HandshakeHttp
import SSV.Proofs.Split
/-
C07, HTTP CONNECT. A successful run of the bufio line reader, of the head reader and of the request loop took whole
heads off the stream and nothing else; and the Basic token map attributes `base64(user:pass)` to `user` exactly when
the pair is configured.
-/
namespace SSV.HS
open SSV SSV.Gen

theorem splitNl_spec (b l r : Bytes) (h : splitNl b = some (l, r)) : b = l ++ LF :: r ∧ LF ∉ l := by
  fun_induction splitNl b generalizing l r with
  -- no byte; a line feed first; another byte first and a line feed behind it; none behind it
  | case1 => cases h
  | case2 xs => cases h; simp
  | case3 x xs hx l' r' hs ih =>
    cases h
    obtain ⟨e, hn⟩ := ih l' r' hs
    exact ⟨by rw [e]; simp, by simp; exact ⟨fun e => hx e.symm, hn⟩⟩
  | case4 => cases h

theorem readLineC_spec (buf : Bytes) (cs : Chunks) (l buf' : Bytes) (cs' : Chunks)
    (h : readLineC buf cs = .ok (l, buf', cs')) :
    buf ++ cs.flatten = l ++ LF :: (buf' ++ cs'.flatten) ∧ LF ∉ l := by
  fun_induction readLineC buf cs with
  -- a line end already in the buffer: no transport read
  | case1 _ _ _ hs | case3 _ _ _ _ _ hs =>
    cases h
    obtain ⟨e, hn⟩ := splitNl_spec _ _ _ hs
    exact ⟨by simp [e], hn⟩
  -- transport at its end; buffer full; no line end within a full buffer
  | case2 | case4 | case7 => cases h
  -- the next chunk fits: it is appended and the search goes on
  | case5 _ _ _ _ _ _ _ ih =>
    obtain ⟨e, hn⟩ := ih h
    exact ⟨by simpa using e, hn⟩
  -- the next chunk fills the buffer: only its first `k` bytes are taken, the rest stays on the transport
  | case6 buf c _ _ _ k _ _ _ hs2 =>
    cases h
    obtain ⟨e, hn⟩ := splitNl_spec _ _ _ hs2
    refine ⟨?_, hn⟩
    rw [List.flatten_cons, ← List.take_append_drop k c, List.append_assoc, ← List.append_assoc buf, e]
    simp

theorem colon_split (c : UInt8) (u u' p p' : Bytes) (h : u ++ c :: p = u' ++ c :: p') (hu : c ∉ u) (hu' : c ∉ u') :
    u = u' ∧ p = p' := by
  have e := congrArg (cutAt c) h
  rw [cutAt_no_sep_append c u _ hu, cutAt_no_sep_append c u' _ hu'] at e
  simpa [cutAt] using e

theorem lookupToken_spec (enc : Bytes → Bytes) (henc : ∀ a b, enc a = enc b → a = b)
    (users : List (Bytes × Bytes)) (hu : ∀ x ∈ users, COLON ∉ x.1) (u p : Bytes) (hcu : COLON ∉ u) :
    lookupToken (tokenMap enc users) (enc (u ++ [COLON] ++ p)) = if (u, p) ∈ users then some u else none := by
  -- the token map is looked up like the user list: `lookupToken tk t` is `(lookupUser tk t).map (·.2)` by definition
  show (lookupUser _ _).map _ = _
  cases hf : lookupUser (tokenMap enc users) (enc (u ++ [COLON] ++ p)) with
  | some e =>
    obtain ⟨h1, he⟩ := lookupUser_some hf
    simp only [tokenMap, List.mem_map] at he
    obtain ⟨⟨u2, p2⟩, hm2, rfl⟩ := he
    have := henc _ _ h1
    simp only [List.append_assoc, List.singleton_append] at this
    obtain ⟨rfl, rfl⟩ := colon_split COLON u2 u p2 p this (hu _ hm2) hcu
    simp [hm2]
  | none =>
    rw [if_neg]; · rfl
    intro hm
    exact absurd (beq_self_eq_true _) (List.find?_eq_none.mp hf (enc (u ++ [COLON] ++ p), u)
      (by simp only [List.mem_reverse, tokenMap, List.mem_map]; exact ⟨(u, p), hm, rfl⟩))

/-- the bytes of a head given its raw lines (each without the `\n`) -/
def headBytes (raw : List Bytes) : Bytes := (raw.map (· ++ [LF])).flatten

/-- raw lines of exactly one head: no line contains `\n`, every line but the last is non-blank, the last is blank
(so the head is the shortest prefix of the stream that ends with a blank line) -/
def IsHead (raw : List Bytes) : Prop :=
  ∃ body last, raw = body ++ [last] ∧ (∀ l ∈ raw, LF ∉ l) ∧
    (∀ l ∈ body, (stripCR l).isEmpty = false) ∧ (stripCR last).isEmpty = true

theorem readLinesC_head (fuel : Nat) (buf : Bytes) (cs : Chunks) (ls : List Bytes) (buf' : Bytes) (cs' : Chunks)
    (h : readLinesC fuel buf cs = .ok (ls, buf', cs')) :
    ∃ raw, IsHead raw ∧ buf ++ cs.flatten = headBytes raw ++ (buf' ++ cs'.flatten) := by
  fun_induction readLinesC fuel buf cs generalizing ls with
  -- fuel out; the line reader failed; the rest of the head failed
  | case1 | case2 | case4 => cases h
  -- a blank line ends the head
  | case3 _ _ _ l _ _ hr _ hb =>
    cases h
    obtain ⟨e1, hnl⟩ := readLineC_spec _ _ _ _ _ hr
    exact ⟨[l], ⟨[], l, rfl, by simpa using hnl, by simp, hb⟩, by rw [e1]; simp [headBytes]⟩
  -- a non-blank line, then the rest of the head
  | case5 _ _ _ l _ _ hr _ hb _ _ _ hr2 ih =>
    cases h
    obtain ⟨e1, hnl⟩ := readLineC_spec _ _ _ _ _ hr
    obtain ⟨raw2, ⟨body2, last2, er, hn2, hb2, hl2⟩, e2⟩ := ih _ hr2
    exact ⟨l :: raw2, ⟨l :: body2, last2, by rw [er]; simp, List.forall_mem_cons.mpr ⟨hnl, hn2⟩,
      List.forall_mem_cons.mpr ⟨by simpa using hb, hb2⟩, hl2⟩, by rw [e1, e2]; simp [headBytes]⟩

theorem readHeadM_head (s s' : St) (ls : List Bytes) (h : readHeadM s = (.ok ls, s')) :
    s'.out = s.out ∧ ∃ raw, IsHead raw ∧ s.stream = headBytes raw ++ s'.stream := by
  fun_cases readHeadM s with
  | case1 _ _ _ hr =>
    rw [readHeadM, hr] at h
    cases h
    obtain ⟨raw, hh, e⟩ := readLinesC_head _ _ _ _ _ _ hr
    exact ⟨rfl, raw, hh, e⟩
  -- the line reader failed
  | case2 _ hr => rw [readHeadM, hr] at h; cases h

theorem serverLoopH_heads (tk : Option (List (Bytes × Bytes))) (fuel : Nat) (s s' : St) (r : Bytes × Head)
    (h : serverLoopH tk fuel s = (.ok r, s')) :
    ∃ heads : List (List Bytes), heads ≠ [] ∧ (∀ hd ∈ heads, IsHead hd) ∧
      s.stream = (heads.map headBytes).flatten ++ s'.stream ∧
      s'.out = s.out ++ (List.replicate (heads.length - 1) C07.status407).flatten := by
  induction fuel generalizing s with
  | zero => simp [serverLoopH] at h
  | succ fuel ih =>
    unfold serverLoopH at h
    obtain ⟨ls, s1, hr, h1⟩ := bind_ok_inv h
    obtain ⟨hd, _, hp, h2⟩ := bind_ok_inv h1
    obtain ⟨_, rfl⟩ := liftE_ok_inv hp
    obtain ⟨ho, raw, hraw, e1⟩ := readHeadM_head _ _ _ hr
    -- a request that passes the gate ends the loop in the state behind its head
    have one : s' = s1 → ∃ heads : List (List Bytes), heads ≠ [] ∧ (∀ hd ∈ heads, IsHead hd) ∧
        s.stream = (heads.map headBytes).flatten ++ s'.stream ∧
        s'.out = s.out ++ (List.replicate (heads.length - 1) C07.status407).flatten := by
      rintro rfl
      exact ⟨[raw], by simp, by simpa using hraw, by simpa using e1, by simp [ho]⟩
    cases tk with
    | none => exact one (Prod.mk.inj h2).2.symm
    | some tk' =>
      dsimp only at h2
      cases ha : basicAuth hd.headers tk' with
      | some u => rw [ha] at h2; exact one (Prod.mk.inj h2).2.symm
      | none =>
        rw [ha] at h2
        obtain ⟨_, _, hw, h⟩ := bind_ok_inv h2
        cases hw
        by_cases hc : hd.close = true
        · simp [hc] at h
        · rw [if_neg hc] at h
          -- answered 407, not closed: the rest of the run starts behind this head with the 407 written
          obtain ⟨heads2, hne, hall, e2, o2⟩ := ih _ h
          refine ⟨raw :: heads2, by simp, List.forall_mem_cons.mpr ⟨hraw, hall⟩, ?_, ?_⟩
          · rw [e1, show s1.stream = St.stream { s1 with out := s1.out ++ C07.status407 } from rfl, e2]; simp
          · rw [o2]
            cases heads2 with
            | nil => exact absurd rfl hne
            | cons y ys => simp [ho, List.replicate_succ]

/-- the status line and header checks behind `ClientConnect`'s response-head read touch neither the transport nor the output -/
theorem clientConnectH_ok (target : Addr) (hdr : Bytes) (s s' : St) (h : clientConnectH target hdr s = (.ok (), s')) :
    ∃ ls w, readHeadM { s with out := s.out ++ w } = (.ok ls, s') := by
  unfold clientConnectH at h
  simp only [C07.connectParts] at h
  obtain ⟨_, _, hw, h1⟩ := bind_ok_inv h
  cases hw
  obtain ⟨ls, s1, hr, h2⟩ := bind_ok_inv h1
  refine ⟨ls, _, hr.trans ?_⟩
  cases ls with
  | nil => cases h2
  | cons sl hl =>
    obtain ⟨code, _, hp, h3⟩ := bind_ok_inv h2
    obtain ⟨_, rfl⟩ := liftE_ok_inv hp
    obtain ⟨_, _, hp, h4⟩ := bind_ok_inv h3
    obtain ⟨_, rfl⟩ := liftE_ok_inv hp
    split at h4 <;> cases h4
    rfl

theorem headBytes_getLast {raw : List Bytes} (h : IsHead raw) : (headBytes raw).getLast? = some LF := by
  obtain ⟨body, last, rfl, _⟩ := h
  simp [headBytes, List.getLast?_append]

theorem serverLoopH_spec (tk : Option (List (Bytes × Bytes))) (fuel : Nat) (s s' : St) (r : Bytes × Head)
    (h : serverLoopH tk fuel s = (.ok r, s')) :
    ∃ consumed, s.stream = consumed ++ s'.stream ∧ consumed.getLast? = some LF := by
  obtain ⟨heads, hne, hall, e, _⟩ := serverLoopH_heads tk fuel s s' r h
  refine ⟨_, e, ?_⟩
  rw [← List.dropLast_concat_getLast hne]
  simp [List.getLast?_append, headBytes_getLast (hall _ (List.getLast_mem hne))]

end SSV.HS
