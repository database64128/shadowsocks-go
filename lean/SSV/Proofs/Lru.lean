import SSV.Proofs.LruSpec
/-
Refinement of the pointer-level LRU model to `Lru.Spec`. The list is kept as doubly linked
segments (`SegT`); every operation is a few pointer patches, each of which overwrites one
allocated node without changing its key (`Patched`). Unlinking from and linking to a possibly
empty neighbouring segment, where the code updates `head`/`tail` instead of a node, is done once
(`relinkNext_seg`, `relinkPrev_seg`), so `remove` and `moveToTail` do not split on whether the node
has a predecessor. `Rep cap c L` is the whole invariant: the layout of `L`, the index, the capacity and the
allocation discipline (`HB`). Each operation lemma takes `Rep` to `Rep` of the list after it and gives, from
the same patches, that nodes stay allocated under their keys (`Patched`, `HK`).
-/
namespace SSV.Lru
variable {K V : Type} {cap : Nat}

/-- a represented entry: node id, key, value -/
abbrev Tr (K V : Type) := Nat × K × V

/-- what the specification sees of a represented entry: key and value, without the node id -/
def ent (t : Tr K V) : K × V := (t.2.1, t.2.2)

def nextOf (rest : List (Tr K V)) (nx : Option Nat) : Option Nat :=
  match rest with
  | [] => nx
  | u :: _ => some u.1

def lastOf (l : List (Tr K V)) (p : Option Nat) : Option Nat :=
  match l.getLast? with
  | some t => some t.1
  | none => p

/-- `l` is laid out in the heap as a doubly linked segment entered with `prev = p` and left with `next = nx` -/
def SegT (h : Heap K V) : Option Nat → List (Tr K V) → Option Nat → Prop
  | _, [], _ => True
  | p, t :: rest, nx =>
    h t.1 = some { prev := p, next := nextOf rest nx, key := t.2.1, val := t.2.2 } ∧ SegT h (some t.1) rest nx

theorem lastOf_nil (p : Option Nat) : lastOf ([] : List (Tr K V)) p = p := rfl

theorem lastOf_append (X Y : List (Tr K V)) (p : Option Nat) : lastOf (X ++ Y) p = lastOf Y (lastOf X p) := by
  unfold lastOf
  rw [List.getLast?_append]
  cases Y.getLast? <;> rfl

theorem lastOf_cons (t : Tr K V) (l : List (Tr K V)) (p : Option Nat) :
    lastOf (t :: l) p = lastOf l (some t.1) := lastOf_append [t] l p

theorem lastOf_append_singleton (l : List (Tr K V)) (t : Tr K V) (p : Option Nat) :
    lastOf (l ++ [t]) p = some t.1 := lastOf_append l [t] p

theorem nextOf_append (A B : List (Tr K V)) (nx : Option Nat) :
    nextOf (A ++ B) nx = nextOf A (nextOf B nx) := by
  cases A <;> rfl

theorem upd_self (h : Heap K V) (i : Nat) (n : Node K V) : upd h i n i = some n := if_pos rfl

theorem nodup_map_append {α β : Type} {f : α → β} {A B : List α} (nd : ((A ++ B).map f).Nodup) :
    (A.map f).Nodup ∧ (B.map f).Nodup ∧ ∀ a ∈ A, ∀ b ∈ B, f a ≠ f b := by
  rw [List.map_append, List.nodup_append] at nd
  exact ⟨nd.1, nd.2.1, fun a ha b hb => nd.2.2 _ (List.mem_map_of_mem ha) _ (List.mem_map_of_mem hb)⟩

theorem nodup_map_remove {α β : Type} (f : α → β) (A B : List α) (t : α) (nd : ((A ++ t :: B).map f).Nodup) :
    ((A ++ B).map f).Nodup ∧ ∀ u ∈ A ++ B, f u ≠ f t := by
  have := ((List.perm_middle (a := t) (l₁ := A) (l₂ := B)).map f).nodup_iff.mp nd
  rw [List.map_cons, List.nodup_cons] at this
  exact ⟨this.2, fun u hu e => this.1 (e ▸ List.mem_map_of_mem hu)⟩

theorem nodup_map_snoc {α β : Type} (f : α → β) (L : List α) (x : α) (nd : (L.map f).Nodup)
    (hx : ∀ u ∈ L, f u ≠ f x) : ((L ++ [x]).map f).Nodup := by
  rw [List.map_append, List.nodup_append]
  refine ⟨nd, by simp, fun a ha b hb => ?_⟩
  obtain ⟨u, hu, rfl⟩ := List.mem_map.mp ha
  cases List.mem_singleton.mp hb
  exact hx u hu

theorem segT_append (h : Heap K V) (A B : List (Tr K V)) (p nx : Option Nat) :
    SegT h p (A ++ B) nx ↔ SegT h p A (nextOf B nx) ∧ SegT h (lastOf A p) B nx := by
  induction A generalizing p with
  | nil => simp [SegT, lastOf_nil]
  | cons t rest ih => simp only [List.cons_append, SegT, ih, lastOf_cons, nextOf_append, and_assoc]

theorem segT_congr {h h' : Heap K V} {L : List (Tr K V)} {p nx : Option Nat}
    (he : ∀ u ∈ L, h' u.1 = h u.1) (hs : SegT h p L nx) : SegT h' p L nx := by
  induction L generalizing p with
  | nil => trivial
  | cons t rest ih =>
    exact ⟨(he t List.mem_cons_self).trans hs.1, ih (fun u hu => he u (List.mem_cons_of_mem _ hu)) hs.2⟩

theorem segT_upd {h : Heap K V} {L : List (Tr K V)} {p nx : Option Nat} (i : Nat) (n : Node K V)
    (hi : ∀ u ∈ L, u.1 ≠ i) (hs : SegT h p L nx) : SegT (upd h i n) p L nx :=
  segT_congr (fun u hu => if_neg (hi u hu)) hs

theorem segT_mem {h : Heap K V} {L : List (Tr K V)} {p nx : Option Nat} (hs : SegT h p L nx) {u : Tr K V} (hu : u ∈ L) :
    ∃ n, h u.1 = some n := by
  obtain ⟨A, B, rfl⟩ := List.append_of_mem hu
  exact ⟨_, ((segT_append ..).mp hs).2.1⟩

theorem segT_set_prev (h : Heap K V) (b : Tr K V) (B : List (Tr K V)) (p q nx : Option Nat)
    (hs : SegT h p (b :: B) nx) (nd : ((b :: B).map (·.1)).Nodup) :
    ∃ n, h b.1 = some n ∧ SegT (upd h b.1 { n with prev := q }) q (b :: B) nx := by
  refine ⟨_, hs.1, upd_self _ _ _, segT_upd _ _ (fun u hu e => ?_) hs.2⟩
  exact (List.nodup_cons.mp nd).1 (List.mem_map.mpr ⟨u, hu, e⟩)

/-- every allocated node keeps its key (heap `h'` extends `h` key-wise) -/
def HK (h h' : Heap K V) : Prop := ∀ i n, h i = some n → ∃ n', h' i = some n' ∧ n'.key = n.key

/-- no node is allocated at or beyond the allocation counter -/
def HB (h : Heap K V) (fr : Nat) : Prop := ∀ i, fr ≤ i → h i = none

theorem HK.refl (h : Heap K V) : HK h h := fun _ n hn => ⟨n, hn, rfl⟩

theorem HK.trans {h1 h2 h3 : Heap K V} (a : HK h1 h2) (b : HK h2 h3) : HK h1 h3 := by
  intro i n hn
  obtain ⟨n2, e2, k2⟩ := a i n hn
  obtain ⟨n3, e3, k3⟩ := b i n2 e2
  exact ⟨n3, e3, k3.trans k2⟩

/-- `h'` is `h` with allocated nodes overwritten by nodes of the same key -/
def Patched (h h' : Heap K V) : Prop :=
  ∀ i, (h i = none → h' i = none) ∧ ∀ n, h i = some n → ∃ n', h' i = some n' ∧ n'.key = n.key

theorem Patched.hk {h h' : Heap K V} (p : Patched h h') : HK h h' := fun i => (p i).2
theorem Patched.none {h h' : Heap K V} (p : Patched h h') {i : Nat} (hi : h i = none) : h' i = none := (p i).1 hi

theorem Patched.bound {h h' : Heap K V} (p : Patched h h') {fr : Nat} (hb : HB h fr) : HB h' fr := fun i hi => p.none (hb i hi)

theorem Patched.refl (h : Heap K V) : Patched h h := fun i => ⟨id, HK.refl h i⟩

theorem Patched.trans {h1 h2 h3 : Heap K V} (a : Patched h1 h2) (b : Patched h2 h3) : Patched h1 h3 :=
  fun i => ⟨fun hn => Patched.none b (Patched.none a hn), (Patched.hk a).trans (Patched.hk b) i⟩

theorem patched_upd {h : Heap K V} {i : Nat} {n n' : Node K V} (hi : h i = some n) (hk : n'.key = n.key) :
    Patched h (upd h i n') := by
  intro j
  by_cases hj : j = i
  · subst hj
    exact ⟨fun hn => absurd (hi.symm.trans hn) (by simp), fun m hm => ⟨n', upd_self _ _ _, Option.some.inj (hi.symm.trans hm) ▸ hk⟩⟩
  · have e : upd h i n' j = h j := if_neg hj
    exact ⟨fun hn => e.trans hn, fun m hm => ⟨m, e.trans hm, rfl⟩⟩

/-- pointer stability + allocation discipline, as one relation between two cache states -/
def Ext (c c' : Cache K V) : Prop :=
  HK c.heap c'.heap ∧ c.fresh ≤ c'.fresh ∧ (HB c.heap c.fresh → HB c'.heap c'.fresh)

theorem Ext.refl (c : Cache K V) : Ext c c := ⟨HK.refl _, Nat.le_refl _, id⟩
theorem Ext.trans {a b c : Cache K V} (x : Ext a b) (y : Ext b c) : Ext a c :=
  ⟨x.1.trans y.1, Nat.le_trans x.2.1 y.2.1, fun h => y.2.2 (x.2.2 h)⟩

/-- under the allocation discipline, every node keeps its key and the discipline is kept -/
def Stable (c c' : Cache K V) : Prop := HB c.heap c.fresh → HK c.heap c'.heap ∧ HB c'.heap c'.fresh

theorem Ext.stable {c c' : Cache K V} (e : Ext c c') : Stable c c' := fun hb => ⟨e.1, e.2.2 hb⟩

/-- `node.prev.next = y`, or `c.head = y` when there is no predecessor -/
def relinkNext (h : Heap K V) (head p y : Option Nat) : Option (Heap K V × Option Nat) :=
  match p with
  | some p => do
      let pn ← h p
      pure (upd h p { pn with next := y }, head)
  | none => pure (h, y)

/-- `node.next.prev = y`, or `c.tail = y` when there is no successor -/
def relinkPrev (h : Heap K V) (tail q y : Option Nat) : Option (Heap K V × Option Nat) :=
  match q with
  | some q => do
      let qn ← h q
      pure (upd h q { qn with prev := y }, tail)
  | none => pure (h, y)

theorem relinkNext_seg (h : Heap K V) (A : List (Tr K V)) (x y : Option Nat)
    (hs : SegT h none A x) (nd : (A.map (·.1)).Nodup) :
    ∃ h', relinkNext h (nextOf A x) (lastOf A none) y = some (h', nextOf A y) ∧ SegT h' none A y ∧
      (∀ j, (∀ a ∈ A, a.1 ≠ j) → h' j = h j) ∧ Patched h h' := by
  rcases List.eq_nil_or_concat A with rfl | ⟨A', a, rfl⟩
  · exact ⟨h, rfl, trivial, fun _ _ => rfl, Patched.refl h⟩
  -- the last node `a` of the segment gets the new `next`
  rw [List.concat_eq_append] at *
  obtain ⟨hA, ha, -⟩ := (segT_append ..).mp hs
  refine ⟨upd h a.1 { prev := lastOf A' none, next := y, key := a.2.1, val := a.2.2 }, ?_,
    (segT_append ..).mpr ⟨segT_upd _ _ (fun u hu => (nodup_map_append nd).2.2 u hu a List.mem_cons_self) hA,
      upd_self _ _ _, trivial⟩,
    fun j hj => if_neg (hj a (List.mem_append_right _ List.mem_cons_self)).symm, patched_upd ha rfl⟩
  rw [lastOf_append_singleton, show nextOf (A' ++ [a]) x = nextOf (A' ++ [a]) y by cases A' <;> rfl]
  simp only [relinkNext, ha, Option.bind_eq_bind, Option.bind_some, Option.pure_def]

theorem relinkPrev_seg (h : Heap K V) (B : List (Tr K V)) (p y : Option Nat)
    (hs : SegT h p B none) (nd : (B.map (·.1)).Nodup) :
    ∃ h', relinkPrev h (lastOf B p) (nextOf B none) y = some (h', lastOf B y) ∧ SegT h' y B none ∧
      (∀ j, (∀ b ∈ B, b.1 ≠ j) → h' j = h j) ∧ Patched h h' := by
  cases B with
  | nil => exact ⟨h, rfl, trivial, fun _ _ => rfl, Patched.refl h⟩
  | cons b B' =>
    obtain ⟨n, hn, hs'⟩ := segT_set_prev h b B' p y none hs nd
    refine ⟨_, ?_, hs', fun j hj => if_neg (hj b List.mem_cons_self).symm, patched_upd hn rfl⟩
    simp only [lastOf_cons, nextOf, relinkPrev, hn, Option.bind_eq_bind, Option.bind_some, Option.pure_def]

/-- the pointer structure represents the recency-ordered list `L` (head = least recently used), within capacity `cap`
and with nothing allocated at or beyond `fresh` -/
structure Rep (cap : Nat) (c : Cache K V) (L : List (Tr K V)) : Prop where
  hcap : c.cap = cap
  ids : (L.map (·.1)).Nodup
  keys : (L.map (·.2.1)).Nodup
  seg : SegT c.heap none L none
  head : c.head = nextOf L none
  tail : c.tail = lastOf L none
  idx : c.idx.Perm (L.map (fun t => (t.2.1, t.1)))
  bound : HB c.heap c.fresh
  len : L.length ≤ cap
  pos : 0 < cap

theorem Rep.split {c : Cache K V} {A B : List (Tr K V)} {t : Tr K V} (hr : Rep cap c (A ++ t :: B)) :
    SegT c.heap none A (some t.1) ∧
    c.heap t.1 = some { prev := lastOf A none, next := nextOf B none, key := t.2.1, val := t.2.2 } ∧
    SegT c.heap (some t.1) B none ∧
    c.head = nextOf A (some t.1) ∧ c.tail = lastOf B (some t.1) := by
  obtain ⟨hA, ht, hB⟩ := (segT_append ..).mp hr.seg
  exact ⟨hA, ht, hB, by rw [hr.head, nextOf_append]; rfl, by rw [hr.tail, lastOf_append, lastOf_cons]⟩

theorem insertTail_eq (c : Cache K V) (k : K) (v : V) : insertTail c k v =
    (relinkNext (upd c.heap c.fresh { prev := c.tail, next := none, key := k, val := v }) c.head c.tail (some c.fresh)).map
      fun r => { c with heap := r.1, idx := (k, c.fresh) :: c.idx, head := r.2, tail := some c.fresh, fresh := c.fresh + 1 } := by
  unfold insertTail relinkNext
  cases c.tail with
  | none => rfl
  | some t =>
    dsimp only
    cases upd c.heap c.fresh { prev := some t, next := none, key := k, val := v } t <;> rfl

theorem link_tail (h : Heap K V) (X : List (Tr K V)) (t : Tr K V) (hs : SegT h none X none)
    (nd : (X.map (·.1)).Nodup) (hne : ∀ u ∈ X, u.1 ≠ t.1) :
    ∃ h', relinkNext (upd h t.1 { prev := lastOf X none, next := none, key := t.2.1, val := t.2.2 })
        (nextOf X none) (lastOf X none) (some t.1) = some (h', nextOf (X ++ [t]) none) ∧
      SegT h' none (X ++ [t]) none ∧
      Patched (upd h t.1 { prev := lastOf X none, next := none, key := t.2.1, val := t.2.2 }) h' := by
  obtain ⟨h', e, s, f, p⟩ := relinkNext_seg _ X none (some t.1) (segT_upd t.1 _ hne hs) nd
  exact ⟨h', by rw [nextOf_append]; exact e,
    (segT_append ..).mpr ⟨s, (f _ hne).trans (upd_self _ _ _), trivial⟩, p⟩

theorem insertTail_spec (c : Cache K V) (L : List (Tr K V)) (k : K) (v : V) (hr : Rep cap c L)
    (hk : ∀ t ∈ L, t.2.1 ≠ k) (hroom : L.length < cap) :
    ∃ c', insertTail c k v = some c' ∧ Rep cap c' (L ++ [(c.fresh, k, v)]) ∧ HK c.heap c'.heap := by
  -- the new node sits on an address that was never allocated
  have hfr : ∀ u ∈ L, u.1 ≠ c.fresh := fun u hu e => by
    obtain ⟨n, hn⟩ := segT_mem hr.seg hu
    rw [e, hr.bound _ (Nat.le_refl _)] at hn; cases hn
  have h0 : ∀ j, j ≠ c.fresh → upd c.heap c.fresh { prev := c.tail, next := none, key := k, val := v } j = c.heap j :=
    fun j hj => if_neg hj
  obtain ⟨h1, e1, s1, p1⟩ := link_tail c.heap L (c.fresh, k, v) hr.seg hr.ids hfr
  rw [← hr.head, ← hr.tail] at e1
  rw [← hr.tail] at p1
  refine ⟨{ c with heap := h1, idx := (k, c.fresh) :: c.idx, head := nextOf (L ++ [(c.fresh, k, v)]) none, tail := some c.fresh, fresh := c.fresh + 1 },
    ?_, ⟨hr.hcap, ?_, ?_, s1, rfl, ?_, ?_, ?_, by rw [List.length_append]; exact hroom, hr.pos⟩, ?_⟩
  · rw [insertTail_eq, e1]; rfl
  · exact nodup_map_snoc (·.1) L (c.fresh, k, v) hr.ids hfr
  · exact nodup_map_snoc (·.2.1) L (c.fresh, k, v) hr.keys hk
  · exact (lastOf_append_singleton L (c.fresh, k, v) none).symm
  · rw [List.map_append]
    exact (List.Perm.cons _ hr.idx).trans (List.perm_append_singleton _ _).symm
  · exact fun j (hj : c.fresh + 1 ≤ j) => p1.none ((h0 j (by omega)).trans (hr.bound j (by omega)))
  · intro i n hn
    have hi : i ≠ c.fresh := fun e => by rw [e, hr.bound c.fresh (Nat.le_refl _)] at hn; cases hn
    exact p1.hk i n ((h0 i hi).trans hn)

theorem moveToTail_eq (c : Cache K V) (i : Nat) : moveToTail c i = (do
    let n ← c.heap i
    match n.next with
    | none => pure c
    | some q => do
      let qn ← c.heap q
      let (heap, head) ← relinkNext (upd c.heap q { qn with prev := n.prev }) c.head n.prev n.next
      let _ ← c.tail
      let n' ← heap i
      let (heap, head) ← relinkNext (upd heap i { n' with prev := c.tail, next := none }) head c.tail (some i)
      pure { c with heap := heap, head := head, tail := some i }) := by
  unfold moveToTail
  refine Option.bind_congr fun n _ => ?_
  cases n.next with
  | none => rfl
  | some q =>
    refine Option.bind_congr fun qn _ => Option.bind_congr fun r _ => ?_
    cases c.tail with
    | none => rfl
    | some t =>
      simp only [Option.bind_eq_bind, Option.bind_some]
      refine Option.bind_congr fun n' _ => ?_
      simp only [relinkNext]
      cases upd r.1 i { n' with prev := some t, next := none } t <;> rfl

theorem moveToTail_spec (c : Cache K V) (A B : List (Tr K V)) (t : Tr K V) (hr : Rep cap c (A ++ t :: B)) :
    ∃ c', moveToTail c t.1 = some c' ∧ Rep cap c' (A ++ B ++ [t]) ∧ Patched c.heap c'.heap := by
  obtain ⟨hA, ht, hB, hhead, htail⟩ := hr.split
  have hperm : (A ++ B ++ [t]).Perm (A ++ t :: B) := (List.perm_append_singleton _ _).trans List.perm_middle.symm
  have hids : ((A ++ B ++ [t]).map (·.1)).Nodup := (hperm.map _).nodup_iff.mpr hr.ids
  have hkeys : ((A ++ B ++ [t]).map (·.2.1)).Nodup := (hperm.map _).nodup_iff.mpr hr.keys
  have hidx : c.idx.Perm ((A ++ B ++ [t]).map (fun t => (t.2.1, t.1))) := hr.idx.trans (hperm.map _).symm
  have hlen : (A ++ B ++ [t]).length ≤ cap := hperm.length_eq ▸ hr.len
  cases B with
  | nil =>
    refine ⟨c, ?_, (List.append_nil A).symm ▸ hr, Patched.refl _⟩
    rw [moveToTail_eq, ht]
    rfl
  | cons b B' =>
    obtain ⟨hidsX, hne⟩ := nodup_map_remove (·.1) A (b :: B') t hr.ids
    obtain ⟨ndA, ndB, hAB⟩ := nodup_map_append hidsX
    have hbA : ∀ u ∈ A, u.1 ≠ b.1 := fun u hu => hAB u hu b List.mem_cons_self
    have htb : c.heap t.1 = some { prev := lastOf A none, next := some b.1, key := t.2.1, val := t.2.2 } := ht
    have htl : c.tail = lastOf (A ++ b :: B') none := by rw [htail, lastOf_append]; rfl
    obtain ⟨a, ha⟩ : ∃ a, c.tail = some a := ⟨_, htail⟩
    -- node.next.prev = node.prev
    obtain ⟨nb, hb, sB1⟩ := segT_set_prev c.heap b B' (some t.1) (lastOf A none) none hB ndB
    -- node.prev.next = node.next
    obtain ⟨h2, e2, sA2, f2, p2⟩ := relinkNext_seg _ A (some t.1) (some b.1) (segT_upd b.1 _ hbA hA) ndA
    have sX2 : SegT h2 none (A ++ b :: B') none :=
      (segT_append ..).mpr ⟨sA2, segT_congr (fun u hu => f2 _ fun w hw => hAB w hw u hu) sB1⟩
    have ht2 : h2 t.1 = _ := (f2 _ fun w hw => hne w (List.mem_append_left _ hw)).trans
      ((if_neg (hne b (List.mem_append_right _ List.mem_cons_self)).symm).trans ht)
    -- the node becomes the successor of the old tail
    obtain ⟨h4, e4, s4, p4⟩ := link_tail h2 (A ++ b :: B') t sX2 hidsX hne
    rw [← htl, show nextOf (A ++ b :: B') none = nextOf A (some b.1) by rw [nextOf_append]; rfl] at e4
    rw [← htl] at p4
    have pp : Patched c.heap h4 := (((patched_upd (n' := { nb with prev := lastOf A none }) hb rfl).trans p2).trans
        (patched_upd (n' := { prev := c.tail, next := none, key := t.2.1, val := t.2.2 }) ht2 rfl)).trans p4
    refine ⟨{ c with heap := h4, head := nextOf (A ++ b :: B' ++ [t]) none, tail := some t.1 }, ?_,
      ⟨hr.hcap, hids, hkeys, s4, rfl, (lastOf_append_singleton ..).symm, hidx, pp.bound hr.bound, hlen, hr.pos⟩, pp⟩
    -- the lookups in program order: the node, its successor, the predecessor side, the tail, the node again, the link
    rw [moveToTail_eq, htb]
    simp only [Option.bind_eq_bind, Option.bind_some, hb, hhead, e2, ha, ht2, Option.pure_def]
    rw [← ha, e4]; rfl

theorem Rep.idx_length {c : Cache K V} {L : List (Tr K V)} (hr : Rep cap c L) : c.idx.length = L.length := by
  rw [hr.idx.length_eq, List.length_map]

theorem Rep.set_val {c : Cache K V} {A B : List (Tr K V)} {i : Nat} {k : K} {v0 : V}
    (hr : Rep cap c (A ++ (i, k, v0) :: B)) (v : V) :
    ∃ n, c.heap i = some n ∧ Rep cap { c with heap := upd c.heap i { n with val := v } } (A ++ (i, k, v) :: B) ∧
      Patched c.heap (upd c.heap i { n with val := v }) := by
  obtain ⟨hA, ht, hB, -, -⟩ := hr.split
  have hne := (nodup_map_remove (·.1) A B (i, k, v0) hr.ids).2
  have same {β : Type} (f : Tr K V → β) (hf : f (i, k, v) = f (i, k, v0)) :
      (A ++ (i, k, v) :: B).map f = (A ++ (i, k, v0) :: B).map f := by
    rw [List.map_append, List.map_append, List.map_cons, List.map_cons, hf]
  have pp := patched_upd (n' := { prev := lastOf A none, next := nextOf B none, key := k, val := v }) ht rfl
  refine ⟨_, ht, ⟨hr.hcap, by rw [same (·.1) rfl]; exact hr.ids, by rw [same (·.2.1) rfl]; exact hr.keys, ?_, ?_, ?_,
      by rw [same (fun t => (t.2.1, t.1)) rfl]; exact hr.idx, pp.bound hr.bound, ?_, hr.pos⟩, pp⟩
  · exact (segT_append ..).mpr ⟨segT_upd i _ (fun u hu => hne u (List.mem_append_left _ hu)) hA, upd_self _ _ _,
      segT_upd i _ (fun u hu => hne u (List.mem_append_right _ hu)) hB⟩
  · have := hr.head; rw [nextOf_append] at this ⊢; exact this
  · have := hr.tail; rw [lastOf_append, lastOf_cons] at this ⊢; exact this
  · have := hr.len; rw [List.length_append] at this ⊢; exact this

theorem walkNext_seg (h : Heap K V) (L : List (Tr K V)) (p : Option Nat) (fuel : Nat)
    (hs : SegT h p L none) (hf : L.length ≤ fuel) : walkNext h (nextOf L none) fuel = (L.map ent, true) := by
  induction L generalizing p fuel with
  | nil => cases fuel <;> rfl
  | cons t r ih =>
    cases fuel with
    | zero => exact nomatch hf
    | succ f =>
      have := ih (some t.1) f hs.2 (Nat.le_of_succ_le_succ hf)
      rw [show nextOf (t :: r) none = some t.1 from rfl]
      simp only [walkNext, hs.1, this]
      rfl

/-- `Backward()` reads the list from its end: stated for the reversed list `R`, so that the induction follows the walk -/
theorem walkPrev_seg (h : Heap K V) (R : List (Tr K V)) (nx : Option Nat) (fuel : Nat)
    (hs : SegT h none R.reverse nx) (hf : R.length ≤ fuel) :
    walkPrev h (lastOf R.reverse none) fuel = (R.map ent, true) := by
  induction R generalizing nx fuel with
  | nil => cases fuel <;> rfl
  | cons t r ih =>
    cases fuel with
    | zero => exact nomatch hf
    | succ f =>
      rw [List.reverse_cons] at hs ⊢
      obtain ⟨hX, ht, -⟩ := (segT_append ..).mp hs
      rw [lastOf_append_singleton]
      simp only [walkPrev, ht, ih _ f hX (Nat.le_of_succ_le_succ hf)]
      rfl

theorem new_rep (capacity : Int) : Rep (new capacity : Cache K V).cap (new capacity : Cache K V) [] := by
  refine ⟨rfl, List.nodup_nil, List.nodup_nil, trivial, rfl, rfl, List.Perm.nil, fun _ _ => rfl, Nat.zero_le _, ?_⟩
  simp only [new]
  split
  · decide
  · omega

variable [DecidableEq K]

theorem filter_key_remove {α : Type} (g : Tr K V → K × α) (hg : ∀ u, (g u).1 = u.2.1) (A B : List (Tr K V)) (t : Tr K V)
    (hne : ∀ u ∈ A ++ B, u.2.1 ≠ t.2.1) :
    ((A ++ t :: B).map g).filter (fun p => decide (¬ (p.1 = t.2.1))) = (A ++ B).map g := by
  have keep (X : List (Tr K V)) (hX : ∀ u ∈ X, u ∈ A ++ B) :
      (X.map g).filter (fun p => decide (¬ (p.1 = t.2.1))) = X.map g := by
    rw [List.filter_eq_self]
    intro p hp
    obtain ⟨u, hu, rfl⟩ := List.mem_map.mp hp
    simpa [hg] using hne u (hX u hu)
  rw [List.map_append, List.filter_append, List.map_cons, List.filter_cons, hg, List.map_append,
    keep A fun u => List.mem_append_left _, keep B fun u => List.mem_append_right _]
  simp only [not_true_eq_false, decide_false, Bool.false_eq_true, if_false]

theorem remove_eq (c : Cache K V) (i : Nat) : remove c i = (do
    let n ← c.heap i
    let (heap, head) ← relinkNext c.heap c.head n.prev n.next
    let (heap, tail) ← relinkPrev heap c.tail n.next n.prev
    pure { c with heap := heap, idx := eraseIdx c.idx n.key, head := head, tail := tail }) := rfl

theorem remove_spec (c : Cache K V) (A B : List (Tr K V)) (t : Tr K V) (hr : Rep cap c (A ++ t :: B)) :
    ∃ c', remove c t.1 = some c' ∧ Rep cap c' (A ++ B) ∧ Patched c.heap c'.heap := by
  obtain ⟨hA, ht, hB, hhead, htail⟩ := hr.split
  obtain ⟨hids, -⟩ := nodup_map_remove (·.1) A B t hr.ids
  obtain ⟨hkeys, hkne⟩ := nodup_map_remove (·.2.1) A B t hr.keys
  obtain ⟨ndA, ndB, hAB⟩ := nodup_map_append hids
  -- the predecessor side, then the successor side; each leaves the other's nodes alone
  obtain ⟨h1, e1, sA1, f1, p1⟩ := relinkNext_seg c.heap A (some t.1) (nextOf B none) hA ndA
  have sB1 : SegT h1 (some t.1) B none := segT_congr (fun u hu => f1 _ fun a ha => hAB a ha u hu) hB
  obtain ⟨h2, e2, sB2, f2, p2⟩ := relinkPrev_seg h1 B (some t.1) (lastOf A none) sB1 ndB
  have sA2 : SegT h2 none A (nextOf B none) := segT_congr (fun u hu => f2 _ fun b hb => (hAB u hu b hb).symm) sA1
  have hidx : (eraseIdx c.idx t.2.1).Perm ((A ++ B).map fun t => (t.2.1, t.1)) :=
    filter_key_remove (fun t => (t.2.1, t.1)) (fun _ => rfl) A B t hkne ▸ hr.idx.filter _
  refine ⟨{ c with heap := h2, idx := eraseIdx c.idx t.2.1, head := nextOf A (nextOf B none), tail := lastOf B (lastOf A none) }, ?_,
    ⟨hr.hcap, hids, hkeys, (segT_append ..).mpr ⟨sA2, sB2⟩, (nextOf_append ..).symm, (lastOf_append ..).symm,
      hidx, (p1.trans p2).bound hr.bound, Nat.le_of_succ_le (List.perm_middle.length_eq ▸ hr.len : (t :: (A ++ B)).length ≤ cap), hr.pos⟩,
    p1.trans p2⟩
  rw [remove_eq, ht]
  simp only [Option.bind_eq_bind, Option.bind_some, hhead, htail, e1, e2, Option.pure_def]

theorem lookupIdx_eq_find (idx : List (K × Nat)) (k : K) : lookupIdx idx k = Spec.find idx k := by
  induction idx with
  | nil => rfl
  | cons p r ih => obtain ⟨k', j⟩ := p; simp only [lookupIdx, Spec.find, ih]

theorem index_spec (c : Cache K V) (L : List (Tr K V)) (hr : Rep cap c L) (k : K) :
    (lookupIdx c.idx k = none ∧ (∀ t ∈ L, t.2.1 ≠ k) ∧ Spec.find (L.map ent) k = none) ∨
    ∃ i v A B, lookupIdx c.idx k = some i ∧ L = A ++ (i, k, v) :: B ∧
      Spec.find (L.map ent) k = some v ∧ Spec.erase (L.map ent) k = (A ++ B).map ent := by
  cases h : lookupIdx c.idx k with
  | none =>
    have hk : ∀ t ∈ L, t.2.1 ≠ k := fun t ht =>
      (find_none_iff c.idx k).mp (lookupIdx_eq_find c.idx k ▸ h) _ (hr.idx.mem_iff.mpr (List.mem_map_of_mem ht))
    refine Or.inl ⟨rfl, hk, (find_none_iff _ _).mpr fun p hp => ?_⟩
    obtain ⟨t, ht, rfl⟩ := List.mem_map.mp hp
    exact hk t ht
  | some i =>
    obtain ⟨⟨i', k', v⟩, ht, heq⟩ := List.mem_map.mp (hr.idx.mem_iff.mp (find_mem c.idx k i (lookupIdx_eq_find c.idx k ▸ h)))
    obtain ⟨A, B, rfl⟩ := List.append_of_mem ht
    obtain ⟨rfl, rfl⟩ := Prod.mk.inj heq
    have hne := (nodup_map_remove (·.2.1) A B _ hr.keys).2
    have hfA : Spec.find (A.map ent) k' = none := (find_none_iff _ _).mpr fun p hp => by
      obtain ⟨u, hu, rfl⟩ := List.mem_map.mp hp
      exact hne u (List.mem_append_left _ hu)
    refine Or.inr ⟨i', v, A, B, rfl, rfl, ?_, filter_key_remove ent (fun _ => rfl) A B _ hne⟩
    rw [List.map_append, find_append, hfA]
    exact if_pos rfl

theorem insert_spec (c : Cache K V) (L : List (Tr K V)) (k : K) (v : V) (hr : Rep cap c L)
    (hk : ∀ t ∈ L, t.2.1 ≠ k) :
    ∃ c' L', insert c k v = some c' ∧ Rep cap c' L' ∧ HK c.heap c'.heap ∧
      L'.map ent = Spec.add cap (L.map ent) k v := by
  have hil := hr.idx_length
  by_cases hfull : L.length = cap
  · cases L with
    | nil => exact absurd hfull (Nat.ne_of_lt hr.pos)
    | cons hd L' =>
      have hhead : c.head = some hd.1 := hr.head
      obtain ⟨c1, hm, hr1, hp1⟩ := remove_spec c [] L' hd hr
      obtain ⟨c2, hm2, hr2, hq2⟩ := insertTail_spec c1 L' k v hr1 (fun t ht => hk t (List.mem_cons_of_mem _ ht))
        (Nat.lt_of_succ_le (Nat.le_of_eq hfull))
      refine ⟨c2, _, ?_, hr2, hp1.hk.trans hq2, ?_⟩
      · simp only [insert, hil, hr.hcap, hfull, if_true, hhead, hm, Option.bind_eq_bind, Option.bind_some]
        exact hm2
      · have : L'.length + 1 = cap := hfull
        simp [Spec.add, this, ent]
  · obtain ⟨c2, hm2, hr2, hq2⟩ := insertTail_spec c L k v hr hk (Nat.lt_of_le_of_ne hr.len hfull)
    refine ⟨c2, _, ?_, hr2, hq2, ?_⟩
    · simp only [insert, hil, hr.hcap, hfull, if_false, Option.pure_def, Option.bind_eq_bind, Option.bind_some]; exact hm2
    · simp [Spec.add, hfull, ent]

/-- The conjunct `HK c.heap c'.heap` in the terms of cache.go: an `*Entry` handed out by `GetEntry(k)` (the API listed in
`SSV.Gen.C17.entryPointerAPIs`) refers to key `k` for ever; nodes are never recycled for another key -/
theorem step_spec (c : Cache K V) (L : List (Tr K V)) (o : Op K V) (hr : Rep cap c L) :
    ∃ c' out L', step c o = some (c', out) ∧ Rep cap c' L' ∧ HK c.heap c'.heap ∧
      (L'.map ent, out) = Spec.step cap (L.map ent) o := by
  cases o with
  | get k =>
    rcases index_spec c L hr k with ⟨h, -, hf⟩ | ⟨i, v, A, B, h, rfl, hf, hers⟩
    · exact ⟨c, .got none, _, by simp only [step, get, h]; rfl, hr, HK.refl _, by simp only [Spec.step, Spec.get, hf]⟩
    · obtain ⟨c', hm, hr', hp⟩ := moveToTail_spec c A B (i, k, v) hr
      obtain ⟨-, hn, -⟩ := (segT_append ..).mp hr'.seg
      refine ⟨c', .got (some v), _, ?_, hr', hp.hk, by simp only [Spec.step, Spec.get, hf, Spec.touch, hers]; rw [List.map_append]; rfl⟩
      simp only [step, get, h, hm, hn, Option.bind_eq_bind, Option.bind_some, Option.pure_def]
      rfl
  | set k v =>
    rcases index_spec c L hr k with ⟨h, hk, hf⟩ | ⟨i, v0, A, B, h, rfl, hf, hers⟩
    · obtain ⟨c', L', h1, h2, hq, h4⟩ := insert_spec c L k v hr hk
      exact ⟨c', .done, L', by simp only [step, set, h, h1]; rfl, h2, hq, by simp only [Spec.step, Spec.set, hf, h4]⟩
    · obtain ⟨n, hn, hr1, hp1⟩ := hr.set_val v
      obtain ⟨c', hm, hr', hp2⟩ := moveToTail_spec _ A B (i, k, v) hr1
      refine ⟨c', .done, _, ?_, hr', (hp1.trans hp2).hk, by simp only [Spec.step, Spec.set, hf, Spec.touch, hers]; rw [List.map_append]; rfl⟩
      simp only [step, set, h, hn, hm, Option.bind_eq_bind, Option.bind_some]
      rfl
  | insert k v =>
    rcases index_spec c L hr k with ⟨h, hk, hf⟩ | ⟨i, v0, A, B, h, rfl, hf, -⟩
    · obtain ⟨c', L', h1, h2, hq, h4⟩ := insert_spec c L k v hr hk
      refine ⟨c', .flag true, L', ?_, h2, hq, by simp only [Spec.step, Spec.insertNew, hf, h4]⟩
      simp only [step, insertNew, h, Option.bind_eq_bind, Option.pure_def]
      rw [h1]; rfl
    · exact ⟨c, .flag false, _, by simp only [step, insertNew, h]; rfl, hr, HK.refl _, by simp only [Spec.step, Spec.insertNew, hf]⟩
  | remove k =>
    rcases index_spec c L hr k with ⟨h, -, hf⟩ | ⟨i, v, A, B, h, rfl, hf, hers⟩
    · exact ⟨c, .flag false, _, by simp only [step, removeKey, h]; rfl, hr, HK.refl _, by simp only [Spec.step, Spec.removeKey, hf]⟩
    · obtain ⟨c', hm, hr', hp⟩ := remove_spec c A B (i, k, v) hr
      refine ⟨c', .flag true, A ++ B, ?_, hr', hp.hk, by simp only [Spec.step, Spec.removeKey, hf, hers]⟩
      simp only [step, removeKey, h, hm, Option.bind_eq_bind, Option.pure_def]
      rfl
  | contains k =>
    refine ⟨c, .flag (contains c k), _, rfl, hr, HK.refl _, ?_⟩
    rcases index_spec c L hr k with ⟨h, -, hf⟩ | ⟨i, v0, A, B, h, -, hf, -⟩ <;>
      simp only [Spec.step, contains, h, hf] <;> rfl

theorem run_spec (c : Cache K V) (L : List (Tr K V)) (ops : List (Op K V)) (hr : Rep cap c L) :
    ∃ c' outs L', run c ops = some (c', outs) ∧ Rep cap c' L' ∧ HK c.heap c'.heap ∧
      (L'.map ent, outs) = Spec.run cap (L.map ent) ops := by
  induction ops generalizing c L with
  | nil => exact ⟨c, [], L, rfl, hr, HK.refl _, rfl⟩
  | cons o rest ih =>
    obtain ⟨c1, out, L1, h1, h2, hq, h4⟩ := step_spec c L o hr
    obtain ⟨c2, outs, L2, g1, g2, gq, g4⟩ := ih c1 L1 h2
    refine ⟨c2, out :: outs, L2, by simp [run, h1, g1], g2, hq.trans gq, ?_⟩
    simp only [Spec.run, ← h4, ← g4]

end SSV.Lru
