import SSV.Model.ClientGroups
/-
C19: scheduling of the probes inside a round (worker pool, per-probe deadline).
-/
namespace SSV.ClientGroups
open SSV.Gen.C19

theorem avail_deadline_base : availDeadlineBase = Base.jobStart := by decide
theorem lat_deadline_base : latDeadlineBase = Base.jobStart := by decide
theorem latency_clock_base : latencyClockBase = Base.jobStart := by decide

theorem deadlineBaseOf_eq (p : Policy) : deadlineBaseOf p = Base.jobStart := by
  cases p <;> simp [deadlineBaseOf, avail_deadline_base, lat_deadline_base]

/-- what the statement attributes to a client in a round, from its own behaviour only: a usable answer that
    comes less than `timeout` after the probe's OWN start is a success with that latency, anything else a failure -/
def scriptOutcome (timeout : Nat) (s : Script) : Outcome :=
  match s.answerAfter with
  | some d => if d < timeout then (if s.ok then some d else none) else none
  | none => none

theorem popMin_eq_none {l : List Nat} (h : popMin l = none) : l = [] := by
  revert h
  fun_cases popMin l with
  | case1 => exact fun _ => rfl
  | case2 | case3 | case4 => exact nofun

theorem popMin_ne_none (l : List Nat) (h : l ≠ []) : ∃ m r, popMin l = some (m, r) := by
  cases hp : popMin l with
  | none => exact absurd (popMin_eq_none hp) h
  | some mr => exact ⟨mr.1, mr.2, rfl⟩

theorem popMin_perm {l : List Nat} {m : Nat} {r : List Nat} (h : popMin l = some (m, r)) : l.Perm (m :: r) := by
  fun_induction popMin l generalizing m r with
  | case1 => cases h
  -- the tail has no minimum: it is empty
  | case2 x xs hp => cases h; rw [popMin_eq_none hp]
  -- the head is at most the tail's minimum
  | case3 x xs m' r' hp hx ih => cases h; exact .refl _
  -- the tail's minimum is smaller
  | case4 x xs m' r' hp hx ih => cases h; exact ((ih hp).cons _).trans (.swap _ _ _)

theorem popMin_le {l : List Nat} {m : Nat} {r : List Nat} (h : popMin l = some (m, r)) : ∀ y ∈ l, m ≤ y := by
  fun_induction popMin l generalizing m r with
  | case1 => cases h
  | case2 x xs hp => cases h; rw [popMin_eq_none hp]; exact fun y hy => Nat.le_of_eq (List.mem_singleton.mp hy).symm
  | case3 x xs m' r' hp hx ih =>
    cases h
    exact fun y hy => (List.mem_cons.mp hy).elim (fun e => Nat.le_of_eq e.symm) fun hy => Nat.le_trans hx (ih hp y hy)
  | case4 x xs m' r' hp hx ih =>
    cases h
    exact fun y hy => (List.mem_cons.mp hy).elim (fun e => e ▸ Nat.le_of_lt (Nat.lt_of_not_le hx)) (ih hp y)

theorem probeRun_scriptOutcome (timeout : Nat) (s : Script) :
    (if (probeRun timeout s).2 then some (probeRun timeout s).1 else none) = scriptOutcome timeout s := by
  unfold probeRun scriptOutcome
  cases s.answerAfter with
  | none => simp
  | some d => by_cases h : d < timeout <;> simp [h]

theorem probeRun_fst_le (left : Nat) (s : Script) : (probeRun left s).1 ≤ left := by
  fun_cases probeRun left s with
  | case1 _ _ h => exact Nat.le_of_lt h
  -- too late, or no answer: the deadline
  | case2 | case3 => exact Nat.le_refl _

theorem dispatchWith_jobStart_outcomes (timeout t0 : Nat) : ∀ (scripts : List Script) (free : List Nat), free ≠ [] →
    (dispatchWith .jobStart .jobStart timeout t0 scripts free).map (·.outcome) = scripts.map (scriptOutcome timeout)
  | [], _, _ => rfl
  | s :: rest, free, hf => by
    obtain ⟨m, r, hp⟩ := popMin_ne_none free hf
    simp only [dispatchWith, hp, List.map_cons]
    rw [dispatchWith_jobStart_outcomes timeout t0 rest _ (List.cons_ne_nil _ _), probeRun_scriptOutcome]

theorem dispatch_outcomes (p : Policy) (timeout t0 : Nat) (scripts : List Script) (free : List Nat) (hf : free ≠ []) :
    (dispatch p timeout t0 scripts free).map (·.outcome) = scripts.map (scriptOutcome timeout) := by
  unfold dispatch
  rw [deadlineBaseOf_eq, latency_clock_base]
  exact dispatchWith_jobStart_outcomes timeout t0 scripts free hf

end SSV.ClientGroups
