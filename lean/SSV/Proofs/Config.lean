import SSV.Model.Config
/-
Lemmas about the validators of SSV.Model.Config for C18.  Two tools read a validator as the conjunction of its conditions:
`firstErr_cons_none` for a `firstErr` table, `ite_error_eq_ok` for a chain of `if c { return err }`.  What an accepted run
of a cascade of stages, or of a loop over one, went through is read off the case / induction principle of the validator
itself: the accepting arm is the only one that survives, with the stage results as hypotheses in the order of the code;
every other arm returns an error and closes by `nofun`.  `checkUnique_iff` and `checkClients_iff`, equivalences over a
loop, go by recursion on the list.  For the route list, the router, resolvers and client groups only what an accepted run
implies is stated (the `_ok` lemmas); `checkApi` has no lemma here.
-/
namespace SSV.Config
open SSV.Gen

theorem firstErr_cons_none {c : Bool} {e : String} {rest : List (Bool × String)} :
    firstErr ((c, e) :: rest) = none ↔ c = false ∧ firstErr rest = none := by
  cases c <;> simp [firstErr]

theorem firstErr_nil : firstErr [] = none := rfl

theorem firstErr_append_none : ∀ {l₁ l₂ : List (Bool × String)},
    firstErr (l₁ ++ l₂) = none ↔ firstErr l₁ = none ∧ firstErr l₂ = none
  | [], _ => by simp [firstErr_nil]
  | (c, e) :: rest, l₂ => by
    rw [List.cons_append, firstErr_cons_none, firstErr_cons_none, firstErr_append_none, and_assoc]

theorem ite_error_eq_ok {α : Type} {c : Prop} [Decidable c] {err : String} {r : R α} {v : α} :
    (if c then .error err else r) = .ok v ↔ ¬ c ∧ r = .ok v := by
  split <;> simp [*]

theorem bor3_eq_true_iff {a b c : Prop} [Decidable a] [Decidable b] [Decidable c] :
    (decide a || decide b || decide c) = true ↔ a ∨ b ∨ c := by
  simp [or_assoc]

theorem apply_ite_default {α β : Type} [DecidableEq α] (f : α → β) {a d : α} (h : f d = f a) (x : α) :
    f (if x = a then d else x) = f x := by
  split
  · next hx => rw [h, hx]
  · rfl

theorem mapE_cons_ok {α β : Type} {f : α → R β} {a : α} {as : List α} {r : List β} :
    mapE f (a :: as) = .ok r ↔ ∃ y ys, f a = .ok y ∧ mapE f as = .ok ys ∧ r = y :: ys := by
  rw [mapE]
  cases f a <;> cases mapE f as <;> simp [eq_comm]

theorem mapE_eq_ok {α β : Type} {f : α → R β} : ∀ {l : List α} {r : List β}, mapE f l = .ok r ↔ l.map f = r.map .ok
  | [], r => by cases r <;> simp [mapE]
  | a :: as, r => by
    rw [mapE_cons_ok]
    cases r with
    | nil => simp
    | cons y ys => simp [mapE_eq_ok (l := as)]

theorem mapE_ok_mem {α β : Type} {f : α → R β} {l : List α} {r : List β} (h : mapE f l = .ok r) (x : α) (hx : x ∈ l) :
    ∃ y ∈ r, f x = .ok y := by
  have := mapE_eq_ok.mp h ▸ List.mem_map_of_mem (f := f) hx
  simpa [eq_comm] using this

theorem mapE_ok_mem_result {α β : Type} {f : α → R β} {l : List α} {r : List β} (h : mapE f l = .ok r) (y : β) (hy : y ∈ r) :
    ∃ x ∈ l, f x = .ok y := by
  have := mapE_eq_ok.mp h ▸ List.mem_map_of_mem (f := Except.ok) hy
  simpa using this

theorem mapE_length {α β : Type} {f : α → R β} {l : List α} {r : List β} (h : mapE f l = .ok r) : r.length = l.length := by
  simpa using (congrArg List.length (mapE_eq_ok.mp h)).symm

theorem mapE_isOk_iff {α β : Type} {f : α → R β} :
    ∀ {l : List α}, (∃ r, mapE f l = .ok r) ↔ ∀ x ∈ l, ∃ y, f x = .ok y
  | [] => by simp [mapE]
  | a :: as => by
    simp only [mapE_cons_ok, List.forall_mem_cons, ← mapE_isOk_iff (l := as)]
    exact ⟨fun ⟨_, y, ys, hy, hys, _⟩ => ⟨⟨y, hy⟩, ys, hys⟩, fun ⟨⟨y, hy⟩, ys, hys⟩ => ⟨_, y, ys, hy, hys, rfl⟩⟩

theorem mapE_congr {α β : Type} {f g : α → R β} :
    ∀ {l : List α}, (∀ x ∈ l, f x = g x) → mapE f l = mapE g l
  | [], _ => rfl
  | a :: as, h => by
    unfold mapE
    rw [h a List.mem_cons_self, mapE_congr (fun x hx => h x (List.mem_cons_of_mem _ hx))]

theorem mapE_map {α β γ : Type} {f : β → R γ} {g : α → β} :
    ∀ {l : List α}, mapE f (l.map g) = mapE (fun x => f (g x)) l
  | [] => rfl
  | a :: as => by
    simp only [List.map_cons]
    unfold mapE
    rw [mapE_map]

theorem rangeDefault_eq_some {x max dflt v : Int} :
    rangeDefault x max dflt = some v ↔ (0 < x ∧ x ≤ max ∧ v = x) ∨ (x = 0 ∧ v = dflt) := by
  fun_cases rangeDefault x max dflt
  · simp only [Option.some.injEq]; omega
  · simp only [Option.some.injEq]; omega
  · simp only [reduceCtorEq, false_iff]; omega

theorem capDefault_eq_some {x v : Int} :
    capDefault x = some v ↔ ((C18.sendCapMin : Int) ≤ x ∧ v = x) ∨ (x = 0 ∧ v = (C18.sendCapDefault : Int)) := by
  have : (0 : Int) < C18.sendCapMin := by decide
  fun_cases capDefault x
  · simp only [Option.some.injEq]; omega
  · simp only [Option.some.injEq]; omega
  · simp only [reduceCtorEq, false_iff]; omega

/-- the comparison with the session server's minimum is strict (fails to elaborate if the code makes it `<=`) -/
theorem natTooSmall_eq (n m : Int) : natTooSmall n m = decide (n < m) := rfl

theorem natEff_eq_some {m n v : Int} :
    natEff m n = some v ↔ (n = 0 ∧ v = (C18.natTimeoutDefault : Int)) ∨ (n ≠ 0 ∧ natTooSmall n m = false ∧ v = n) := by
  fun_cases natEff m n
  · simp only [Option.some.injEq]; omega  -- n = 0
  · simp [*]  -- n too small
  · simp [*, eq_comm]  -- n kept

theorem rangeDefault_dom {x max d : Int} (hd : 1 ≤ d ∧ d ≤ max) :
    (0 ≤ x ∧ x ≤ max ↔ ∃ v, rangeDefault x max d = some v) ∧ ∀ v, rangeDefault x max d = some v → 1 ≤ v ∧ v ≤ max := by
  simp only [rangeDefault_eq_some]
  refine ⟨⟨fun h => ?_, fun ⟨v, h⟩ => by omega⟩, fun v h => by omega⟩
  by_cases hx : x = 0
  · exact ⟨d, .inr ⟨hx, rfl⟩⟩
  · exact ⟨x, .inl ⟨by omega, h.2, rfl⟩⟩

theorem capDefault_dom {x : Int} :
    (x = 0 ∨ (C18.sendCapMin : Int) ≤ x ↔ ∃ v, capDefault x = some v) ∧ ∀ v, capDefault x = some v → (C18.sendCapMin : Int) ≤ v := by
  have : (C18.sendCapMin : Int) ≤ C18.sendCapDefault := by decide
  simp only [capDefault_eq_some]
  refine ⟨⟨fun h => ?_, fun ⟨v, h⟩ => by omega⟩, fun v h => by omega⟩
  rcases h with h | h
  · exact ⟨_, .inr ⟨h, rfl⟩⟩
  · exact ⟨x, .inl ⟨h, rfl⟩⟩

theorem natEff_dom {m x : Int} :
    (x = 0 ∨ m ≤ x ↔ ∃ v, natEff m x = some v) ∧ ∀ v, natEff m x = some v → m ≤ (C18.natTimeoutDefault : Int) → m ≤ v := by
  simp only [natEff_eq_some, natTooSmall_eq, decide_eq_false_iff_not]
  refine ⟨⟨fun h => ?_, fun ⟨v, h⟩ => by omega⟩, fun v h hm => by omega⟩
  by_cases hx : x = 0
  · exact ⟨_, .inl ⟨hx, rfl⟩⟩
  · exact ⟨x, .inr ⟨hx, by omega, rfl⟩⟩

theorem batchModes_iff (s : String) : C18.batchModes.contains s = true ↔ s = "" ∨ s = "no" ∨ s = "sendmmsg" := by
  simp [C18.batchModes]

theorem Addr.valid_iff (a : Addr) : a.valid = true ↔ a ≠ .absent := by
  cases a <;> simp [Addr.valid]

theorem Proto.serverTCP_iff (p : Proto) : p.serverTCP = true ↔ p ≠ .other := by
  cases p <;> simp [Proto.serverTCP]

theorem pskOK_iff {p : Proto} {n : Nat} {l : List Nat} :
    pskOK p n l = true ↔ pskLenFor p = some n ∧ ∀ k ∈ l, pskLenFor p = some k := by
  unfold pskOK
  cases pskLenFor p with
  | none => simp
  | some m => simp [@eq_comm _ m]

theorem upskOK_iff (p : Proto) (u : Upsk) :
    upskOK p u = true ↔ u ≠ .missing ∧ ∀ l, u = .keys l → pskLenFor p = some l := by
  cases u <;> simp [upskOK]

theorem filterSizeOK_iff {max : Option Nat} {m : Nat} (h : max = some m) (n : Nat) : filterSizeOK max n = true ↔ n ≤ m := by
  simp [h, filterSizeOK]

/-- `UDPListenerConfig.Configure` accepts `l` with result `e` exactly when this holds (`checkUL_iff`) -/
structure ULok (minNat : Int) (l : UL) (e : EffUL) : Prop where
  network : l.network = "udp" ∨ l.network = "udp4" ∨ l.network = "udp6"
  batchMode : C18.batchModes.contains l.batchMode = true ∧ e.batchMode = l.batchMode
  relay : rangeDefault l.relayBatch C18.relayBatchMax C18.relayBatchDefault = some e.relayBatch
  recv : rangeDefault l.recvBatch C18.recvBatchMax C18.recvBatchDefault = some e.recvBatch
  cap : capDefault l.sendCap = some e.sendCap
  nat : (l.natTimeout = 0 ∧ e.natTimeout = (C18.natTimeoutDefault : Int)) ∨
        (l.natTimeout ≠ 0 ∧ natTooSmall l.natTimeout minNat = false ∧ e.natTimeout = l.natTimeout)

theorem checkUL_iff {minNat : Int} {l : UL} {e : EffUL} : checkUL minNat l = .ok e ↔ ULok minNat l e := by
  constructor
  · fun_cases checkUL minNat l
    case case7 hnet hbm rb hrb sb hsb cc hcc nt hnt =>
      rintro ⟨⟩
      exact ⟨bor3_eq_true_iff.mp (by simpa only [Bool.not_eq_true, Bool.not_eq_false'] using hnet), ⟨by simpa using hbm, rfl⟩,
        hrb, hsb, hcc, natEff_eq_some.mp hnt⟩
    all_goals nofun
  · rintro ⟨hnet, ⟨hbm, hb⟩, hrb, hsb, hcc, hnat⟩
    rw [checkUL, bor3_eq_true_iff.mpr hnet, hbm, hrb, hsb, hcc, natEff_eq_some.mpr hnat, ← hb]
    rfl

theorem checkServer_iff {s : Server} {e : EffServer} : checkServer s = .ok e ↔
    firstErr s.initChecks = none ∧ (∃ u, mapE checkTL s.allTCP = .ok u) ∧ firstErr s.udpChecks = none ∧
    mapE (checkUL (minNatOf s.proto)) s.allUDP = .ok e.udp ∧ (s.proto.isSS && !upskOK s.proto s.upsk) = false ∧
    e = s.eff e.udp := by
  constructor
  · fun_cases checkServer s
    case case6 h1 u h2 h3 uls h4 h5 =>
      rintro ⟨⟩
      exact ⟨h1, ⟨u, h2⟩, h3, h4, by simpa using h5, rfl⟩
    all_goals nofun
  · rintro ⟨h1, ⟨u, h2⟩, h3, h4, h5, h6⟩
    rw [checkServer, h1, h2, h3, h4, h5, h6]
    rfl

theorem checkClient_iff {c : Client} {e : EffClient} : checkClient c = .ok e ↔ firstErr c.checks = none ∧ e = c.eff := by
  unfold checkClient
  cases firstErr c.checks <;> simp [eq_comm]

/-- one round of a loop that refuses a name it has `seen` -/
theorem nodup_seen_cons {α : Type} {name : α → String} {x : α} {xs : List α} {seen : List String} :
    ((x :: xs).map name).Nodup ∧ (∀ d ∈ x :: xs, name d ∉ seen) ↔
    ¬ seen.contains (name x) = true ∧ (xs.map name).Nodup ∧ ∀ d ∈ xs, name d ∉ name x :: seen := by
  simp only [List.forall_mem_cons]
  simp only [List.map_cons, List.nodup_cons, List.mem_map, List.mem_cons, List.contains_iff_mem, not_or, not_exists, not_and]
  exact ⟨fun ⟨⟨h1, h2⟩, h3, h4⟩ => ⟨h3, h2, fun d hd => ⟨h1 d hd, h4 d hd⟩⟩,
    fun ⟨h3, h2, h⟩ => ⟨⟨fun d hd => (h d hd).1, h2⟩, h3, fun d hd => (h d hd).2⟩⟩

theorem checkUnique_iff {code : String} :
    ∀ {ns seen : List String}, checkUnique code seen ns = .ok () ↔ ns.Nodup ∧ ∀ n ∈ ns, n ∉ seen
  | [], _ => by simp [checkUnique]
  | n :: ns, seen => by
    simp only [checkUnique, ite_error_eq_ok, checkUnique_iff (ns := ns)]
    simpa only [List.map_id, id_eq] using (nodup_seen_cons (name := id)).symm

theorem checkClients_iff :
    ∀ {cs : List Client} {seen : List String} {es : List EffClient}, checkClients seen cs = .ok es ↔
      ((cs.map (·.name)).Nodup ∧ ∀ c ∈ cs, c.name ∉ seen) ∧ mapE checkClient cs = .ok es
  | [], _, _ => by simp [checkClients, mapE]
  | c :: cs, seen, es => by
    rw [nodup_seen_cons, mapE_cons_ok, checkClients, ite_error_eq_ok]
    constructor
    · intro ⟨hn, h⟩
      split at h
      · cases h
      rename_i ec hec
      split at h
      · cases h
      rename_i ecs hecs
      cases h
      obtain ⟨⟨a, b⟩, m⟩ := checkClients_iff.mp hecs
      exact ⟨⟨hn, a, b⟩, ec, ecs, hec, m, rfl⟩
    · rintro ⟨⟨hn, a, b⟩, ec, ecs, hec, m, rfl⟩
      rw [hec, checkClients_iff.mpr ⟨⟨a, b⟩, m⟩]
      exact ⟨hn, rfl⟩

theorem checkResolver_ok {r : Resolver} {tcp udp : List String} (h : checkResolver r tcp udp = .ok ()) :
    (r.tcpClient ≠ "" → r.tcpClient ∈ tcp) ∧ (r.udpClient ≠ "" → r.udpClient ∈ udp) := by
  by_cases hs : r.type = "system"
  · -- a system resolver names no client
    simp only [checkResolver, hs, if_true, ite_error_eq_ok, Bool.or_eq_true, decide_eq_true_eq, not_or, and_true] at h
    exact ⟨fun ht => absurd ht h.1.2, fun hu => absurd hu h.2⟩
  · simp only [checkResolver, hs, if_false, ite_error_eq_ok, and_true, Bool.and_eq_true, decide_eq_true_eq, Bool.not_eq_true',
      not_and, Bool.not_eq_false, List.contains_iff_mem] at h
    -- type, address, "no client at all", then the two lookups
    obtain ⟨-, -, -, htcp, hudp⟩ := h
    exact ⟨htcp, hudp⟩

theorem checkResolvers_ok {tcp udp : List String} {rs : List Resolver} {seen : List String} :
    checkResolvers tcp udp seen rs = .ok () →
      (rs.map (·.name)).Nodup ∧ (∀ r ∈ rs, r.name ∉ seen) ∧ (∀ r ∈ rs, checkResolver r tcp udp = .ok ()) := by
  fun_induction checkResolvers tcp udp seen rs
  case case1 => exact fun _ => ⟨List.nodup_nil, (fun _ h => nomatch h), (fun _ h => nomatch h)⟩
  case case4 r rs hn hr ih =>
    intro h
    have ⟨hnd, hns, hall⟩ := ih h
    have ⟨n1, n2⟩ := (nodup_seen_cons (name := Resolver.name)).mpr ⟨hn, hnd, hns⟩
    exact ⟨n1, n2, List.forall_mem_cons.mpr ⟨hr, hall⟩⟩
  all_goals nofun

theorem checkRoute_iff {rt : Route} {resolvers tcp udp servers ds ps : List String} :
    checkRoute rt resolvers tcp udp servers ds ps = .ok () ↔ firstErr (rt.checks resolvers tcp udp servers ds ps) = none := by
  unfold checkRoute
  split <;> simp [*]

theorem checkRoutes_ok {resolvers tcp udp servers ds ps : List String} {rts : List Route} :
    checkRoutes resolvers tcp udp servers ds ps rts = .ok () →
      ∀ rt ∈ rts, checkRoute rt resolvers tcp udp servers ds ps = .ok () := by
  fun_induction checkRoutes resolvers tcp udp servers ds ps rts
  case case1 => exact fun _ _ h => nomatch h
  case case3 rt rts ha ih => exact fun h => List.forall_mem_cons.mpr ⟨ha, ih h⟩
  all_goals nofun

theorem defaultClientOK_iff {name : String} {names : List String} :
    defaultClientOK name names = true ↔ name = "reject" ∨ name = "" ∨ name ∈ names := by
  simp [defaultClientOK, or_assoc]

theorem setNamesOK_true {code : String} {ns : List String} : setNamesOK true code ns = .ok () ↔ ns.Nodup := by
  rw [show setNamesOK true code ns = checkUnique code [] ns from rfl, checkUnique_iff]
  simp

theorem checkRouter_ok {r : Router} {resolvers tcp udp servers : List String} :
    checkRouter r resolvers tcp udp servers = .ok () →
    defaultClientOK r.defaultTCP tcp = true ∧ defaultClientOK r.defaultUDP udp = true ∧
    setNamesOK C18.domainSetNamesUnique "dup-domainset" r.domainSets = .ok () ∧
    setNamesOK C18.prefixSetNamesUnique "dup-prefixset" r.prefixSets = .ok () ∧
    checkRoutes resolvers tcp udp servers r.domainSets r.prefixSets r.routes = .ok () := by
  fun_cases checkRouter r resolvers tcp udp servers
  case case5 r1 r2 r3 r4 => exact fun h => ⟨by simpa using r1, by simpa using r2, r3, r4, h⟩
  all_goals nofun

/-- the guard `len(l) > 0 && !all found` of the code, passed -/
theorem guard_all_contains_iff {l names : List String} : (!l.isEmpty && !l.all names.contains) = false ↔ ∀ m ∈ l, m ∈ names := by
  cases l <;> simp [List.all_eq_true]

theorem addGroup_ok {g : Group} {tcp udp tcp' udp' : List String} (h : addGroup g tcp udp = .ok (tcp', udp')) :
    (∀ m ∈ g.tcpClients, m ∈ tcp) ∧ (∀ m ∈ g.udpClients, m ∈ udp) ∧
    ((∀ n ∈ tcp, n ∈ tcp') ∧ ∀ n ∈ tcp', n = g.name ∨ n ∈ tcp) ∧ ((∀ n ∈ udp, n ∈ udp') ∧ ∀ n ∈ udp', n = g.name ∨ n ∈ udp) := by
  simp only [addGroup, ite_error_eq_ok, Bool.not_eq_true, guard_all_contains_iff, Except.ok.injEq, Prod.mk.injEq] at h
  obtain ⟨-, h2, -, h4, -, rfl, rfl⟩ := h
  have grow (b : Bool) (l : List String) :
      (∀ n ∈ l, n ∈ if b then l else g.name :: l) ∧ ∀ n ∈ (if b then l else g.name :: l), n = g.name ∨ n ∈ l := by
    cases b <;> simp +contextual
  exact ⟨h2, h4, grow _ _, grow _ _⟩

theorem checkGroups_ok {cn : List String} {gs : List Group} {seen tcp udp tcp' udp' : List String} :
    checkGroups cn seen gs tcp udp = .ok (tcp', udp') →
      (gs.map (·.name)).Nodup ∧ (∀ g ∈ gs, g.name ∉ seen ∧ g.name ∉ cn) ∧
      (∀ g ∈ gs, (∀ m ∈ g.tcpClients, m ∈ tcp') ∧ (∀ m ∈ g.udpClients, m ∈ udp')) ∧
      (∀ n, n ∈ tcp → n ∈ tcp') ∧ (∀ n, n ∈ udp → n ∈ udp') ∧
      (∀ n ∈ tcp', n ∈ tcp ∨ n ∈ gs.map (·.name)) ∧ (∀ n ∈ udp', n ∈ udp ∨ n ∈ gs.map (·.name)) := by
  fun_induction checkGroups cn seen gs tcp udp
  case case1 =>
    rintro ⟨⟩
    exact ⟨List.nodup_nil, nofun, nofun, fun _ => id, fun _ => id, fun _ => .inl, fun _ => .inl⟩
  case case5 seen g gs tcp udp hcn hseen t1 u1 hadd ih =>
    intro h
    obtain ⟨a1, a2, ⟨tm, ts⟩, um, us⟩ := addGroup_ok hadd
    have ⟨nd, ns, mem, mt, mu, st, su⟩ := ih h
    have ⟨n1, n2⟩ := (nodup_seen_cons (name := Group.name)).mpr ⟨hseen, nd, fun d hd => (ns d hd).1⟩
    -- a name of the end is `g`'s, or was there before `g`, or is a later group's
    have key {n : String} {l l' : List String} (sub : ∀ n ∈ l', n = g.name ∨ n ∈ l)
        (hn : n ∈ l' ∨ n ∈ gs.map (·.name)) : n ∈ l ∨ n ∈ (g :: gs).map (·.name) := by
      rcases hn with hn | hn
      · rcases sub n hn with rfl | hn
        · exact .inr List.mem_cons_self
        · exact .inl hn
      · exact .inr (List.mem_cons_of_mem _ hn)
    refine ⟨n1, fun d hd => ⟨n2 d hd, ?_⟩, ?_, fun n hn => mt n (tm n hn), fun n hn => mu n (um n hn), ?_, ?_⟩
    · rcases List.mem_cons.mp hd with rfl | hd
      · simpa using hcn
      · exact (ns d hd).2
    · intro d hd
      rcases List.mem_cons.mp hd with rfl | hd
      · exact ⟨fun m hm => mt m (tm m (a1 m hm)), fun m hm => mu m (um m (a2 m hm))⟩
      · exact mem d hd
    · exact fun n hn => key ts (st n hn)
    · exact fun n hn => key us (su n hn)
  all_goals nofun

theorem validate_congr_servers (c : Config) (f : Server → Server)
    (hname : ∀ s, (f s).name = s.name) (hchk : ∀ s ∈ c.servers, checkServer (f s) = checkServer s) :
    validate { c with servers := c.servers.map f } = validate c := by
  have h1 : (c.servers.map f).isEmpty = c.servers.isEmpty := List.isEmpty_map
  have h2 : (c.servers.map f).map (·.name) = c.servers.map (·.name) := by simp [hname]
  have h3 : mapE checkServer (c.servers.map f) = mapE checkServer c.servers := by
    rw [mapE_map]
    exact mapE_congr hchk
  unfold validate effectiveClients
  simp only [h1, h2, h3]

theorem allTCP_migrate (s : Server) : s.migrate.allTCP = s.allTCP := by
  simp [Server.migrate, Server.allTCP]

theorem allUDP_migrate (s : Server) : s.migrate.allUDP = s.allUDP := by
  simp [Server.migrate, Server.allUDP]

theorem checkServer_migrate (s : Server) : checkServer s.migrate = checkServer s := by
  unfold checkServer Server.initChecks Server.udpChecks Server.eff
  rw [allTCP_migrate, allUDP_migrate]
  rfl

theorem migrate_enableUDP {c : Config} {s : Server} (hs : s ∈ c.migrate.servers) : s.enableUDP = false := by
  obtain ⟨t, _, rfl⟩ := List.mem_map.mp hs
  rfl

theorem checkClients_map (f : Client → Client) (hname : ∀ k, (f k).name = k.name)
    (hchk : ∀ k, checkClient (f k) = checkClient k) :
    ∀ (l : List Client) (seen : List String), checkClients seen (l.map f) = checkClients seen l
  | [], _ => rfl
  | k :: ks, seen => by
    simp only [List.map_cons]
    unfold checkClients
    rw [hname, hchk, checkClients_map f hname hchk ks (k.name :: seen)]

theorem tcpNamesOf_map (f : Client → Client) (hname : ∀ k, (f k).name = k.name)
    (htcp : ∀ k, (f k).enableTCP = k.enableTCP) (l : List Client) : tcpNamesOf (l.map f) = tcpNamesOf l := by
  simp [tcpNamesOf, List.filter_map, Function.comp_def, htcp, hname]

theorem udpNamesOf_map (f : Client → Client) (hname : ∀ k, (f k).name = k.name)
    (hudp : ∀ k, (f k).enableUDP = k.enableUDP) (l : List Client) : udpNamesOf (l.map f) = udpNamesOf l := by
  simp [udpNamesOf, List.filter_map, Function.comp_def, hudp, hname]

theorem validate_congr_clients (c : Config) (f : Client → Client) (hname : ∀ k, (f k).name = k.name)
    (htcp : ∀ k, (f k).enableTCP = k.enableTCP) (hudp : ∀ k, (f k).enableUDP = k.enableUDP)
    (hchk : ∀ k, checkClient (f k) = checkClient k) :
    validate { c with clients := c.clients.map f } = validate c := by
  obtain ⟨servers, clients, groups, resolvers, router, api⟩ := c
  cases clients with
  | nil => rfl
  | cons k ks =>
    have h2 : ((k :: ks).map f).map (·.name) = (k :: ks).map (·.name) := by simp [hname]
    unfold validate effectiveClients
    simp only [List.isEmpty_map, List.isEmpty_cons, Bool.false_eq_true, if_false, checkClients_map f hname hchk, h2,
      tcpNamesOf_map f hname htcp, udpNamesOf_map f hname hudp]

theorem mapSize_nodup : ∀ {l : List String}, l.Nodup → mapSize l = l.length
  | [], _ => rfl
  | n :: ns, h => by
    have ⟨hn, hns⟩ := List.nodup_cons.mp h
    have hc : ns.contains n = false := by simpa using hn
    unfold mapSize
    rw [hc, mapSize_nodup hns]
    simp

end SSV.Config
