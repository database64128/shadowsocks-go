import SSV.Model.ClientGroups
/-
Lemmas for C19, the probe rings: a ring of K slots written at `count % K` is its window (the
last K values written, oldest first) rotated so that the next write falls on the oldest entry
(`rot`); one write moves the window on by one (`rot_set`); sums and maxima do not see the rotation.
-/
namespace SSV.ClientGroups

/-- the last `K` entries of a list: the retained history -/
def lastN {α : Type} (K : Nat) (l : List α) : List α := l.drop (l.length - K)

theorem lastN_length_le {α : Type} (K : Nat) (l : List α) : (lastN K l).length ≤ K := by
  unfold lastN
  rw [List.length_drop]
  omega

theorem lastN_of_short {α : Type} (K : Nat) (l : List α) (h : l.length ≤ K) : lastN K l = l := by
  rw [lastN, Nat.sub_eq_zero_of_le h, List.drop_zero]

theorem lastN_snoc {α : Type} (K : Nat) (l : List α) (v : α) (hK : 0 < K) (h : K ≤ l.length) :
    lastN K (l ++ [v]) = (lastN K l).tail ++ [v] := by
  unfold lastN
  rw [List.length_append, List.length_singleton, Nat.sub_add_comm h,
    List.drop_append_of_le_length (by omega), List.tail_drop]

theorem lastN_map {α β : Type} (K : Nat) (g : α → β) (l : List α) : lastN K (l.map g) = (lastN K l).map g := by
  unfold lastN
  rw [List.length_map, List.map_drop]

theorem lastN_pad (K : Nat) (vs : List Nat) :
    lastN K (List.replicate K 0 ++ vs) = List.replicate (K - vs.length) 0 ++ lastN K vs := by
  unfold lastN
  simp only [List.length_append, List.length_replicate]
  rw [Nat.add_sub_cancel_left, List.drop_append, List.drop_replicate, List.length_replicate]

/-- the ring as the code lays it out: the window `W` (oldest first) rotated so that the next write
    (slot `c % K`) falls on the oldest entry -/
def rot (K : Nat) (W : List Nat) (c : Nat) : List Nat := W.drop (K - c % K) ++ W.take (K - c % K)

theorem rot_congr (K : Nat) (W : List Nat) (c c' : Nat) (h : c % K = c' % K) : rot K W c = rot K W c' := by
  unfold rot
  rw [h]

theorem rot_zero (K : Nat) (W : List Nat) (h : W.length = K) : rot K W 0 = W := by
  unfold rot
  simp [Nat.zero_mod, ← h]

theorem rot_length (K : Nat) (W : List Nat) (c : Nat) : (rot K W c).length = W.length := by
  unfold rot
  rw [List.length_append, Nat.add_comm, ← List.length_append, List.take_append_drop]

theorem rot_sum (K : Nat) (W : List Nat) (c : Nat) : (rot K W c).sum = W.sum := by
  unfold rot
  rw [List.sum_append, Nat.add_comm, ← List.sum_append, List.take_append_drop]

theorem maxOf_append (a b : List Nat) : maxOf (a ++ b) = max (maxOf a) (maxOf b) := by
  unfold maxOf
  rw [List.foldl_append, ← List.foldl_assoc (op := max), Nat.max_zero]

theorem maxOf_cons (x : Nat) (l : List Nat) : maxOf (x :: l) = max x (maxOf l) := by
  unfold maxOf
  rw [List.foldl_cons, Nat.zero_max, ← List.foldl_assoc (op := max), Nat.max_zero]

theorem rot_maxOf (K : Nat) (W : List Nat) (c : Nat) : maxOf (rot K W c) = maxOf W := by
  unfold rot
  rw [maxOf_append, Nat.max_comm, ← maxOf_append, List.take_append_drop]

theorem maxOf_replicate_zero (k : Nat) : maxOf (List.replicate k 0) = 0 := by
  induction k with
  | zero => rfl
  | succ k ih => rw [List.replicate_succ, maxOf_cons, ih]; rfl

theorem maxOf_le (l : List Nat) (t : Nat) (h : ∀ x ∈ l, x ≤ t) : maxOf l ≤ t := by
  induction l with
  | nil => simp [maxOf]
  | cons x r ih =>
    rw [maxOf_cons]
    exact Nat.max_le.mpr ⟨h x List.mem_cons_self, ih fun y hy => h y (List.mem_cons_of_mem _ hy)⟩

theorem sum_le_length_mul (l : List Nat) (t : Nat) (h : ∀ x ∈ l, x ≤ t) : l.sum ≤ l.length * t := by
  induction l with
  | nil => simp
  | cons x r ih =>
    rw [List.sum_cons, List.length_cons, Nat.succ_mul, Nat.add_comm]
    exact Nat.add_le_add (ih fun y hy => h y (List.mem_cons_of_mem _ hy)) (h x List.mem_cons_self)

theorem rot_split (K : Nat) (O N : List Nat) (c : Nat) (hN : N.length % K = c % K) (hK : O.length + N.length = K) :
    rot K (O ++ N) c = N ++ O := by
  unfold rot
  rw [← hN]
  rcases Nat.eq_or_lt_of_le (hK ▸ Nat.le_add_left N.length O.length) with h | h
  · -- `N` fills the ring
    obtain rfl : O = [] := List.eq_nil_of_length_eq_zero (by omega)
    rw [← h, Nat.mod_self, Nat.sub_zero, List.nil_append, List.drop_length, List.take_length, List.append_nil, List.nil_append]
  · -- `N` is shorter than the ring
    rw [Nat.mod_eq_of_lt h, ← hK, Nat.add_sub_cancel, List.drop_left, List.take_left]

theorem rot_set (K : Nat) (W : List Nat) (c v : Nat) (hW : W.length = K) (hK : 0 < K) :
    (rot K W c).set (c % K) v = rot K (W.tail ++ [v]) (c + 1) := by
  have hlt := Nat.mod_lt c hK
  obtain ⟨O, N, rfl, hO⟩ : ∃ O N, W = O ++ N ∧ O.length = K - c % K :=
    ⟨W.take (K - c % K), W.drop (K - c % K), (List.take_append_drop _ _).symm, by rw [List.length_take]; omega⟩
  rw [List.length_append] at hW
  cases O with
  | nil => simp at hO; omega
  | cons w0 O =>
    rw [List.length_cons] at hO hW
    have hN : N.length = c % K := by omega
    rw [rot_split K (w0 :: O) N c (by rw [hN, Nat.mod_mod]) hW, ← hN, List.set_append_right _ _ (Nat.le_refl _), Nat.sub_self,
      List.set_cons_zero, List.cons_append, List.tail_cons, List.append_assoc,
      rot_split K O (N ++ [v]) (c + 1) (by rw [List.length_append, hN, List.length_singleton, Nat.mod_add_mod]) (by simp; omega),
      List.append_assoc, List.singleton_append]

/-- `probeCount` after `k` more rounds -/
def countIter : Nat → Nat → Nat
  | 0, c => c
  | k + 1, c => countIter k (countSucc c)

theorem countSucc_mod (K c : Nat) (hdiv : K ∣ 2 ^ 64) : countSucc c % K = (c + 1) % K := by
  unfold countSucc uintWord
  exact Nat.mod_mod_of_dvd _ hdiv

theorem countIter_mod (K : Nat) (hdiv : K ∣ 2 ^ 64) : ∀ (k c : Nat), countIter k c % K = (c + k) % K
  | 0, c => by simp [countIter]
  | k + 1, c => by rw [countIter, countIter_mod K hdiv k (countSucc c), Nat.add_mod_eq_add_mod_right k (countSucc_mod K c hdiv), Nat.add_assoc, Nat.add_comm 1 k]

end SSV.ClientGroups
