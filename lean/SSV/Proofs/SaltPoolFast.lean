import SSV.Model.SaltPoolFast
import SSV.Proofs.SaltPool
/-
C03: the fast pool representation (front/back lists + hash set) computes the list model.
-/
namespace SSV.SaltPool
open Std

theorem contains_cons (n : Node) (p : Pool) (s : Salt) : contains (n :: p) s = (n.salt == s || contains p s) := by
  simp [contains]

theorem contains_append (a b : Pool) (s : Salt) : contains (a ++ b) s = (contains a s || contains b s) := by
  simp [contains]

theorem pruneExpired_append (now : Nat) (a b : Pool) :
    pruneExpired now (a ++ b) = if pruneExpired now a = [] then pruneExpired now b else pruneExpired now a ++ b := by
  induction a with
  | nil => simp [pruneExpired]
  | cons n rest ih =>
    simp only [List.cons_append, pruneExpired]
    split
    · simp
    · exact ih

def SetOk (h : HashSet Nat) (p : Pool) : Prop := ∀ s, h.contains s = contains p s

/-- erasing the salt of a dropped node is right because no later node, of `l` or of the context `t`, carries it -/
theorem dropExpired_spec (now : Nat) (l t : Pool) (h : HashSet Nat) (hok : SetOk h (l ++ t)) (hnd : SaltsNodup (l ++ t)) :
    (dropExpired now l h).1 = pruneExpired now l ∧ SetOk (dropExpired now l h).2 ((dropExpired now l h).1 ++ t) := by
  induction l generalizing h with
  | nil => exact ⟨rfl, hok⟩
  | cons n rest ih =>
    unfold dropExpired pruneExpired
    split
    · exact ⟨rfl, hok⟩
    · obtain ⟨hn, hnd'⟩ := List.nodup_cons.mp hnd
      have hnot : contains (rest ++ t) n.salt = false := by
        cases hc : contains (rest ++ t) n.salt
        · rfl
        · obtain ⟨m, hm, hs⟩ := (contains_iff _ _).mp hc
          exact absurd (List.mem_map.mpr ⟨m, hm, hs⟩) hn
      refine ih (h.erase n.salt) (fun s => ?_) hnd'
      rw [HashSet.contains_erase, hok s, List.cons_append, contains_cons]
      cases hs : n.salt == s
      · rfl
      · exact (eq_of_beq hs ▸ hnot).symm

structure FInv (f : FPool) : Prop where
  ok : SetOk f.set f.toPool
  nodup : SaltsNodup f.toPool

theorem fprune_spec (now : Nat) (f : FPool) (hf : FInv f) :
    (fprune now f).toPool = pruneExpired now f.toPool ∧ FInv (fprune now f) := by
  suffices h : (fprune now f).toPool = pruneExpired now f.toPool ∧ SetOk (fprune now f).set (fprune now f).toPool from
    ⟨h.1, h.2, by rw [h.1]; exact hf.nodup.sublist (pruneExpired_suffix now _).sublist⟩
  obtain ⟨h1, h2⟩ := dropExpired_spec now f.front f.back.reverse f.set hf.ok hf.nodup
  unfold fprune FPool.toPool
  rw [pruneExpired_append, ← h1]
  cases hd : dropExpired now f.front f.set with
  | mk fr h =>
    rw [hd] at h2
    cases fr with
    | nil =>
      -- the whole front expired: go on in the back
      have hnd : SaltsNodup (f.back.reverse ++ []) := by
        rw [List.append_nil]
        exact hf.nodup.sublist (List.sublist_append_right _ _)
      obtain ⟨g1, g2⟩ := dropExpired_spec now f.back.reverse [] h (by simpa using h2) hnd
      rw [if_pos rfl]
      simpa [g1] using g2
    | cons a fr' =>
      rw [if_neg (List.cons_ne_nil a fr')]
      simpa using h2

theorem fadd_refines (P : Params) (now : Nat) (s : Salt) (f : FPool) (hf : FInv f) :
    (fadd P now s f).1.toPool = (add P now s f.toPool).1 ∧ (fadd P now s f).2 = (add P now s f.toPool).2 ∧
    FInv (fadd P now s f).1 := by
  suffices h : (fadd P now s f).1.toPool = (add P now s f.toPool).1 ∧ (fadd P now s f).2 = (add P now s f.toPool).2 ∧
      SetOk (fadd P now s f).1.set (fadd P now s f).1.toPool from
    ⟨h.1, h.2.1, h.2.2, by rw [h.1]; exact nodup_add P now s _ hf.nodup⟩
  obtain ⟨hp, hinv⟩ := fprune_spec now f hf
  have hc : (fprune now f).set.contains s = contains (pruneExpired now f.toPool) s := by rw [hinv.ok s, hp]
  unfold fadd add
  simp only [hc]
  cases hcs : contains (pruneExpired now f.toPool) s with
  | true =>
    simp only [if_true]
    exact ⟨hp, trivial, hinv.ok⟩
  | false =>
    simp only [Bool.false_eq_true, if_false]
    have htp : FPool.toPool { front := (fprune now f).front,
                              back := { salt := s, expiresAt := now + P.window } :: (fprune now f).back,
                              set := (fprune now f).set.insert s }
        = insert P now s (pruneExpired now f.toPool) := by
      rw [← hp]; simp [FPool.toPool, insert]
    refine ⟨htp, trivial, fun x => ?_⟩
    rw [htp, HashSet.contains_insert, hinv.ok x, hp]
    simp [insert, contains, Bool.or_comm]

theorem foldl_insert_contains (p : Pool) (h : HashSet Nat) (s : Salt) :
    (p.foldl (fun (h : HashSet Nat) (n : Node) => h.insert n.salt) h).contains s = (h.contains s || contains p s) := by
  induction p generalizing h with
  | nil => simp [contains]
  | cons n rest ih =>
    simp only [List.foldl_cons]
    rw [ih, HashSet.contains_insert, contains_cons]
    rw [Bool.or_comm (n.salt == s), Bool.or_assoc]

theorem ofPool_inv (p : Pool) (hnd : SaltsNodup p) : (FPool.ofPool p).toPool = p ∧ FInv (FPool.ofPool p) := by
  have htp : (FPool.ofPool p).toPool = p := by simp [FPool.ofPool, FPool.toPool]
  refine ⟨htp, ⟨fun s => ?_, by rw [htp]; exact hnd⟩⟩
  rw [htp]
  show (p.foldl (fun (h : HashSet Nat) (n : Node) => h.insert n.salt) ∅).contains s = contains p s
  rw [foldl_insert_contains]; simp

theorem foldl_addStep_refines (P : Params) (cs : List ACall) (f : FPool) (k : Nat) (hf : FInv f) :
    (cs.foldl (addStepF P) (f, k)).1.toPool = (cs.foldl (addStepL P) (f.toPool, k)).1 ∧
    (cs.foldl (addStepF P) (f, k)).2 = (cs.foldl (addStepL P) (f.toPool, k)).2 ∧
    FInv (cs.foldl (addStepF P) (f, k)).1 :=
  List.foldl_rel (r := fun (x : FPool × Nat) (y : Pool × Nat) => x.1.toPool = y.1 ∧ x.2 = y.2 ∧ FInv x.1) ⟨rfl, rfl, hf⟩
    fun c _ x y ⟨h1, h2, h3⟩ => by
      obtain ⟨g1, g2, g3⟩ := fadd_refines P c.now c.salt x.1 h3
      simp only [addStepF, addStepL, ← h1, ← h2, g1, g2]
      exact ⟨trivial, trivial, g3⟩

end SSV.SaltPool
