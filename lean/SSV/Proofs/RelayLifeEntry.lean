import SSV.Model.RelayLife
/-
C12, entry level.  `Step` is `step` as a relation, one constructor per atomic action of the Go code with the guards of
its arm that a proof needs (the queue bound of the send channel is left out); an action changes at most one table entry,
and the moves of a session's own goroutines that change nothing else are collected in `Own`.  `EInv` is what can be said
about ONE entry with no other session and no shared field in sight: socket and deadline against the position of its
goroutines, `sendChClean`, the channel flag.
-/
namespace SSV.RelayLife

def IPc.inCrit : IPc → Bool
  | .cClose | .cDelete | .cUnlock => true
  | _ => false
/-- `delete(table, key)` has been executed -/
def IPc.deleted : IPc → Bool
  | .cUnlock | .cDrain | .done => true
  | _ => false
/-- `close(sendCh)` has been executed -/
def IPc.closed : IPc → Bool
  | .cDelete | .cUnlock | .cDrain | .done => true
  | _ => false

/-- position of I_i in its program -/
def IPc.idx : IPc → Nat
  | .getClient => 0 | .newSession => 1 | .listen => 2 | .setDl => 3 | .newPacker => 4 | .swap => 5 | .spawn => 6
  | .dRead => 7 | .dProc => 8 | .cLock => 9 | .cClose => 10 | .cDelete => 11 | .cUnlock => 12 | .cDrain => 13 | .done => 14

theorem IPc.closed_live_crit (p : IPc) : p.closed = true → p.deleted = false → p.inCrit = true := by
  cases p <;> decide
theorem IPc.deleted_f (p : IPc) : p.deleted = false ↔ p.idx < 12 := by cases p <;> decide
theorem IPc.closed_t (p : IPc) : p.closed = true ↔ 11 ≤ p.idx := by cases p <;> decide
theorem IPc.inCrit_t (p : IPc) : p.inCrit = true ↔ (10 ≤ p.idx ∧ p.idx ≤ 12) := by cases p <;> decide
theorem IPc.idx_done (p : IPc) : p = .done ↔ p.idx = 14 := by cases p <;> decide
theorem IPc.idx_dRead (p : IPc) : p = .dRead ↔ p.idx = 7 := by cases p <;> decide

theorem Entry.finished_iff {e : Entry} : e.finished = true ↔ e.ipc = .done ∧ (e.upc = .none ∨ e.upc = .done) := by
  simp [Entry.finished]

/-- every early return that owns the socket closes it -/
def Cfg.closesAll (cfg : Cfg) : Bool := cfg.closeSetDl && cfg.closeNewPacker && cfg.closeSwap

/-- The steps of a session's own goroutines that change nothing but its entry: I_i outside the mutex operations and the
table delete, U_i, and the NAT timer (one constructor per arm of `step`, with the arm's guard; the three early returns
that have nothing to close share `failEarly`).  The Boolean index is `Ev.internal` of the event: `false` for the timer and for a
datagram from the target, which are moves of the environment on the session's entry. -/
inductive Own (cfg : Cfg) (e : Entry) : Bool → Entry → Prop
  | getClient : e.ipc = .getClient → Own cfg e true { e with ipc := .newSession }
  | newSession : e.ipc = .newSession → Own cfg e true { e with ipc := .listen }
  | listen : e.ipc = .listen → Own cfg e true { e with sock := true, ipc := .setDl }
  | setDl : e.ipc = .setDl → cfg.initArms = true →
      Own cfg e true { e with dl := if e.sock then .future else e.dl, ipc := .newPacker }
  | setDlFail : e.ipc = .setDl → cfg.initArms = true → Own cfg e true { e.closeIf cfg.closeSetDl with ipc := .cLock }
  | setDlSkip : e.ipc = .setDl → ¬ cfg.initArms = true → Own cfg e true { e with ipc := .newPacker }
  | newPacker : e.ipc = .newPacker → Own cfg e true { e with ipc := .swap }
  | newPackerFail : e.ipc = .newPacker → Own cfg e true { e.closeIf cfg.closeNewPacker with ipc := .cLock }
  | swap : e.ipc = .swap → e.st = .nil → Own cfg e true { e with st := .nat, clean := true, ipc := .spawn }
  | swapFail : e.ipc = .swap → ¬ e.st = .nil →
      Own cfg e true { ({ e with st := .nat } : Entry).closeIf cfg.closeSwap with ipc := .cLock }
  | spawn : e.ipc = .spawn → Own cfg e true { e with upc := .recv, ipc := .dRead }
  | dTimeout : e.ipc = .dRead → e.dl = .past → Own cfg e true { e with ipc := .cLock }
  | dPacket : e.ipc = .dRead → e.dl = .future → Own cfg e false { e with ipc := .dProc }
  | dSend : e.ipc = .dProc → Own cfg e true { e with ipc := .dRead }
  | cClose : e.ipc = .cClose → Own cfg e true { e with chClosed := true, ipc := .cDelete }
  | cDrain : e.ipc = .cDrain → Own cfg e true { e with q := 0, ipc := .done }
  | uRecv (k : Nat) : e.upc = .recv → 1 ≤ k → k ≤ e.q → Own cfg e true { e with q := e.q - k, upc := .send }
  | uEnd : e.upc = .recv → e.q = 0 → e.chClosed = true → Own cfg e true { e with upc := .closeSock }
  | uSend : e.upc = .send → Own cfg e true { e with upc := .arm }
  | uArm : e.upc = .arm →
      Own cfg e true { e with dl := if e.sock then .future else e.dl, upc := if cfg.recheck then .check else .recv }
  | uCheck : e.upc = .check → Own cfg e true { e with upc := if e.st = .nat then .recv else .force }
  | uForce : e.upc = .force → Own cfg e true { e with dl := if e.sock then .past else e.dl, upc := .recv }
  | uClose : e.upc = .closeSock → Own cfg e true { e.closeIf cfg.uplinkCloses with upc := .done }
  | uFail : e.upc = .send → Own cfg e true { e with upc := .recv }
  | timer : e.dl = .future → Own cfg e false { e with dl := .past }
  /-- a failed `GetUDPClient`, `NewSession` or `ListenUDP`: nothing to close -/
  | failEarly : e.ipc.idx ≤ 2 → Own cfg e true { e with ipc := .cLock }

/-- One atomic action of the Go code as the change it makes: `step` as a relation.
The index says whether the action is one of the relay's own (`Ev.internal`); `own` comes last because `constructor` tries the constructors in order and `s.setE i e'` also matches the stop visits. -/
inductive Step (cfg : Cfg) (s : State) : Bool → State → Prop
  | cLock {i : Nat} : i < s.n → (s.ent i).ipc = .cLock → s.mu = .free →
      Step cfg s true { (s.setE i { s.ent i with ipc := .cClose }) with mu := .cleanup i }
  | cCloseAgain {i : Nat} : i < s.n → (s.ent i).ipc = .cClose → (s.ent i).chClosed = true →
      Step cfg s true { (s.setE i { s.ent i with ipc := .cDelete }) with panic := true }
  | cDelete {i : Nat} : i < s.n → (s.ent i).ipc = .cDelete →
      Step cfg s true { (s.setE i { s.ent i with ipc := .cUnlock }) with
        table := fun k => if k = (s.ent i).key then none else s.table k }
  | cUnlock {i : Nat} : i < s.n → (s.ent i).ipc = .cUnlock →
      Step cfg s true { (s.setE i { s.ent i with ipc := if (s.ent i).clean then .done else .cDrain }) with mu := .free }
  | arrive (c : Nat) : s.rpc = .read ∧ s.srvPast = false → Step cfg s false { s with rpc := .wantLock c }
  | rLock {c : Nat} : s.rpc = .wantLock c → s.mu = .free → Step cfg s true { s with rpc := .hold c, mu := .recv }
  /-- the datagram is dropped: it does not unpack, or the queue is full -/
  | rDrop {c : Nat} : s.rpc = .hold c → Step cfg s true { s with rpc := .unlock }
  | rClosed {c i : Nat} : s.rpc = .hold c → s.table c = some i → (s.ent i).chClosed = true →
      Step cfg s true { s with rpc := .unlock, panic := true }
  | rEnqueue {c i : Nat} : s.rpc = .hold c → s.table c = some i → ¬ (s.ent i).chClosed = true →
      Step cfg s true { (s.setE i { s.ent i with q := (s.ent i).q + 1 }) with rpc := .unlock }
  | rNew {c : Nat} : s.rpc = .hold c → s.table c = none →
      Step cfg s true { s with rpc := .unlock, n := s.n + 1,
                               ent := fun j => if j = s.n then Entry.fresh c else s.ent j,
                               table := fun k => if k = c then some s.n else s.table k }
  | rMore (c : Nat) : s.rpc = .unlock → Step cfg s false { s with rpc := .hold c }
  | rUnlock : s.rpc = .unlock → Step cfg s true { s with rpc := .read, mu := .free }
  | rExit : s.rpc = .read ∧ s.srvPast = true → Step cfg s true { s with rpc := .done }
  | stopCall : s.spc = .idle → Step cfg s false { s with spc := .dlServer }
  | stopDl : s.spc = .dlServer → Step cfg s true { s with srvPast := true, spc := .waitMwg }
  | stopMwg : s.spc = .waitMwg → s.rpc = .done → Step cfg s true { s with spc := .lock }
  | stopLock : s.spc = .lock → s.mu = .free → Step cfg s true { s with mu := .stop, spc := .iter }
  | stopIter : s.spc = .iter → allB s.n (fun i => !s.inTab i || (s.ent i).visited) = true →
      Step cfg s true { s with spc := .unlock }
  | stopForce {i : Nat} : s.spc = .pend i →
      Step cfg s true { (s.setE i { s.ent i with dl := if (s.ent i).sock then .past else (s.ent i).dl, visited := true }) with
        spc := .iter }
  | stopUnlock : s.spc = .unlock → Step cfg s true { s with mu := .free, spc := .waitWg }
  | stopWg : s.spc = .waitWg → allB s.n (fun i => (s.ent i).finished) = true → Step cfg s true { s with spc := .closeSrv }
  | stopClose : s.spc = .closeSrv → Step cfg s true { s with spc := .done }
  | visitNil {i : Nat} : s.spc = .iter ∧ i < s.n ∧ s.inTab i = true ∧ (s.ent i).visited = false → (s.ent i).st = .nil →
      Step cfg s true (s.setE i { s.ent i with st := .srv, visited := true })
  | visit {i : Nat} : s.spc = .iter ∧ i < s.n ∧ s.inTab i = true ∧ (s.ent i).visited = false → ¬ (s.ent i).st = .nil →
      Step cfg s true { (s.setE i { s.ent i with st := .srv }) with spc := .pend i }
  | own {i : Nat} {b : Bool} {e' : Entry} : i < s.n → Own cfg (s.ent i) b e' → Step cfg s b (s.setE i e')

variable {cfg : Cfg}

/-- An arm that writes one entry is tried against `own` first (the search through the other constructors before it is slow);
a conditional inside the new entry is split only when no constructor fits. -/
theorem step_Step {s s' : State} {ev : Ev} (h : step cfg s ev = some s') : Step cfg s ev.internal s' := by
  revert h
  fun_cases step cfg s ev <;> intro h <;> cases h <;>
    repeat' first
      | (refine .own (by simp only [*]) ?_
         first
           | (refine .failEarly ?_; simp +zetaDelta only [*, IPc.idx, Nat.le_refl, Nat.reduceLeDiff]; done)
           | (constructor <;> first | assumption | (simp +zetaDelta only [*]; done)))
      | (constructor <;> first | assumption | (simp only [*]; done))
      | split

theorem step_exists {s s' : State} {ev : Ev} (h : step cfg s ev = some s') : ∃ b, Step cfg s b s' := ⟨_, step_Step h⟩

/-- What holds of every table entry in every reachable state, by itself: the position of I_i (`ipc.idx`: 0–2 before the
socket exists, 3–5 initialiser owning the socket, 6 about to spawn U_i, 7–8 downlink loop, 9–14 deferred clean-up) against socket, deadline,
`sendChClean`, channel flag and the position of U_i. -/
structure EInv (cfg : Cfg) (e : Entry) : Prop where
  /-- a closed socket has no deadline (so forcing the deadline of a closed socket leaves none in the future: `Entry.rechecking`) -/
  noSockNoDl : e.sock = false → e.dl = .unset
  /-- U_i does not exist before I_i has spawned it -/
  uplinkNotYet : e.ipc.idx ≤ 6 → e.upc = .none
  /-- `sendChClean` is set by the successful swap (5 → 6) and by nothing else… -/
  cleanPos : e.clean = true → 5 < e.ipc.idx
  /-- …so without it I_i is before the swap, or the swap failed and I_i is returning through the clean-up -/
  uncleanPos : e.clean = false → e.ipc.idx ≤ 5 ∨ 9 ≤ e.ipc.idx
  closed : e.chClosed = true ↔ 11 ≤ e.ipc.idx
  /-- the socket against the position of I_i: none before `ListenUDP` (carries `sockClosedOnFail` over `failEarly`)… -/
  sockNotYet : e.ipc.idx ≤ 2 → e.sock = false
  /-- …open from there to the end of the downlink loop… -/
  sockOpen : 3 ≤ e.ipc.idx → e.ipc.idx ≤ 8 → e.sock = true
  /-- …closed once U_i has returned, or by the early return that owned it, if the source has the calls -/
  sockClosedByUplink : cfg.uplinkCloses = true → e.upc = .done → e.sock = false
  sockClosedOnFail : cfg.closesAll = true → e.clean = false → 9 ≤ e.ipc.idx → e.sock = false
  /-- U_i leaves its loop only on the closed channel (carries `sockOpen` over `uClose`) -/
  uplinkExit : e.upc = .closeSock ∨ e.upc = .done → 11 ≤ e.ipc.idx
  uplinkStarted : e.clean = true → 7 ≤ e.ipc.idx → e.upc ≠ .none
  /-- armed by the initialiser, the deadline exists for as long as the downlink can be reading -/
  dlArmed : cfg.initArms = true → 4 ≤ e.ipc.idx → e.ipc.idx ≤ 8 → e.dl ≠ .unset

theorem einv_fresh (c : Nat) : EInv cfg (Entry.fresh c) := by constructor <;> simp [Entry.fresh, IPc.idx]

end SSV.RelayLife
