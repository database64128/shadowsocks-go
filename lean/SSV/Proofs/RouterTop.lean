import SSV.Proofs.RouterAddr
import SSV.Model.RouterService
/-
C09: from a whole route (`build_loads`) to the router (`Router.match` and the client getters against `specMatch`), and
the resolver slice and map as service.Config.Manager builds them.
-/
namespace SSV.Router
open SSV.Router.Spec SSV.Gen

theorem allV_eq_t_iff (vs : List V) : allV vs = .t ↔ ∀ v ∈ vs, v = .t := by
  induction vs with
  | nil => simp [allV]
  | cons v vs ih =>
    simp only [allV, List.mem_cons, forall_eq_or_imp]
    constructor
    · intro h
      cases v <;> simp only [V.and, reduceCtorEq] at h
      exact ⟨rfl, ih.mp h⟩
    · rintro ⟨a, b⟩
      rw [a]; exact ih.mpr b

theorem allV_ne_t (vs : List V) (w : V) (hw : w ≠ .t) (h : allV vs = w) : ∃ v ∈ vs, v = w := by
  induction vs with
  | nil => exact absurd h.symm hw
  | cons v vs ih =>
    cases v with
    | t => obtain ⟨u, hu, e⟩ := ih h; exact ⟨u, List.mem_cons_of_mem _ hu, e⟩
    | f | e _ => exact ⟨_, List.mem_cons_self, h⟩

theorem specRoute_ne_t {p env rc q v} (hm : v ∈ conds p env rc q) (hv : v ≠ .t) : specRoute p env rc q ≠ .t :=
  fun ht => hv ((allV_eq_t_iff _).mp ht v hm)

def optRes : Option String → Res
  | some c => .client c
  | none => .rejected

theorem clientFor_eq (r : Route) (net : Net) :
    r.clientFor net = optRes (match net with | .tcp => r.tcpClient | .udp => r.udpClient) := rfl

theorem cNetwork_t (rc : RouteConfig) (q : Req) (h : cNetwork rc q = .t) :
    (rc.network = "tcp" → q.net = .tcp) ∧ (rc.network = "udp" → q.net = .udp) := by
  unfold cNetwork at h
  constructor
  · intro e
    rw [if_pos e] at h
    cases hq : q.net with
    | tcp => rfl
    | udp => rw [hq] at h; cases h
  · intro e
    rw [if_neg (by rw [e]; decide), if_pos e] at h
    cases hq : q.net with
    | tcp => rw [hq] at h; cases h
    | udp => rfl

theorem ite_ne {α : Type} {c : Prop} [Decidable c] {a b u : α} (ha : a ≠ u) (hb : b ≠ u) :
    (if c then a else b) ≠ u := by
  split <;> assumption

theorem precheck_ne_unreachable (env : Env) (rc : RouteConfig) : precheck env rc ≠ some .unreachable := by
  unfold precheck
  exact ite_ne nofun (ite_ne nofun (ite_ne nofun (ite_ne nofun nofun)))

theorem resolversFor_ne_unreachable (env : Env) (rc : RouteConfig) : resolversFor env rc ≠ .error .unreachable := by
  unfold resolversFor
  exact ite_ne nofun (ite_ne nofun nofun)

theorem secClients_loads (env : Env) (rc : RouteConfig) : Loads (secClients env rc) fun cl =>
    cl = if rc.client = "reject" then (none, none) else
      (if rc.network = "" || rc.network = "tcp" then some rc.client else none,
       if rc.network = "" || rc.network = "udp" then some rc.client else none) := by
  fun_cases secClients env rc
  · rename_i e; exact .pure (if_pos e).symm
  · exact .fail nofun
  · exact .fail nofun
  · rename_i e _ _ _ _; exact .pure (if_neg e).symm

/-- requests the theorems are about: the receiving server exists and ports are `uint16` -/
structure Req.WF (env : Env) (q : Req) : Prop where
  server : q.server < env.servers.length
  srcPort : q.srcPort < portSpace
  dstPort : q.dstPort < portSpace

/-- what is known of a route that loaded -/
structure Built (env : Env) (rc : RouteConfig) (route : Route) : Prop where
  name : route.name = rc.name
  fromPieces : ∀ pc ∈ SSV.PortSet.items rc.fromPortRanges, SSV.PortSet.parseItem pc ≠ none
  toPieces : ∀ pc ∈ SSV.PortSet.items rc.toPortRanges, SSV.PortSet.parseItem pc ≠ none
  sound : ∀ p q, env.servers.Nodup → q.WF env → meetAll p q route.criteria = R.ofV (specRoute p env rc q)
  client : ∀ p q, specRoute p env rc q = .t → route.clientFor q.net = specClient rc.client

theorem build_loads (env : Env) (rc : RouteConfig) : Loads (build env rc) (Built env rc) := by
  fun_cases build env rc
  · exact .fail fun h => precheck_ne_unreachable env rc (h ▸ ‹_›)
  · exact .fail fun h => resolversFor_ne_unreachable env rc (h ▸ ‹_›)
  · exact (secNetwork_loads rc).error ‹_›
  · exact (secClients_loads env rc).error ‹_›
  · exact (secServers_loads env rc).error ‹_›
  · exact (secFromPorts_loads rc).error ‹_›
  · exact (secFromAddr_loads env rc).error ‹_›
  · exact (secToPorts_loads rc).error ‹_›
  · exact (secToAddr_loads env rc _).error ‹_›
  rename_i _ rs hrs cNet hNet cl hcl cSrv hSrv cSp hSp cSa hSa cDp hDp cDa hDa
  replace hNet := (secNetwork_loads rc).ok hNet
  replace hcl := (secClients_loads env rc).ok hcl
  replace hSrv := (secServers_loads env rc).ok hSrv
  replace hSp := (secFromPorts_loads rc).ok hSp
  replace hSa := (secFromAddr_loads env rc).ok hSa
  replace hDp := (secToPorts_loads rc).ok hDp
  replace hDa := (secToAddr_loads env rc rs).ok hDa hrs
  refine .pure ⟨rfl, hSp.1, hDp.1, fun p q hnd hq => ?_, fun p q hm => ?_⟩
  · simp only [specRoute, conds, allV, R.ofV_and, List.append_assoc, meetAll_append]
    rw [hNet.2, hSrv p q hq.server hnd, secUsers_sound, hSp.2 p q hq.srcPort, hSa, hDp.2 p q hq.dstPort, hDa]
    rw [R.ofV, R.andThen_yes]
  · rw [specClient]
    split
    · rw [hcl, if_pos ‹_›]
      cases q.net <;> rfl
    · -- a route restricted to one network has matched a request of that network
      obtain ⟨ht, hu⟩ := cNetwork_t rc q ((allV_eq_t_iff _).mp hm _ List.mem_cons_self)
      rw [hcl, if_neg ‹_›, clientFor_eq]
      rcases hNet.1 with n | n | n
      · cases q.net <;> simp [n, optRes]
      · simp [ht n, n, optRes]
      · simp [hu n, n, optRes]

def defaultOf (name : String) (clients : List String) : Res :=
  if name = "reject" then .rejected
  else if name = "" then
    match clients with
    | [c] => .client c
    | _ => .rejected
  else .client name

theorem specDefault_eq (env : Env) (cfg : Config) (net : Net) :
    specDefault env cfg net =
      (match net with
       | .tcp => defaultOf cfg.defaultTCPClientName env.tcpClients
       | .udp => defaultOf cfg.defaultUDPClientName env.udpClients) := by
  cases net <;> rfl

theorem defaultOf_ne_panic (name : String) (clients : List String) : defaultOf name clients ≠ .panic := by
  unfold defaultOf
  refine ite_ne nofun (ite_ne ?_ nofun)
  split <;> nofun

theorem defaultClient_loads (name : String) (clients : List String) (nf : BuildErr) (hnf : nf ≠ .unreachable) :
    Loads (defaultClient name clients nf) fun d => optRes d = defaultOf name clients := by
  unfold defaultOf
  fun_cases defaultClient name clients nf
  · rename_i e
    exact .pure (if_pos e).symm
  · rename_i e1 e2 c -- no name, one client
    exact .pure ((if_neg e1).trans (if_pos e2)).symm
  · rename_i e1 e2 hc -- no name, no single client
    refine .pure ((if_neg e1).trans ((if_pos e2).trans ?_)).symm
    split
    · exact absurd rfl (hc _)
    · rfl
  · rename_i e1 e2 _ -- a known name
    exact .pure ((if_neg e1).trans (if_neg e2)).symm
  · exact .fail hnf

/-- what the specification says `Router.match` returns: the deciding route config, the default, or an error -/
inductive SpecPick where
  | route (rc : RouteConfig)
  | dflt
  | error (x : Err)

def specPick (p : Params) (env : Env) (q : Req) : List RouteConfig → SpecPick
  | [] => .dflt
  | rc :: rest =>
    match specRoute p env rc q with
    | .t => .route rc
    | .f => specPick p env q rest
    | .e x => .error x

/-- what `specRoutes` makes of the pick -/
def SpecPick.res (env : Env) (cfg : Config) (net : Net) : SpecPick → Res
  | .route rc => specClient rc.client
  | .dflt => specDefault env cfg net
  | .error x => .error x

/-- what `specRouteNames` makes of the pick -/
def SpecPick.name : SpecPick → Option String
  | .route rc => some rc.name
  | .dflt => some "default"
  | .error _ => none

theorem specPick_skip (p : Params) (env : Env) (q : Req) (pre rest : List RouteConfig)
    (h : ∀ x ∈ pre, specRoute p env x q = .f) : specPick p env q (pre ++ rest) = specPick p env q rest := by
  induction pre with
  | nil => rfl
  | cons a pre ih =>
    simp only [List.cons_append, specPick, h a List.mem_cons_self]
    exact ih fun x hx => h x (List.mem_cons_of_mem _ hx)

/-- stated of any function of the pick, so that it reads off for the client and for the route name alike -/
theorem specPick_spelled_out {α : Type} (f : SpecPick → α) (p : Params) (env : Env) (q : Req) (rcs : List RouteConfig) :
    (∀ pre rc post, rcs = pre ++ rc :: post → (∀ x ∈ pre, specRoute p env x q = .f) →
        specRoute p env rc q = .t → f (specPick p env q rcs) = f (.route rc)) ∧
    ((∀ x ∈ rcs, specRoute p env x q = .f) → f (specPick p env q rcs) = f .dflt) ∧
    (∀ pre rc post x, rcs = pre ++ rc :: post → (∀ y ∈ pre, specRoute p env y q = .f) →
        specRoute p env rc q = .e x → f (specPick p env q rcs) = f (.error x)) := by
  refine ⟨?_, ?_, ?_⟩
  · intro pre rc post e hpre ht
    rw [e, specPick_skip p env q pre _ hpre, specPick, ht]
  · intro h
    have := specPick_skip p env q rcs [] h
    rw [List.append_nil] at this
    rw [this, specPick]
  · intro pre rc post x e hpre hx
    rw [e, specPick_skip p env q pre _ hpre, specPick, hx]

theorem specRoutes_pick (p : Params) (env : Env) (cfg : Config) (q : Req) : ∀ rcs,
    specRoutes p env cfg q rcs = (specPick p env q rcs).res env cfg q.net := by
  intro rcs
  induction rcs with
  | nil => rfl
  | cons rc rcs ih =>
    simp only [specRoutes, specPick]
    cases specRoute p env rc q with
    | t => rfl
    | f => exact ih
    | e x => rfl

theorem specRouteNames_pick (p : Params) (env : Env) (q : Req) : ∀ rcs,
    specRouteNames p env q rcs = (specPick p env q rcs).name := by
  intro rcs
  induction rcs with
  | nil => rfl
  | cons rc rcs ih =>
    simp only [specRouteNames, specPick]
    cases specRoute p env rc q with
    | t => rfl
    | f => exact ih
    | e x => rfl

theorem buildRoutes_loads (env : Env) (rcs : List RouteConfig) : Loads (buildRoutes env rcs) fun rs =>
    ∀ p q (dflt : Route), env.servers.Nodup → q.WF env → dflt.criteria = [] →
      (match specPick p env q rcs with
       | .route rc => ∃ rt, matchRoute p q (rs ++ [dflt]) = .route rt ∧ rt.name = rc.name ∧
                          rt.clientFor q.net = specClient rc.client
       | .dflt => matchRoute p q (rs ++ [dflt]) = .route dflt
       | .error x => matchRoute p q (rs ++ [dflt]) = .error x) := by
  fun_induction buildRoutes env rcs
  · exact .pure fun p q dflt _ _ hdc => by simp [specPick, matchRoute, hdc, meetAll]
  · exact (build_loads env _).error ‹_›
  · rename_i ih; exact ih.error ‹_›
  · rename_i rc rcs r hr rs' hrs ih
    refine .pure fun p q dflt hnd hq hdc => ?_
    have hb := (build_loads env rc).ok hr
    simp only [List.cons_append, matchRoute, specPick, hb.sound p q hnd hq]
    cases hv : specRoute p env rc q with
    | t => simp only [R.ofV]; exact ⟨r, rfl, hb.name, hb.client p q hv⟩
    | f => simp only [R.ofV]; exact ih.ok hrs p q dflt hnd hq hdc
    | e x => simp only [R.ofV]

theorem buildRouter_loads (env : Env) (cfg : Config) : Loads (buildRouter env cfg) fun r =>
    ∀ p q, env.servers.Nodup → q.WF env →
      getClient p r q = specMatch p env cfg q ∧ matchedRoute p r q = specMatchedRoute p env cfg q := by
  have hT := defaultClient_loads cfg.defaultTCPClientName env.tcpClients .defaultTCPNotFound nofun
  have hU := defaultClient_loads cfg.defaultUDPClientName env.udpClients .defaultUDPNotFound nofun
  fun_cases buildRouter env cfg
  · exact hT.error ‹_›
  · exact hU.error ‹_›
  · exact (buildRoutes_loads env _).error ‹_›
  rename_i dt hdt du hdu rs hrs
  refine .pure fun p q hnd hq => ?_
  have key := (buildRoutes_loads env _).ok hrs p q ⟨"default", [], dt, du⟩ hnd hq rfl
  have hdef : Route.clientFor ⟨"default", [], dt, du⟩ q.net = specDefault env cfg q.net := by
    rw [specDefault_eq, clientFor_eq]
    cases q.net with
    | tcp => exact hT.ok hdt
    | udp => exact hU.ok hdu
  unfold getClient matchedRoute specMatch specMatchedRoute
  rw [specRoutes_pick, specRouteNames_pick]
  generalize specPick p env q cfg.routes = pick at key ⊢
  cases pick with
  | route rc =>
    obtain ⟨rt, hm, hn, hc⟩ := key
    simp only [hm, hn, hc, SpecPick.res, SpecPick.name, and_self]
  | dflt => simp only [key, hdef, SpecPick.res, SpecPick.name, and_self]
  | error x => simp only [key, SpecPick.res, SpecPick.name, and_self]

theorem getClient_spec (p : Params) (env : Env) (cfg : Config) (r : Router) (q : Req)
    (hnd : env.servers.Nodup) (hq : q.WF env) (h : buildRouter env cfg = .ok r) :
    getClient p r q = specMatch p env cfg q := ((buildRouter_loads env cfg).ok h p q hnd hq).1

theorem specRoutes_ne_panic (p : Params) (env : Env) (cfg : Config) (q : Req) (rcs : List RouteConfig) :
    specRoutes p env cfg q rcs ≠ .panic := by
  rw [specRoutes_pick]
  cases specPick p env q rcs with
  | route rc => exact ite_ne nofun nofun
  | dflt =>
    rw [SpecPick.res, specDefault_eq]
    cases q.net <;> exact defaultOf_ne_panic _ _
  | error x => nofun

theorem serviceResolvers_spec (dns slice keys sl ks : List String) (hk : keys.Nodup)
    (h : serviceResolvers dns slice keys = some (sl, ks)) : sl = slice ++ dns ∧ ks = keys ++ dns ∧ ks.Nodup := by
  revert hk h
  fun_induction serviceResolvers dns slice keys
  · intro hk h
    simp only [Option.some.injEq, Prod.mk.injEq] at h
    obtain ⟨rfl, rfl⟩ := h
    exact ⟨by simp, by simp, hk⟩
  · nofun
  · rename_i n rest slice keys hn ih
    intro hk h
    have hn' : n ∉ keys := fun hm => hn (List.contains_iff_mem.mpr hm)
    have hk' : (keys ++ [n]).Nodup := by
      rw [List.nodup_append]
      refine ⟨hk, by simp, ?_⟩
      intro x hx y hy
      simp only [List.mem_singleton] at hy
      subst hy
      intro exy; subst exy; exact hn' hx
    obtain ⟨a, b, c⟩ := ih hk' h
    exact ⟨by rw [a, List.append_assoc]; rfl, by rw [b, List.append_assoc]; rfl, c⟩

end SSV.Router
