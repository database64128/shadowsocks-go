import SSV.Proofs.PipeLive
/-
C15 — every run without new calls is finite once the direction is closed, and likewise once BOTH deadlines have
expired (current cancel channels closed, no Set*Deadline call pending) whether or not the direction is closed:
two measures, each strictly decreased by every internal step (thread-local, data channel, count-back channel,
timer, collecting a result).  The names that end in `E` belong to the second, "expired", measure.
-/
namespace SSV.Pipe

/-- distance of a pc from the end of its call when `done` is closed.  Reader pcs sit 25 above writer pcs so that
the count-back step still decreases the sum although it sends the writer round its loop: `rAck + wAwait = 28 + 2`
against at most `rChk1 + wEnter = 25 + 4` afterwards. -/
def PC.rank : PC → Nat
  | .idle => 0
  | .rRet .. | .wRet .. | .uRet .. => 1
  | .rChk1 .. => 25
  | .rAck .. => 28
  | .rSel .. => 31
  | .rEnter .. => 32
  | .rChk2 .. => 33
  | .wAwait .. => 2
  | .wSel .. => 3
  | .wEnter .. => 4
  | .wLock .. => 5
  | .wChk2 .. => 6
  | .wChk1 .. => 7
  | .cClose => 2
  | .cStore _ => 3
  | .dSet .. => 3
  | .dChk .. => 4

def msum : Nat → (Nat → PC) → Nat
  | 0, _ => 0
  | n + 1, f => msum n f + (f n).rank

def DL.bit (d : DL) : Nat := if d.armed then 1 else 0

def measure (N : Nat) (s : State) : Nat := msum N s.thr + s.rdl.bit + s.wdl.bit

/-- distance from the end of the call when the deadlines have expired.  A WriteTo goes round
`rChk1 → rChk2 → rEnter → rSel → rAck → rChk1`: `rank` cuts this cycle at `rChk1` (closed: it returns there), `rankE`
at `rChk2` (expired: it returns there), hence `rChk2 < rChk1` here.  `dChk`/`dSet` get 0 although they move:
`Expired.noSet` excludes them. -/
def PC.rankE : PC → Nat
  | .idle => 0
  | .rRet .. | .wRet .. | .uRet .. => 1
  | .rChk2 .. => 25
  | .rChk1 .. => 26
  | .rAck .. => 29
  | .rSel .. => 32
  | .rEnter .. => 33
  | .wAwait .. => 2
  | .wSel .. => 3
  | .wEnter .. => 4
  | .wLock .. => 5
  | .wChk2 .. => 6
  | .wChk1 .. => 7
  | .cClose => 2
  | .cStore _ => 3
  | .dSet .. => 0
  | .dChk .. => 0

def msumE : Nat → (Nat → PC) → Nat
  | 0, _ => 0
  | n + 1, f => msumE n f + (f n).rankE

def measureE (N : Nat) (s : State) : Nat := msumE N s.thr

def Bounded (N : Nat) (s : State) : Prop := ∀ i, N ≤ i → s.thr i = .idle

def PC.isSetter : PC → Bool
  | .dChk .. | .dSet .. => true
  | _ => false

/-- both deadlines expired, nobody about to change them -/
structure Expired (s : State) : Prop where
  rd : s.rdl.closed = true
  wd : s.wdl.closed = true
  noSet : ∀ i, (s.thr i).isSetter = false

inductive IRun : State → Nat → State → Prop where
  | nil {s} : IRun s 0 s
  | cons {s s1 s2 k} : IStep s s1 → IRun s1 k s2 → IRun s (k + 1) s2

/- `S` is `msum` with `w = PC.rank`, or `msumE` with `w = PC.rankE` -/

section
variable {w : PC → Nat} {S : Nat → (Nat → PC) → Nat} (h0 : ∀ f, S 0 f = 0)
  (hS : ∀ n f, S (n + 1) f = S n f + w (f n))
include h0 hS

theorem sum_upd_ge (n i : Nat) (f : Nat → PC) (p : PC) (h : n ≤ i) :
    S n (fun k => if k = i then p else f k) = S n f := by
  induction n with
  | zero => rw [h0, h0]
  | succ m ih =>
    have hne : m ≠ i := by omega
    simp only [hS, ih (by omega), hne, if_false]

theorem sum_upd_lt (n i : Nat) (f : Nat → PC) (p : PC) (h : i < n) :
    S n (fun k => if k = i then p else f k) + w (f i) = S n f + w p := by
  induction n with
  | zero => omega
  | succ m ih =>
    by_cases hm : i = m
    · subst hm
      simp only [hS, sum_upd_ge h0 hS i i f p (Nat.le_refl _), if_true]; omega
    · have hne : m ≠ i := fun e => hm e.symm
      have := ih (by omega)
      simp only [hS, hne, if_false]; omega

theorem sum_upd_upd (n i j : Nat) (f : Nat → PC) (p q : PC) (hi : i < n) (hj : j < n) (hij : i ≠ j) :
    S n (fun k => if k = j then q else if k = i then p else f k) + w (f i) + w (f j) = S n f + w p + w q := by
  have m1 := sum_upd_lt h0 hS n i f p hi
  have m2 := sum_upd_lt h0 hS n j (fun k => if k = i then p else f k) q hj
  simp only [Ne.symm hij, if_false] at m2
  omega

end

theorem lt_of_idle_ne {N i : Nat} {s : State} (hb : Bounded N s) (h : s.thr i ≠ .idle) : i < N := by
  apply Nat.lt_of_not_le; intro hle; exact h (hb i hle)

theorem measure_setT {N i : Nat} {s : State} (p : PC) (h : i < N) :
    measure N (s.setT i p) + (s.thr i).rank = measure N s + p.rank := by
  have := sum_upd_lt (S := msum) (fun _ => rfl) (fun _ _ => rfl) N i s.thr p h
  simp only [measure, State.setT]; omega

theorem bounded_setT {N i : Nat} {s g : State} {p : PC} (hg : g.thr = s.thr) (hb : Bounded N s) (h : i < N) :
    Bounded N (g.setT i p) := by
  intro k hk; simp only [State.setT, hg]
  have : k ≠ i := by omega
  simp [this, hb k hk]

theorem expired_setT {i : Nat} {s g : State} {p : PC} (hx : Expired s) (hg : g.thr = s.thr) (hr : g.rdl = s.rdl)
    (hw : g.wdl = s.wdl) (hp : p.isSetter = false) : Expired (g.setT i p) := by
  refine ⟨hr ▸ hx.rd, hw ▸ hx.wd, fun k => ?_⟩
  simp only [State.setT, hg]; split
  · exact hp
  · exact hx.noSet k

theorem measure_setT_lt {N i : Nat} {s g : State} {p : PC} (hg : g.thr = s.thr) (hb : Bounded N s) (hi : s.thr i ≠ .idle)
    (hlt : p.rank + g.rdl.bit + g.wdl.bit < (s.thr i).rank + s.rdl.bit + s.wdl.bit) :
    measure N (g.setT i p) < measure N s ∧ Bounded N (g.setT i p) := by
  have hiN := lt_of_idle_ne hb hi
  have := measure_setT (s := s) p hiN
  exact ⟨by simp only [measure, State.setT, hg] at this ⊢; omega, bounded_setT hg hb hiN⟩

theorem measure_setT_setT_lt {N i j : Nat} {s g : State} {p q : PC} (hg : g.thr = s.thr) (hr : g.rdl = s.rdl) (hw : g.wdl = s.wdl)
    (hij : i ≠ j) (hb : Bounded N s) (hi : s.thr i ≠ .idle) (hj : s.thr j ≠ .idle)
    (hlt : p.rank + q.rank < (s.thr i).rank + (s.thr j).rank) :
    measure N ((g.setT i p).setT j q) < measure N s ∧ Bounded N ((g.setT i p).setT j q) := by
  have hiN := lt_of_idle_ne hb hi
  have hjN := lt_of_idle_ne hb hj
  have := sum_upd_upd (S := msum) (fun _ => rfl) (fun _ _ => rfl) N i j s.thr p q hiN hjN hij
  exact ⟨by simp only [measure, State.setT, hg, hr, hw]; omega, bounded_setT rfl (bounded_setT hg hb hiN) hjN⟩

theorem measureE_setT_lt {N i : Nat} {s g : State} {p : PC} (hg : g.thr = s.thr) (hr : g.rdl = s.rdl) (hw : g.wdl = s.wdl)
    (hb : Bounded N s) (hx : Expired s) (hi : s.thr i ≠ .idle) (hns : p.isSetter = false)
    (hlt : p.rankE < (s.thr i).rankE) :
    measureE N (g.setT i p) < measureE N s ∧ Expired (g.setT i p) ∧ Bounded N (g.setT i p) := by
  have hiN := lt_of_idle_ne hb hi
  have := sum_upd_lt (S := msumE) (fun _ => rfl) (fun _ _ => rfl) N i s.thr p hiN
  exact ⟨by simp only [measureE, State.setT, hg]; omega, expired_setT hx hg hr hw hns, bounded_setT hg hb hiN⟩

theorem measureE_setT_setT_lt {N i j : Nat} {s g : State} {p q : PC} (hg : g.thr = s.thr) (hr : g.rdl = s.rdl) (hw : g.wdl = s.wdl)
    (hij : i ≠ j) (hb : Bounded N s) (hx : Expired s) (hi : s.thr i ≠ .idle) (hj : s.thr j ≠ .idle)
    (hnp : p.isSetter = false) (hnq : q.isSetter = false)
    (hlt : p.rankE + q.rankE < (s.thr i).rankE + (s.thr j).rankE) :
    measureE N ((g.setT i p).setT j q) < measureE N s ∧ Expired ((g.setT i p).setT j q) ∧
      Bounded N ((g.setT i p).setT j q) := by
  have hiN := lt_of_idle_ne hb hi
  have hjN := lt_of_idle_ne hb hj
  have := sum_upd_upd (S := msumE) (fun _ => rfl) (fun _ _ => rfl) N i j s.thr p q hiN hjN hij
  exact ⟨by simp only [measureE, State.setT, hg]; omega, expired_setT (expired_setT hx hg hr hw hnp) rfl rfl rfl hnq,
    bounded_setT rfl (bounded_setT hg hb hiN) hjN⟩

theorem DL.bit_le (d : DL) : d.bit ≤ 1 := by unfold DL.bit; split <;> omega

theorem returned_rank {p : PC} (h : p.returned = true) : p ≠ .idle ∧ p.rank = 1 ∧ p.rankE = 1 := by
  cases p <;> simp_all [PC.returned, PC.rank, PC.rankE]

theorem after_rank (k : RKind) (acc nr : Nat) (fail : Bool) :
    (k.after acc nr fail).rank ≤ 25 ∧ (k.after acc nr fail).rankE ≤ 26 ∧ (k.after acc nr fail).isSetter = false := by
  cases k with
  | read cap => simp [RKind.after, PC.rank, PC.rankE, PC.isSetter]
  | wt plan ff => cases fail <;> simp [RKind.after, PC.rank, PC.rankE, PC.isSetter]

section
variable {s g : State} {i : Nat} {p p' : PC} (l : Loc s i p p' g)
include l

theorem Loc.thr_eq : g.thr = s.thr := by
  cases l <;> rfl

theorem Loc.ne_idle : p ≠ .idle := by
  cases l <;> nofun

end

/-- only `Set*Deadline` can arm a timer, and pays for it -/
theorem Loc.rank_lt {s g : State} {i : Nat} {p p' : PC} (l : Loc s i p p' g) (hd : s.done = true) :
    p'.rank + g.rdl.bit + g.wdl.bit < p.rank + s.rdl.bit + s.wdl.bit := by
  cases l
  case rChk1 h | wChk1 h => rw [hd] at h; cases h
  case dSetR k | dSetW k =>
    have := DL.bit_le (s.rdl.set k)
    have := DL.bit_le (s.wdl.set k)
    simp only [PC.rank]; omega
  all_goals exact Nat.add_lt_add_right (Nat.add_lt_add_right (by simp only [PC.rank]; decide) _) _

theorem Loc.rankE_lt {s g : State} {i : Nat} {p p' : PC} (l : Loc s i p p' g) (hx : Expired s)
    (hns : p.isSetter = false) :
    p'.rankE < p.rankE ∧ p'.isSetter = false ∧ g.rdl = s.rdl ∧ g.wdl = s.wdl := by
  cases l
  case rChk2 h => rw [hx.rd] at h; cases h
  case dChkRefuse | dChk | dSetR | dSetW => cases hns
  all_goals exact ⟨by simp only [PC.rankE]; decide, rfl, rfl, rfl⟩

theorem istep_decreases {N : Nat} {s s' : State} (h : Inv s) (hd : s.done = true) (hb : Bounded N s)
    (st : IStep s s') : measure N s' < measure N s ∧ Bounded N s' := by
  cases st.rule h with
  | @finish i hr =>
    obtain ⟨r0, r1, _⟩ := returned_rank hr
    exact measure_setT_lt rfl hb r0 (by rw [r1]; simp only [PC.rank]; omega)
  | fireR ha | fireW ha =>
    exact ⟨by simp only [measure, DL.bit, ha, if_true, Bool.false_eq_true, if_false]; omega, hb⟩
  | loc hp l =>
    exact measure_setT_lt l.thr_eq hb (hp ▸ l.ne_idle) (hp ▸ l.rank_lt hd)
  | data hi hj hij =>
    exact measure_setT_setT_lt rfl rfl rfl hij hb (by simp [hi]) (by simp [hj]) (by simp only [hi, hj, PC.rank]; omega)
  | @count i j k acc nr fail b n ci m q hi hj _ hij hq =>
    have r1 := (after_rank k acc nr fail).1
    have r2 : q.rank ≤ 4 := by rcases hq with ⟨_, _, rfl⟩ | ⟨_, _, rfl⟩ <;> simp [PC.rank]
    exact measure_setT_setT_lt rfl rfl rfl (Ne.symm hij) hb (by simp [hj]) (by simp [hi]) (by rw [hi, hj]; show _ < 2 + 28; omega)

theorem istep_decreasesE {N : Nat} {s s' : State} (h : Inv s) (hx : Expired s) (hb : Bounded N s)
    (st : IStep s s') : measureE N s' < measureE N s ∧ Expired s' ∧ Bounded N s' := by
  cases st.rule h with
  | @finish i hr =>
    obtain ⟨r0, _, r1⟩ := returned_rank hr
    exact measureE_setT_lt rfl rfl rfl hb hx r0 rfl (by rw [r1]; simp only [PC.rankE]; omega)
  -- an armed timer has an open channel: with both channels closed no timer can fire
  | fireR ha => have := h.rdlOk ha; rw [hx.rd] at this; cases this
  | fireW ha => have := h.wdlOk ha; rw [hx.wd] at this; cases this
  | @loc i p p' g hp l =>
    obtain ⟨l1, l2, l3, l4⟩ := l.rankE_lt hx (hp ▸ hx.noSet i)
    exact measureE_setT_lt l.thr_eq l3 l4 hb hx (hp ▸ l.ne_idle) l2 (hp ▸ l1)
  | data hi hj hij =>
    exact measureE_setT_setT_lt rfl rfl rfl hij hb hx (by simp [hi]) (by simp [hj]) rfl rfl (by simp only [hi, hj, PC.rankE]; omega)
  | @count i j k acc nr fail b n ci m q hi hj _ hij hq =>
    obtain ⟨_, r1, r3⟩ := after_rank k acc nr fail
    have r2 : q.rankE ≤ 4 ∧ q.isSetter = false := by
      rcases hq with ⟨_, _, rfl⟩ | ⟨_, _, rfl⟩ <;> simp [PC.rankE, PC.isSetter]
    exact measureE_setT_setT_lt rfl rfl rfl (Ne.symm hij) hb hx (by simp [hj]) (by simp [hi]) r2.2 r3
      (by rw [hi, hj]; show _ < 2 + 29; omega)

theorem run_bounded_of {C : State → Prop} {μ : State → Nat}
    (hstep : ∀ {s s'}, Inv s → C s → IStep s s' → μ s' < μ s ∧ C s') {k : Nat} {s s' : State}
    (run : IRun s k s') (h : Inv s) (hc : C s) : k + μ s' ≤ μ s ∧ Inv s' ∧ C s' := by
  induction run with
  | nil => exact ⟨by omega, h, hc⟩
  | cons st _ ih =>
    have d := hstep h hc st
    have := ih (inv_step h st.toStep) d.2
    exact ⟨by omega, this.2⟩

theorem run_bounded {N k : Nat} {s s' : State} (run : IRun s k s') (h : Inv s) (hd : s.done = true)
    (hb : Bounded N s) : k + measure N s' ≤ measure N s ∧ Inv s' ∧ s'.done = true ∧ Bounded N s' :=
  run_bounded_of (C := fun s => s.done = true ∧ Bounded N s)
    (fun h hc st => ⟨(istep_decreases h hc.1 hc.2 st).1, (step_keeps_closed h st.toStep).1 hc.1, (istep_decreases h hc.1 hc.2 st).2⟩)
    run h ⟨hd, hb⟩

theorem run_boundedE {N k : Nat} {s s' : State} (run : IRun s k s') (h : Inv s) (hx : Expired s)
    (hb : Bounded N s) : k + measureE N s' ≤ measureE N s ∧ Inv s' ∧ Expired s' ∧ Bounded N s' :=
  run_bounded_of (C := fun s => Expired s ∧ Bounded N s) (fun h hc st => istep_decreasesE h hc.1 hc.2 st)
    run h ⟨hx, hb⟩

end SSV.Pipe
