import SSV.Proofs.DomainBSearch
/-
Builders and `AppendTo`: whatever matcher the rule count selects, the set decides the builder's language.
`Builder.addRule` is the one step all loaders (text, dlc) repeat; its effect on the language is proved once.
-/
namespace SSV.DomainSet

/-- what an exact-domain builder decides (independent of any threshold) -/
def DomainB.lang : DomainB → Str → Bool
  | .linear rs, d => rs.contains d
  | .bsearch rs, d => (binarySearch rs d).2
  | .map m, d => m.contains d

/-- what a suffix builder decides (independent of any threshold) -/
def SuffixB.lang : SuffixB → Str → Bool
  | .linear rs, d => suffixLinearMatch rs d
  | .map m, d => suffixMapMatch m d
  | .trie root, d => trieMatch root d

/-- the language of a builder: the union of its four rule kinds -/
def Builder.lang (re : Str → Str → Bool) (b : Builder) (d : Str) : Bool :=
  b.domains.lang d || b.suffixes.lang d || keywordMatch b.keywords d || b.regexps.any (fun p => re p d)

theorem contains_foldl_mapInsert (rs : List Str) (d : Str) :
    (rs.foldl mapInsert []).contains d = rs.contains d := by
  rw [Bool.eq_iff_iff, List.contains_iff_mem, List.contains_iff_mem, mem_foldl_mapInsert]
  simp

theorem matchSet_append (re : Str → Str → Bool) (a b : List Matcher) (d : Str) :
    matchSet re (a ++ b) d = (matchSet re a d || matchSet re b d) := by
  simp [matchSet, List.any_append]

theorem matchSet_one (re : Str → Str → Bool) (m : Matcher) (d : Str) : matchSet re [m] d = m.run re d :=
  Bool.or_false _

theorem domainMapAppend_lang (re : Str → Str → Bool) (maxLin : Nat) (m : List Str) (d : Str) :
    matchSet re (domainMapAppend maxLin m) d = m.contains d := by
  fun_cases domainMapAppend maxLin m
  case case1 h => rw [List.isEmpty_iff.mp h]; rfl
  -- at most `maxLin` rules: a linear matcher; more: the map
  case case2 | case3 => exact matchSet_one ..

theorem DomainB.appendTo_lang (re : Str → Str → Bool) (maxLin : Nat) (b : DomainB) (d : Str) :
    matchSet re (b.appendTo maxLin) d = b.lang d := by
  fun_cases DomainB.appendTo maxLin b
  -- an empty linear or binary-search slice appends nothing
  case case1 h | case4 h => rw [List.isEmpty_iff.mp h]; rfl
  -- a linear slice above the threshold goes through a map
  case case2 => rw [domainMapAppend_lang, contains_foldl_mapInsert]; rfl
  -- the slice as it is
  case case3 | case5 => exact matchSet_one ..
  -- the map builder
  case case6 => exact domainMapAppend_lang ..

theorem trieAppend_lang (re : Str → Str → Bool) (root : Children) (d : Str) :
    matchSet re (trieAppend root) d = trieMatch root d := by
  fun_cases trieAppend root
  case case1 h =>
    cases root with
    | nil => exact (matchLabels_nil_children _).symm
    | cons => cases h
  case case2 => exact matchSet_one ..

theorem SuffixB.appendTo_lang (re : Str → Str → Bool) (maxLin : Nat) (b : SuffixB) (d : Str) :
    matchSet re (b.appendTo maxLin) d = b.lang d := by
  fun_cases SuffixB.appendTo maxLin b
  -- an empty linear slice
  case case1 h => rw [List.isEmpty_iff.mp h]; rfl
  -- a linear slice above the threshold becomes a trie
  case case2 => rw [trieAppend_lang, trieFromList_eq]; rfl
  -- a linear slice below it, a map above it: as they are
  case case3 | case6 => exact matchSet_one ..
  -- an empty map
  case case4 h => rw [List.isEmpty_iff.mp h, SuffixB.lang, suffixMapMatch_eq]; rfl
  -- a map below the threshold is searched linearly
  case case5 => exact (matchSet_one ..).trans (suffixMapMatch_eq ..).symm
  -- the trie builder
  case case7 => exact trieAppend_lang ..

theorem matchSet_regexps (re : Str → Str → Bool) (ps : List Str) (d : Str) :
    matchSet re (ps.map Matcher.regexp) d = ps.any (fun p => re p d) := by
  simp [matchSet, List.any_map, Function.comp_def, Matcher.run]

theorem domainSetWith_map (re : Str → Str → Bool) (reOk : Str → Bool) (mD mS : Nat) (b : Builder) (d : Str) :
    (b.domainSetWith mD mS reOk).map (fun ms => matchSet re ms d)
      = if b.regexps.all reOk then some (b.lang re d) else none := by
  fun_cases Builder.domainSetWith mD mS reOk b
  case case1 h =>
    rw [if_pos h, Option.map_some, matchSet_append, matchSet_append, matchSet_append, DomainB.appendTo_lang,
      SuffixB.appendTo_lang, matchSet_regexps, Builder.lang]
    cases b.keywords with
    | nil => rfl
    | cons k ks => simp only [List.isEmpty_cons, Bool.false_eq_true, ↓reduceIte, matchSet_one, Matcher.run]
  case case2 h => rw [if_neg h]; rfl

theorem SuffixB.lang_insert (b : SuffixB) (r d : Str) :
    (b.insert r).lang d = (b.lang d || matchDomainSuffix d r) := by
  cases b with
  | linear rs => exact suffixLinearMatch_insert (by simp) d
  | map m =>
    simp only [SuffixB.insert, SuffixB.lang, suffixMapMatch_eq]
    exact suffixLinearMatch_insert (mem_mapInsert m r) d
  | trie root => exact trieMatch_insert root r d

def SuffixB.IsEmpty : SuffixB → Prop
  | .linear rs => rs = []
  | .map m => m = []
  | .trie root => root = .nil

theorem SuffixB.lang_empty (b : SuffixB) (h : b.IsEmpty) (d : Str) : b.lang d = false := by
  cases b with
  | linear rs => cases h; simp [SuffixB.lang, suffixLinearMatch]
  | map m => cases h; simp [SuffixB.lang, suffixMapMatch]
  | trie root => cases h; simp [SuffixB.lang, trieMatch, matchLabels_nil_children]

theorem SuffixB.lang_foldl_insert (rs : List Str) (b : SuffixB) (d : Str) :
    (rs.foldl SuffixB.insert b).lang d = true ↔ (b.lang d = true ∨ ∃ r ∈ rs, SuffixOf r d) :=
  foldl_or (P := (·.lang d = true)) (fun b r => by rw [SuffixB.lang_insert, Bool.or_eq_true, matchDomainSuffix_iff]) rs b

/-- what `Insert` maintains in an exact-domain builder: a binary-search slice stays strictly ascending -/
def DomainB.Sorted : DomainB → Prop
  | .bsearch rs => Ascending rs
  | _ => True

theorem DomainB.Sorted.lang {b : DomainB} (h : b.Sorted) (d : Str) : b.lang d = b.rules.contains d := by
  cases b with
  | bsearch rs => exact binarySearch_found rs d h
  | linear rs | map m => rfl

/-- the exact-domain half of `Builder.Regular` -/
theorem DomainB.Sorted.regular : ∀ {b : DomainB}, b.Sorted →
    match b with | .bsearch rs => ∀ d, rs.contains d = (binarySearch rs d).2 | _ => True
  | .bsearch _, h => fun d => (h.lang d).symm
  | .linear _, _ | .map _, _ => trivial

theorem DomainB.Sorted.insert {b : DomainB} (h : b.Sorted) (r : Str) : (b.insert r).Sorted := by
  cases b with
  | bsearch rs => exact ascending_insert rs r h
  | linear rs | map m => trivial

theorem DomainB.mem_rules_insert (b : DomainB) (r x : Str) : x ∈ (b.insert r).rules ↔ x ∈ b.rules ∨ x = r := by
  cases b with
  | linear rs => simp [DomainB.insert, DomainB.rules]
  | bsearch rs => exact mem_bsearchInsert rs r x
  | map m => exact mem_mapInsert m r x

theorem DomainB.lang_insert {b : DomainB} (h : b.Sorted) (r d : Str) : (b.insert r).lang d = (b.lang d || d == r) := by
  rw [(h.insert r).lang, h.lang, Bool.eq_iff_iff]
  simp [DomainB.mem_rules_insert]

theorem DomainB.lang_insert_linear (rs : List Str) (r d : Str) :
    ((DomainB.linear rs).insert r).lang d = ((DomainB.linear rs).lang d || d == r) :=
  DomainB.lang_insert (b := .linear rs) trivial r d

theorem DomainB.lang_fill {b : DomainB} (hb : b.Sorted) (he : b.rules = []) (rs : List Str) (d : Str) :
    (rs.foldl DomainB.insert b).Sorted ∧ ((rs.foldl DomainB.insert b).lang d = true ↔ d ∈ rs) := by
  have hs : (rs.foldl DomainB.insert b).Sorted := List.foldlRecOn rs DomainB.insert hb fun _ h r _ => h.insert r
  refine ⟨hs, ?_⟩
  rw [hs.lang, List.contains_iff_mem,
    foldl_or (P := (d ∈ ·.rules)) (Q := (d = ·)) (fun b r => b.mem_rules_insert r d) rs b, he]
  simp

/-- what the loaders do with one classified line: a rule goes into its slot, anything else changes nothing -/
def Builder.addRule (b : Builder) : Line → Builder
  | .domain r => { b with domains := b.domains.insert r }
  | .suffix r => { b with suffixes := b.suffixes.insert r }
  | .keyword r => { b with keywords := b.keywords ++ [r] }
  | .regexp r => { b with regexps := b.regexps ++ [r] }
  | _ => b

def Line.matches (re : Str → Str → Bool) : Line → Str → Bool
  | .domain r, d => d == r
  | .suffix r, d => matchDomainSuffix d r
  | .keyword r, d => containsSub d r
  | .regexp r, d => re r d
  | _, _ => false

/-- one of the four slots gains `|| (the rule's test)`, the rest is re-association -/
theorem Builder.lang_addRule (re : Str → Str → Bool) (b : Builder) (ln : Line) (hb : b.domains.Sorted) :
    (b.addRule ln).domains.Sorted ∧
    ∀ d, (b.addRule ln).lang re d = (b.lang re d || ln.matches re d) := by
  cases ln with
  | domain r =>
    refine ⟨hb.insert r, fun d => ?_⟩
    simp only [Builder.addRule, Builder.lang, Line.matches, DomainB.lang_insert hb r d, Bool.or_right_comm _ (d == r)]
  | suffix r =>
    refine ⟨hb, fun d => ?_⟩
    simp only [Builder.addRule, Builder.lang, Line.matches, SuffixB.lang_insert, ← Bool.or_assoc,
      Bool.or_right_comm _ (matchDomainSuffix d r)]
  | keyword r =>
    refine ⟨hb, fun d => ?_⟩
    simp only [Builder.addRule, Builder.lang, Line.matches, keywordMatch, List.any_append, List.any_cons, List.any_nil,
      Bool.or_false, ← Bool.or_assoc, Bool.or_right_comm _ (containsSub d r)]
  | regexp r =>
    refine ⟨hb, fun d => ?_⟩
    simp only [Builder.addRule, Builder.lang, Line.matches, List.any_append, List.any_cons, List.any_nil,
      Bool.or_false, Bool.or_assoc]
  | comment | invalid => exact ⟨hb, fun d => (Bool.or_false _).symm⟩

theorem Builder.lang_foldl_addRule (re : Str → Str → Bool) (d : Str) : ∀ (lns : List Line) (b : Builder),
    b.domains.Sorted →
    (lns.foldl Builder.addRule b).lang re d = (b.lang re d || lns.any (·.matches re d))
  | [], b, _ => (Bool.or_false _).symm
  | ln :: lns, b, hm => by
    obtain ⟨hm', h⟩ := b.lang_addRule re ln hm
    rw [List.foldl_cons, Builder.lang_foldl_addRule re d lns _ hm', h, List.any_cons, Bool.or_assoc]

end SSV.DomainSet
