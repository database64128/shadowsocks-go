import SSV.Model.Repack
import SSV.Model.DnsHttp
import SSV.Model.StreamHS
/-
What the parsers, readers and checks that the theorems of `SSV.Props.C06` call guarantee.
Where a caller needs a fact about the result the lemma is `f_spec : Ensures (f input) P`; where no caller does it is
`np_f : Ensures (f input) fun _ => True`. Each is one term that follows `f` as the Go code reads, built from the rules of
`SSV.Base.GoOutcome`. Every step names what it returns and says how long it is, so each bound is `omega` over the guards met
so far, whose constants are the regenerated `SSV.Gen.C06.*_lenGuard<i>` (unfolded inside each proof, so every proof is
checked against the numbers in the source).
Code without index or slice operations (the `conn.Addr` accessors, the direct server's reply, the dns loops; the router
criteria in `ParsersRouter`) has no bound to keep: there `np_f : NoPanic (f input)` by `noPanic_bind` / `noPanic_ite`.
`np_validateTimestamp`, `np_addrPortFromSlice`, `np_connAddrFromSlice` are slicing code stated as `NoPanic` all the same.
-/
namespace SSV.Parsers.Proofs
open SSV SSV.Go SSV.Outcome SSV.Parsers

/-! Four tactics for taking apart a hypothesis `h : f input = ok v` (what a parser returned); no proof uses them. -/

/-- closes length side conditions -/
macro "go_len" : tactic => `(tactic| first
  | omega
  | (simp only [List.length_drop, List.length_take, List.length_cons, List.length_append, List.length_nil, List.length_set]; omega))

/-- unfolds the regenerated constants (reducible `abbrev`s, which `omega` treats as atoms) in a hypothesis -/
macro "go_consts_at" h:ident : tactic => `(tactic| try simp only [
   Gen.C06.AddrPortFromSlice_lenGuard0, Gen.C06.AddrPortFromSlice_lenGuard1,
   Gen.C06.ConnAddrFromSlice_lenGuard0, Gen.C06.ConnAddrFromSlice_lenGuard1, Gen.C06.ConnAddrFromSlice_lenGuard2,
   Gen.C06.DomainCacheConnAddrFromSlice_lenGuard0, Gen.C06.DomainCacheConnAddrFromSlice_lenGuard1, Gen.C06.DomainCacheConnAddrFromSlice_lenGuard2,
   Gen.C06.ParseUDPClientMessageHeader_lenGuard0, Gen.C06.ParseUDPServerMessageHeader_lenGuard0,
   Gen.C06.UDPServerSessionInfo_lenGuard0,
   Gen.C06.UDPClientMessageHeaderFixedLength, Gen.C06.UDPServerMessageHeaderFixedLength, Gen.C06.UDPSeparateHeaderLength,
   Gen.C06.tagSize, Gen.C06.TCPRequestFixedLengthHeaderLength] at $h:ident)

macro "go_ok_at" h:ident : tactic => `(tactic| simp (disch := go_len) only [idx_of_lt, slice_of_le, sliceFrom_of_le, sliceTo_of_le, arr_of_le, be16_of_le, be64_of_le,
   ok_bind, err_bind, panic_bind, pure_eq, and_self, reduceCtorEq, Outcome.ok.injEq, Prod.mk.injEq] at $h:ident)

/-- on a hypothesis `h : f input = ok v`: rewrite what the guards justify, split the code's own case distinctions, repeat -/
macro "go_cases" h:ident : tactic => `(tactic| repeat' (first | (go_ok_at $h:ident) | (split at $h:ident)))

theorem addrFromDomainPort_spec (d : Bytes) (p : Nat) :
    Ensures (addrFromDomainPort d p) fun a => a = .dom d p ∧ 1 ≤ d.length ∧ d.length ≤ 255 := by
  fun_cases addrFromDomainPort d p
  · exact .err
  · exact .ok ⟨rfl, by omega, by omega⟩

theorem addrFromDomainPort_ok {d : Bytes} {p : Nat} {a : Addr} (h : addrFromDomainPort d p = .ok a) :
    a = .dom d p ∧ 1 ≤ d.length ∧ d.length ≤ 255 :=
  (addrFromDomainPort_spec d p).of_ok h

theorem np_domain_of_notIP {t : Addr} (hv : t.isValid = true) (hip : t.isIP = false) : NoPanic (t.domain : R Bytes) := by
  cases t <;> simp [Addr.isValid, Addr.isIP, Addr.domain] at *

theorem np_ip_of_isIP {t : Addr} (hip : t.isIP = true) : NoPanic (t.ip : R (Bool × Bytes)) := by
  cases t <;> simp [Addr.isIP, Addr.ip] at *

/-- `Domain()` behind the `IsIP()` test, as every caller has it -/
theorem np_ifIP_else_domain {β : Type} {t : Addr} (hv : t.isValid = true) {x : R β} {f : Bytes → R β}
    (hx : t.isIP = true → NoPanic x) (hf : ∀ d, NoPanic (f d)) : NoPanic (if t.isIP then x else t.domain >>= f) := by
  split
  · exact hx ‹_›
  · exact noPanic_bind (np_domain_of_notIP hv (Bool.eq_false_iff.2 ‹_›)) hf

theorem np_resolveIPPort (resolve : Bytes → Option (Bool × Bytes)) (a : Addr) (hv : a.isValid = true) :
    NoPanic (a.resolveIPPort resolve) := by
  cases a with
  | none => simp [Addr.isValid] at hv
  | ip4 _ _ | ip6 _ _ => simp [Addr.resolveIPPort]
  | dom d p =>
    simp only [Addr.resolveIPPort]
    split <;> simp

theorem addrPortFromSlice_spec (b : Bytes) :
    Ensures (addrPortFromSlice b) fun r => r.2 ≤ b.length ∧ r.1.isIP = true := by
  unfold addrPortFromSlice
  dsimp only [Gen.C06.AddrPortFromSlice_lenGuard0, Gen.C06.AddrPortFromSlice_lenGuard1]
  refine .guard fun _ => idx_ensures (by omega) fun t _ => .ite (fun _ => ?v4) fun _ =>
    .ite (fun _ => .guard fun _ => ?v6) fun _ => .guard fun _ => .err
  case v4 | v6 =>
    exact sliceFrom_arr_ensures (by omega) fun _ _ => sliceFrom_be16_ensures (by omega) fun _ _ => .ok ⟨by omega, rfl⟩

theorem np_addrPortFromSlice (b : Bytes) : NoPanic (addrPortFromSlice b) := (addrPortFromSlice_spec b).noPanic

theorem connAddrFromSlice_spec (b : Bytes) :
    Ensures (connAddrFromSlice b) fun r => r.2 ≤ b.length ∧ r.1.isValid = true ∧ r.1.nameFits = true := by
  unfold connAddrFromSlice
  dsimp only [Gen.C06.ConnAddrFromSlice_lenGuard0, Gen.C06.ConnAddrFromSlice_lenGuard1, Gen.C06.ConnAddrFromSlice_lenGuard2]
  refine .guard fun _ => idx_ensures (by omega) fun t _ => .ite (fun _ => ?domain) fun _ =>
    .ite (fun _ => .guard fun _ => ?v4) fun _ => .ite (fun _ => .guard fun _ => ?v6) fun _ => .err
  case domain =>
    refine idx_ensures (by omega) fun l hl => .guard fun _ => slice_ensures (by omega) fun d hd => ?_
    refine sliceFrom_be16_ensures (by omega) fun port _ => (addrFromDomainPort_spec _ _).bind fun a ha => ?_
    obtain ⟨rfl, _, h255⟩ := ha
    exact .ok ⟨by omega, rfl, decide_eq_true h255⟩
  case v4 | v6 =>
    exact sliceFrom_arr_ensures (by omega) fun _ _ => sliceFrom_be16_ensures (by omega) fun _ _ => .ok ⟨by omega, rfl, rfl⟩

theorem np_connAddrFromSlice (b : Bytes) : NoPanic (connAddrFromSlice b) := (connAddrFromSlice_spec b).noPanic

/-- The `DomainCache` variant converts `b[1 : 1+n]` where the plain one converts `b[1:]`; nothing else differs but the names of the
three regenerated length guards, whose values are the same (both sides unfold to the numerals). -/
theorem connAddrFromSliceDC_eq (b : Bytes) : connAddrFromSliceDC b = connAddrFromSlice b := by
  unfold connAddrFromSliceDC connAddrFromSlice
  simp only [slice_bind_arr]

theorem connAddrFromSliceDC_spec (b : Bytes) :
    Ensures (connAddrFromSliceDC b) fun r => r.2 ≤ b.length ∧ r.1.isValid = true ∧ r.1.nameFits = true :=
  connAddrFromSliceDC_eq b ▸ connAddrFromSlice_spec b

theorem connAddrFromSliceDC_ok {b : Bytes} {a : Addr} {n : Nat} (h : connAddrFromSliceDC b = .ok (a, n)) :
    n ≤ b.length ∧ a.isValid = true :=
  have h := (connAddrFromSliceDC_spec b).of_ok h
  ⟨h.1, h.2.1⟩

theorem np_validateTimestamp (now : Int) (b : Bytes) (h : 8 ≤ b.length) : NoPanic (validateTimestamp now b) := by
  unfold validateTimestamp
  rw [bind_ok (be64_of_le h)]
  exact noPanic_ite (noPanic_err _) (noPanic_ok _)

theorem np_parseTCPRequestFixedLengthHeader (now : Int) (b : Bytes) (h : b.length = Gen.C06.TCPRequestFixedLengthHeaderLength) :
    Ensures (parseTCPRequestFixedLengthHeader now b) fun _ => True := by
  unfold parseTCPRequestFixedLengthHeader
  dsimp only [Gen.C06.TCPRequestFixedLengthHeaderLength] at h
  refine idx_ensures (by omega) fun t _ => .guard fun _ => ?_
  refine sliceFrom_bind_ensures (by omega) (fun w hw => (np_validateTimestamp now w (by omega)).ensures) fun _ _ => ?_
  exact sliceFrom_ensures (by omega) fun w hw => (be16_spec (by omega)).mono fun _ _ => trivial

theorem np_parseTCPRequestVariableLengthHeader (b : Bytes) :
    Ensures (parseTCPRequestVariableLengthHeader b) fun _ => True := by
  unfold parseTCPRequestVariableLengthHeader
  refine (connAddrFromSlice_spec b).bind fun ⟨a, n⟩ ⟨hn, _⟩ => ?_
  refine sliceFrom_ensures hn fun b' _ => .guard fun _ => be16_ensures (by omega) fun pad _ => .guard fun _ => ?_
  exact sliceFrom_ensures (by omega) fun _ _ => .ok trivial

/-- The payload length of a response header is a big-endian `uint16`. -/
theorem parseTCPResponseHeader_spec (now : Int) (salt b : Bytes) (h : b.length = 1 + 8 + salt.length + 2) :
    Ensures (parseTCPResponseHeader now salt b) fun n => n < 65536 := by
  unfold parseTCPResponseHeader
  refine idx_ensures (by omega) fun t _ => .guard fun _ => ?_
  refine slice_bind_ensures (by omega) (fun w hw => (np_validateTimestamp now w (by omega)).ensures) fun _ _ => ?_
  exact slice_ensures (by omega) fun _ _ => .guard fun _ => sliceFrom_be16_ensures (by omega) fun n hn =>
    .guard fun _ => .ok hn

theorem np_parseUDPClientMessageHeader (now : Int) (b : Bytes) :
    Ensures (parseUDPClientMessageHeader now b) fun _ => True := by
  unfold parseUDPClientMessageHeader
  dsimp only [Gen.C06.ParseUDPClientMessageHeader_lenGuard0, Gen.C06.UDPClientMessageHeaderFixedLength]
  refine .guard fun _ => idx_ensures (by omega) fun t _ => .guard fun _ => ?_
  refine slice_bind_ensures (by omega) (fun w hw => (np_validateTimestamp now w (by omega)).ensures) fun _ _ => ?_
  refine sliceFrom_be16_ensures (by omega) fun pad _ => .guard fun _ => ?_
  exact sliceFrom_bind_ensures (by omega) (fun w _ => (connAddrFromSliceDC_spec w).mono fun _ _ => trivial) fun ⟨_, _⟩ _ => .ok trivial

theorem np_parseUDPServerMessageHeader (now : Int) (csid : Nat) (b : Bytes) :
    Ensures (parseUDPServerMessageHeader now csid b) fun _ => True := by
  unfold parseUDPServerMessageHeader
  dsimp only [Gen.C06.ParseUDPServerMessageHeader_lenGuard0, Gen.C06.UDPServerMessageHeaderFixedLength]
  refine .guard fun _ => idx_ensures (by omega) fun t _ => .guard fun _ => ?_
  refine slice_bind_ensures (by omega) (fun w hw => (np_validateTimestamp now w (by omega)).ensures) fun _ _ => ?_
  refine sliceFrom_be64_ensures (by omega) fun _ => .guard fun _ => sliceFrom_be16_ensures (by omega) fun pad _ =>
    .guard fun _ => ?_
  exact sliceFrom_bind_ensures (by omega) (fun w _ => (np_addrPortFromSlice w).ensures) fun ⟨_, _⟩ _ => .ok trivial

theorem readFull_spec (s : Bytes) (n : Nat) : Ensures (readFull s n) fun r => r.1.length = n := by
  fun_cases readFull s n
  case case1 h => exact .ok (List.length_take_of_le h)
  all_goals exact .err

/-- The upper bound: a name length is one byte. -/
theorem appendFromReader_spec (s : Bytes) :
    Ensures (appendFromReader s) fun r => 2 ≤ r.1.length ∧ r.1.length ≤ Gen.C06.MaxAddrLen := by
  unfold appendFromReader
  refine (readFull_spec s 2).bind fun ⟨rb, s1⟩ hrb => ?_
  dsimp only at hrb ⊢
  refine idx_ensures (by omega) fun t _ => idx_ensures (by omega) fun l hl => ?_
  refine Ensures.bind (Q := fun size => size ≤ 257) ?_ fun size hsize =>
    (readFull_spec _ _).bind fun ⟨rest, s2⟩ hrest => .ok ?_
  · exact .ite (fun _ => .ok (by omega)) fun _ => .ite (fun _ => .ok (by omega)) fun _ =>
      .ite (fun _ => .ok (by omega)) fun _ => .err
  · dsimp only at hrest ⊢
    simp only [List.length_append, Gen.C06.MaxAddrLen]
    omega

/-- `SessionInfo` decrypts the first block in place. -/
theorem udpSessionInfo_spec (C : Ciphers) (hC : C.LenPreserving) (b : Bytes) :
    Ensures (udpSessionInfo C b) fun r => r.2.length = b.length := by
  unfold udpSessionInfo
  dsimp only [Gen.C06.UDPServerSessionInfo_lenGuard0]
  refine .guard fun _ => arr_ensures (by omega) fun blk hblk => ?_
  have h1 : (C.dec16 blk ++ b.drop 16).length = b.length := by rw [List.length_append, hC, List.length_drop]; omega
  exact be64_ensures (by omega) fun _ => .ok h1

theorem np_udpNewUnpacker (idLen : Nat) (found : Bool) (b : Bytes) (hid : idLen = 0 ∨ idLen = Gen.C06.IdentityHeaderLength) :
    Ensures (udpNewUnpacker idLen found b) fun _ => True := by
  unfold udpNewUnpacker
  dsimp only [Gen.C06.IdentityHeaderLength, Gen.C06.UDPSeparateHeaderLength] at hid ⊢
  refine .guard fun _ => .ite (fun _ => ?_) fun _ => sliceTo_ensures (by omega) fun _ _ => .ok trivial
  refine sliceTo_ensures (by omega) fun _ _ => slice_ensures (by omega) fun ih _ => arr_ensures (by omega) fun _ _ => ?_
  exact .guard fun _ => sliceTo_ensures (by omega) fun _ _ => .ok trivial

theorem np_udpServerUnpack (C : Ciphers) (now : Int) (hdr : Nat) (replayed : Bool) (b : Bytes) (ps pl : Nat)
    (hb : ps + pl ≤ b.length) (hh : Gen.C06.UDPSeparateHeaderLength ≤ hdr) :
    Ensures (udpServerUnpack C now hdr replayed b ps pl) fun _ => True := by
  unfold udpServerUnpack
  dsimp only [Gen.C06.UDPSeparateHeaderLength, Gen.C06.tagSize] at hh ⊢
  refine .guard fun _ => slice_ensures (by omega) fun sep hsep => ?_
  refine slice_ensures (by omega) fun nonce _ => slice_ensures (by omega) fun ct _ => ?_
  refine sliceFrom_be64_ensures (by omega) fun _ => .guard fun _ => ?_
  split
  · exact .err
  · exact (np_parseUDPClientMessageHeader _ _).bind fun ⟨_, _, _⟩ _ => .ok trivial

/-- "The length of b must be at least 3 bytes." -/
theorem np_validatePacketHeader {b : Bytes} (h : 3 ≤ b.length) : Ensures (validatePacketHeader b) fun _ => True :=
  idx_ensures (by omega) fun _ _ => .guard fun _ => .ok trivial

theorem np_directServerPack (target : Addr) (targetOnly srcIsTarget : Bool) (n m : Nat)
    (hacc : directConfigAccepted true target targetOnly = true) : NoPanic (directServerPack target targetOnly srcIsTarget n m) := by
  fun_cases directServerPack target targetOnly srcIsTarget n m
  case case1 ht =>
    -- an accepted target-only configuration has an IP target, so `IPPort()` is within its contract
    have hip : target.isIP = true := by
      simp [directConfigAccepted, ht] at hacc
      exact hacc.2
    exact noPanic_bind (np_ip_of_isIP hip) fun _ => noPanic_ite (noPanic_err _) (noPanic_ite (noPanic_err _) (noPanic_ok _))
  -- not target-only: too big, fits
  case case2 => exact noPanic_err _
  case case3 => exact noPanic_ok _

theorem np_directServe (target : Addr) (targetOnly srcIsTarget : Bool) (n m : Nat) (r : R Unit)
    (h : directServe true target targetOnly srcIsTarget n m = some r) : NoPanic r := by
  unfold directServe at h
  split at h
  · rename_i hacc
    simp only [Option.some.injEq] at h
    subst h
    exact np_directServerPack target targetOnly srcIsTarget n m hacc
  · simp at h

theorem np_addrFromHostPort (parseIP : Bytes → Option (Bool × Bytes)) (host : Bytes) (port : Nat) :
    Ensures (addrFromHostPort parseIP host port) fun _ => True := by
  fun_cases addrFromHostPort parseIP host port
  -- IPv4, IPv6, a name
  · exact .ok trivial
  · exact .ok trivial
  · exact (addrFromDomainPort_spec _ _).mono fun _ _ => trivial

theorem np_dnsAnswers (now : Int) (xs : List DnsAnswer) (r : ResultBuilder) : NoPanic (dnsAnswers now r xs) := by
  fun_induction dnsAnswers now r xs
  case case1 => exact noPanic_ok _
  -- case4 an A record with its body, case6 an AAAA record with its body, case7 another record skipped: the loop goes on
  case case4 ih | case6 ih | case7 ih => exact ih
  all_goals exact noPanic_err _

theorem np_dnsAuthorities (now : Int) (xs : List DnsAuthority) (r : ResultBuilder) : NoPanic (dnsAuthorities now r xs) := by
  fun_induction dnsAuthorities now r xs
  case case1 => exact noPanic_ok _
  -- a record skipped
  case case3 ih => exact ih
  all_goals exact noPanic_err _

theorem firstRead_le (seg : Bool) (c t w : Nat) : (firstRead seg c t w).1 ≤ w := by
  fun_cases firstRead seg c t w
  -- segmented, `w ≤ t`: all of it
  case case1 => exact Nat.le_refl w
  -- segmented, the stream ends early: `t < w`
  case case3 h _ => exact Nat.le_of_not_le h
  -- unsegmented: `min (min c t) w`, short or full
  case case5 | case6 => exact Nat.min_le_right _ w
  all_goals exact Nat.zero_le w

theorem np_hsFail (cfg : HSCfg) (len n : Nat) (e : Err) (h : n ≤ len) : Ensures (hsFail cfg len n e) fun _ => True := by
  unfold hsFail hsFail.goSliceN
  rw [if_pos h]
  exact .ite (fun _ => .ok trivial) fun _ => .err

end SSV.Parsers.Proofs
