import SSV.Proofs.PipeTerm
/-
C15 — progress BEFORE any close, under an explicit fairness assumption: where one step can take the pc of one
thread (`PC.nextOk`, `step_pc`), infinite runs, weak fairness of a thread, "a thread that stays enabled at a pc leaves
it for a pc that `PC.nextOk` allows" (`eventually_leaves`), and from it one round of the write loop and one round of a
receiving call.
-/
namespace SSV.Pipe

/-- `p.nextOk s j q`: where a step out of `s` can take thread `j` from pc `p` (a necessary condition: what the channel
partner contributes — `len`, `chunk`, the count — is left open).  The pcs of the write loop and of a receiving call from
its select on have an arm each; every other pc moves by starting a call, by being collected, or by a thread-local rule. -/
def PC.nextOk (s : State) (j : Nat) (p q : PC) : Prop :=
  match p with
  | .wEnter b n ci => q = .wSel b n ci s.wdl.gen
  | .wSel b n ci _ => q = .wAwait b n ci ∨ ∃ e, q = .wRet n e (some ci)
  | .wAwait b n ci => ∃ i k acc nr fail chunk, s.thr i = .rAck k acc nr fail chunk ∧
      (0 < (b.drop nr).length ∧ q = .wEnter (b.drop nr) (n + nr) ci ∨ q = .wRet (n + nr) .nil (some ci))
  | .rSel k acc _ => (∃ e, q = .rRet acc e) ∨
      ∃ len chunk, q = .rAck (k.consume len).2.2 acc (k.consume len).1 (k.consume len).2.1 chunk
  | .rAck k acc nr fail _ => q = k.after acc nr fail
  | p => p = .idle ∨ q = .idle ∨ ∃ g, Loc s j p q g

theorem step_pc {s s' : State} (h : Inv s) (st : Step s s') :
    ∀ j, s'.thr j = s.thr j ∨ (s.thr j).nextOk s j (s'.thr j) := by
  let P (x : Nat) (q : PC) : Prop := q = s.thr x ∨ (s.thr x).nextOk s x q
  rcases st.start_or_internal with ⟨i, op, hp, rfl⟩ | st
  · exact forall_setT (P := P) (.inr (hp ▸ .inl rfl)) fun _ _ => .inl rfl
  cases st.rule h with
  | @finish i hr =>
    refine forall_setT (P := P) (.inr ?_) fun _ _ => .inl rfl
    -- a returned pc has no arm of its own
    cases hp : s.thr i <;> first | exact .inr (.inl rfl) | (rw [hp] at hr; cases hr)
  | fireR | fireW => exact fun _ => .inl rfl
  | @loc i p p' g hp l =>
    refine forall_setT (P := P) (.inr ?_) fun x _ => .inl (congrFun l.thr_eq x)
    rw [hp]
    have l' := l
    cases l
    case wEnter => rfl
    case wSelDone | wSelExp => exact .inr ⟨_, rfl⟩
    case rSelDone | rSelExp => exact .inl ⟨_, rfl⟩
    all_goals exact .inr (.inr ⟨_, l'⟩)
  | @data a c k acc g b n ci gw ha hc hac =>
    exact forall_setT_setT (P := P) (.inr (ha ▸ .inr ⟨_, _, rfl⟩)) (.inr (hc ▸ .inl rfl)) fun _ _ _ => .inl rfl
  | @count a c k acc nr fail b n ci m q ha hc _ hac hq =>
    refine forall_setT_setT (P := P) (.inr (hc ▸ ⟨_, _, _, _, _, _, ha, ?_⟩)) (.inr (ha ▸ rfl)) fun _ _ _ => .inl rfl
    rcases hq with ⟨h1, _, h2⟩ | ⟨_, _, h2⟩
    · exact .inl ⟨h1, h2⟩
    · exact .inr h2

/-- an infinite run of the direction: every position is a step of the model or a stutter -/
def IsRun (r : Nat → State) : Prop :=
  Reachable (r 0) ∧ ∀ n, Step (r n) (r (n + 1)) ∨ r (n + 1) = r n

theorem run_reachable {r : Nat → State} (h : IsRun r) (n : Nat) : Reachable (r n) := by
  induction n with
  | zero => exact h.1
  | succ k ih =>
    rcases h.2 k with st | e
    · exact .step ih st
    · rw [e]; exact ih

theorem run_inv {r : Nat → State} (h : IsRun r) (n : Nat) : Inv (r n) := inv_reachable (run_reachable h n)

/-- thread `j` takes part in the step at position `n` (its pc changes) -/
def Moves (r : Nat → State) (j n : Nat) : Prop := (r (n + 1)).thr j ≠ (r n).thr j

/-- WEAK FAIRNESS towards thread `j` (the assumption about the Go scheduler / runtime): a goroutine that,
from some point on, could always take a step — alone or as one side of a channel operation whose other side is
waiting — eventually takes one. -/
def WeakFair (r : Nat → State) (j : Nat) : Prop :=
  ∀ n, (∀ m, n ≤ m → CanMove (r m) j) → ∃ m, n ≤ m ∧ Moves r j m

/-- vacuously: on the constant tail thread `j` has returned and cannot move -/
theorem fair_of_tail {r : Nat → State} {t : State} {N j : Nat} (ht : ∀ m, N ≤ m → r m = t)
    (hr : (t.thr j).returned = true) : WeakFair r j := by
  intro n hall
  have := hall (n + N) (by omega)
  rw [ht _ (by omega)] at this
  exact absurd this (not_canMove_ret hr)

theorem leaves_or_stays {r : Nat → State} {j : Nat} {pc : PC} {n : Nat} (hpc : (r n).thr j = pc) (d : Nat) :
    (r (n + d)).thr j = pc ∨ ∃ m, n ≤ m ∧ (r m).thr j = pc ∧ (r (m + 1)).thr j ≠ pc := by
  induction d with
  | zero => exact .inl hpc
  | succ d ih =>
    rcases ih with h | h
    · by_cases hn : (r (n + d + 1)).thr j = pc
      · exact .inl hn
      · exact .inr ⟨n + d, by omega, h, hn⟩
    · exact .inr h

theorem eventually_leaves {r : Nat → State} {j : Nat} (hr : IsRun r) (hf : WeakFair r j) (pc : PC) (n : Nat)
    (hpc : (r n).thr j = pc) (hen : ∀ m, n ≤ m → (r m).thr j = pc → CanMove (r m) j) :
    ∃ m, n ≤ m ∧ (r m).thr j = pc ∧ pc.nextOk (r m) j ((r (m + 1)).thr j) := by
  have hex : ∃ m, n ≤ m ∧ (r m).thr j = pc ∧ (r (m + 1)).thr j ≠ pc := by
    -- otherwise `j` stays at `pc` for ever, can always move, and by fairness does move
    apply Classical.byContradiction
    intro hno
    have hconst : ∀ m, n ≤ m → (r m).thr j = pc := fun m hm => by
      have := (leaves_or_stays hpc (m - n)).resolve_right hno
      rwa [show n + (m - n) = m by omega] at this
    obtain ⟨m0, h0, hm0⟩ := hf n fun m hm => hen m hm (hconst m hm)
    exact hm0 ((hconst (m0 + 1) (by omega)).trans (hconst m0 h0).symm)
  obtain ⟨m, h1, h2, h3⟩ := hex
  refine ⟨m, h1, h2, ?_⟩
  rcases hr.2 m with st | e
  · exact h2 ▸ (step_pc (run_inv hr m) st j).resolve_left (h2 ▸ h3)
  · rw [e] at h3; exact absurd h2 h3

theorem write_round {r : Nat → State} {j ci : Nat} (hr : IsRun r) (hf : WeakFair r j)
    (partner : ∀ m b c g, (r m).thr j = .wSel b c ci g → ∃ i k acc gr, (r m).thr i = .rSel k acc gr)
    (pos : ∀ m i k acc nr fail chunk b c, (r m).thr i = .rAck k acc nr fail chunk →
      (r m).thr j = .wAwait b c ci → b ≠ [] → 1 ≤ nr)
    (n : Nat) (b : Bytes) (c : Nat) (hp : (r n).thr j = .wEnter b c ci) :
    ∃ m, n ≤ m ∧ ((∃ c' e, (r m).thr j = .wRet c' e (some ci)) ∨
      (∃ b' c', b'.length < b.length ∧ (r m).thr j = .wEnter b' c' ci)) := by
  obtain ⟨m1, h1, _, x1⟩ := eventually_leaves hr hf _ n hp (by
    intro m _ hm
    have := local_enabled (r m) j
    simp only [hm] at this; exact Or.inl this)
  -- select → hand-shake (a reader is waiting) or return
  obtain ⟨m2, h2, _, x2⟩ := eventually_leaves hr hf _ (m1 + 1) x1 (by
    intro m _ hm
    obtain ⟨i, k, acc, gr, hi⟩ := partner m b c _ hm
    exact (sel_pair_canMove hi hm).2)
  rcases x2 with hq2 | ⟨e, hq2⟩
  · -- committed: the count always arrives
    obtain ⟨m3, h3, p3, x3⟩ := eventually_leaves hr hf _ (m2 + 1) hq2 fun m _ hm => wAwait_canMove (run_inv hr m) hm
    obtain ⟨i, k, acc, nr, fail, chunk, hi, ⟨hpos, hq3⟩ | hq3⟩ := x3
    · refine ⟨m3 + 1, by omega, Or.inr ⟨b.drop nr, c + nr, ?_, hq3⟩⟩
      have := pos m3 i k acc nr fail chunk b c hi p3 (by intro e; subst e; simp at hpos)
      simp at hpos ⊢; omega
    · exact ⟨m3 + 1, by omega, Or.inl ⟨_, _, hq3⟩⟩
  · exact ⟨m2 + 1, by omega, Or.inl ⟨_, _, hq2⟩⟩

theorem read_round {r : Nat → State} {i : Nat} (hr : IsRun r) (hf : WeakFair r i)
    (partner : ∀ m k acc g, (r m).thr i = .rSel k acc g → ∃ j b c ci gw, (r m).thr j = .wSel b c ci gw)
    (n : Nat) (k : RKind) (acc g : Nat) (hp : (r n).thr i = .rSel k acc g) :
    ∃ m, n ≤ m ∧ ((∃ e, (r m).thr i = .rRet acc e) ∨
      ∃ len, (r m).thr i = (k.consume len).2.2.after acc (k.consume len).1 (k.consume len).2.1) := by
  obtain ⟨m1, h1, _, x1⟩ := eventually_leaves hr hf _ n hp (by
    intro m _ hm
    obtain ⟨j, b, c, ci, gw, hj⟩ := partner m _ _ _ hm
    exact (sel_pair_canMove hm hj).1)
  rcases x1 with ⟨e, hq1⟩ | ⟨len, chunk, hq1⟩
  · exact ⟨m1 + 1, by omega, .inl ⟨e, hq1⟩⟩
  · obtain ⟨m2, h2, _, x2⟩ := eventually_leaves hr hf _ (m1 + 1) hq1 fun m _ hm => rAck_canMove (run_inv hr m) hm
    exact ⟨m2 + 1, by omega, .inr ⟨len, x2⟩⟩

end SSV.Pipe
