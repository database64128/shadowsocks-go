import SSV.Proofs.StreamReader
/-
Schedules: any sequence of reader calls on an in-sync reader delivers the stream, in order, each
byte once, and reports end of stream only when everything has been delivered. Also the writing side
the round trip quantifies over: scripted sources of `ReadFrom` and the calls `WCall`.
-/
namespace SSV.Stream
open SSV.Gen.C01

/-- `Delivers stream outs`: the outcomes hand over consecutive pieces of `stream`, none reports an
error other than end of stream, and one that reports the end of the stream has exhausted it. -/
def Delivers : Bytes → List ROut → Prop
  | _, [] => True
  | stream, o :: os =>
    (o.err = none ∨ o.err = some .eof) ∧
    ∃ rest, stream = o.bytes ++ rest ∧ (o.sawEnd = true → rest = []) ∧ Delivers rest os

theorem run_ok {C : Crypto} (hC : AeadOK C) (ops : List ROp) :
    ∀ (r : Reader) (cs : List Bytes), Sync C r cs →
      (r.run C ops).length = ops.length ∧ Delivers (pending r cs) (r.run C ops) := by
  induction ops with
  | nil => intro r cs _; simp [Reader.run, Delivers]
  | cons op ops ih =>
    intro r cs hs
    obtain ⟨cs', h⟩ := step_ok hC r cs hs op
    have ih' := ih (r.step C op).2 cs' h.sync
    rw [Reader.run_cons, if_pos ((hardErr_none_iff _).mpr h.noErr)]
    exact ⟨by simp [ih'.1], h.noErr, _, h.split, h.atEnd, ih'.2⟩

theorem Delivers.prefix {stream : Bytes} {outs : List ROut} (h : Delivers stream outs) :
    ∃ rest, stream = (outs.map ROut.bytes).flatten ++ rest := by
  induction outs generalizing stream with
  | nil => exact ⟨stream, by simp⟩
  | cons o os ih =>
    obtain ⟨_, rest, hs, _, hd⟩ := h
    obtain ⟨rest', hr⟩ := ih hd
    exact ⟨rest', by simp [hs, hr]⟩

theorem Delivers.complete {stream : Bytes} {outs : List ROut} (h : Delivers stream outs)
    (pre : List ROut) (o : ROut) (post : List ROut) (he : outs = pre ++ o :: post) (hend : o.sawEnd = true) :
    stream = (pre.map ROut.bytes).flatten ++ o.bytes ∧ (post.map ROut.bytes).flatten = [] := by
  induction pre generalizing stream outs with
  | nil =>
    subst he
    obtain ⟨_, rest, hs, hr, hd⟩ := h
    have := hr hend
    subst this
    obtain ⟨rest', hp⟩ := hd.prefix
    have hnil : (post.map ROut.bytes).flatten = [] := by
      have : ([] : Bytes) = (post.map ROut.bytes).flatten ++ rest' := hp
      exact (List.append_eq_nil_iff.mp this.symm).1
    exact ⟨by simpa using hs, hnil⟩
  | cons q qs ih =>
    subst he
    obtain ⟨_, rest, hs, _, hd⟩ := h
    obtain ⟨h1, h2⟩ := ih hd rfl
    exact ⟨by simp [hs, h1], h2⟩

/-- the bytes a `ReadFrom` takes from its source: everything the source hands over up to and
including the first result that carries an error (`io.EOF` or any other) -/
def Src.taken : Src → Bytes
  | [] => []
  | it :: rest =>
    match it.err with
    | none => it.data ++ Src.taken rest
    | some _ => it.data

/-- the error `ReadFrom` returns: the first error the source reports, `io.EOF` (also the implicit one
of an exhausted source) being the normal end -/
def Src.firstErr : Src → Option Err
  | [] => none
  | it :: rest =>
    match it.err with
    | none => Src.firstErr rest
    | some .eof => none
    | some e => some e

/-- The equation stands right of the colon: as a binder it would become a second discriminant of `match e`. -/
theorem Src.read_spec {cap : Nat} (hc0 : 0 < cap) (s : Src) : ∀ {d e s'}, s.read cap = ((d, e), s') →
    d.length ≤ cap ∧
    match e with
    | none => s'.size < s.size ∧ s.taken = d ++ s'.taken ∧ s.firstErr = s'.firstErr
    | some e => s.taken = d ∧ s.firstErr = if e = .eof then none else some e := by
  fun_cases Src.read cap s <;> intro d e s' h <;> cases h
  case case1 => exact ⟨Nat.zero_le _, rfl, rfl⟩
  case case2 it rest hle =>
    refine ⟨hle, ?_⟩
    simp only [Src.taken, Src.firstErr, Src.size]
    cases it.err with
    | none => exact ⟨by omega, rfl, rfl⟩
    | some e => exact ⟨rfl, by cases e <;> rfl⟩
  case case3 it rest hle =>
    refine ⟨by rw [List.length_take]; omega, by simp only [Src.size, List.length_drop]; omega, ?_, rfl⟩
    simp only [Src.taken]
    cases it.err with
    | none => simp only []; rw [← List.append_assoc, List.take_append_drop]
    | some e => simp only []; rw [List.take_append_drop]

/-- bytes returned together with an error are written too: this depends on the regenerated fact
`readFromHandlesDataFirst`. -/
theorem readFromLoop_spec (cap : Nat) (hc0 : 0 < cap) (fuel : Nat) (s : Src) (acc : List Bytes) (hsz : s.size < fuel) :
    ∃ new, (readFromLoop cap fuel s acc).1 = acc.reverse ++ new ∧ new.flatten = s.taken ∧
      (∀ p ∈ new, p.length ≠ 0 ∧ p.length ≤ cap) ∧ (readFromLoop cap fuel s acc).2.1 = s.firstErr := by
  -- the piece one read adds to the chunks
  have piece : ∀ (d : Bytes) (acc : List Bytes) (x : Bool), d.length ≤ cap →
      ∃ pc : List Bytes, (if (decide (d.length > 0) && (readFromHandlesDataFirst || x)) = true then d :: acc else acc).reverse =
        acc.reverse ++ pc ∧ pc.flatten = d ∧ ∀ p ∈ pc, p.length ≠ 0 ∧ p.length ≤ cap := by
    intro d acc x hd
    by_cases h0 : d.length > 0
    · exact ⟨[d], by simp [readFrom_dataFirst, h0], by simp, List.forall_mem_singleton.mpr ⟨by omega, hd⟩⟩
    · exact ⟨[], by simp [h0], (List.length_eq_zero_iff.mp (by omega)).symm, nofun⟩
  fun_induction readFromLoop cap fuel s acc
  -- out of fuel
  case case1 => omega
  -- the read returned `io.EOF`
  case case2 acc d _ hrd _ =>
    obtain ⟨hd, hr⟩ := Src.read_spec hc0 _ hrd
    obtain ⟨pc, hacc, hpc, hv⟩ := piece d acc _ hd
    exact ⟨pc, hacc, hpc.trans hr.1.symm, hv, hr.2.symm⟩
  -- another error
  case case3 acc d _ e he hrd _ =>
    obtain ⟨hd, hr⟩ := Src.read_spec hc0 _ hrd
    obtain ⟨pc, hacc, hpc, hv⟩ := piece d acc _ hd
    exact ⟨pc, hacc, hpc.trans hr.1.symm, hv, by rw [hr.2, if_neg he]⟩
  -- no error: read on
  case case4 acc d _ hrd _ ih =>
    obtain ⟨hd, hr⟩ := Src.read_spec hc0 _ hrd
    obtain ⟨pc, hacc, hpc, hv⟩ := piece d acc _ hd
    obtain ⟨new, h1, h2, h3, h4⟩ := ih (by omega)
    exact ⟨pc ++ new, by rw [h1, hacc, List.append_assoc], by rw [List.flatten_append, hpc, h2, hr.2.1],
      fun p hp => (List.mem_append.mp hp).elim (hv p) (h3 p), h4.trans hr.2.2.symm⟩

/-- one call on the writing side of a `ShadowStreamConn` -/
inductive WCall
  /-- `Write(b)` -/
  | write (b : Bytes)
  /-- `ReadFrom(r)` with a scripted source: short reads of every size, `(0, nil)` reads, data
  returned together with `io.EOF` or with another error -/
  | readFrom (src : Src)

def WCall.chunks : WCall → List Bytes
  | .write b => writeChunks b
  | .readFrom src => (connReadFrom src).1

/-- the bytes the call takes from its caller / source -/
def WCall.data : WCall → Bytes
  | .write b => b
  | .readFrom src => src.taken

theorem connReadFrom_spec (src : Src) :
    ValidChunks (connReadFrom src).1 ∧ (connReadFrom src).1.flatten = src.taken ∧ (connReadFrom src).2.1 = src.firstErr := by
  obtain ⟨new, h1, h2, h3, h4⟩ := readFromLoop_spec streamMaxPayloadSize (by decide) (src.size + 1) src [] (by omega)
  simp only [List.reverse_nil, List.nil_append] at h1
  exact ⟨by rw [connReadFrom, h1]; exact h3, by rw [connReadFrom, h1]; exact h2, h4⟩

theorem calls_valid (calls : List WCall) : ValidChunks (calls.flatMap WCall.chunks) := by
  induction calls with
  | nil => exact ValidChunks.nil
  | cons c cs ih =>
    simp only [List.flatMap_cons]
    refine ValidChunks.append ?_ ih
    cases c with
    | write b => exact writeChunks_valid b
    | readFrom src => exact (connReadFrom_spec src).1

theorem calls_flatten (calls : List WCall) :
    (calls.flatMap WCall.chunks).flatten = (calls.map WCall.data).flatten := by
  induction calls with
  | nil => rfl
  | cons c cs ih =>
    simp only [List.flatMap_cons, List.flatten_append, List.map_cons, List.flatten_cons, ih]
    cases c with
    | write b => simp [WCall.chunks, WCall.data, writeChunks_flatten]
    | readFrom src => simp [WCall.chunks, WCall.data, (connReadFrom_spec src).2.1]

/-- the reader state after a schedule (for `nonce_lockstep`) -/
def Reader.after (C : Crypto) : Reader → List ROp → Reader
  | r, [] => r
  | r, op :: ops => Reader.after C (r.step C op).2 ops

theorem after_sync {C : Crypto} (hC : AeadOK C) (ops : List ROp) :
    ∀ (r : Reader) (cs : List Bytes), Sync C r cs →
      ∃ cs', Sync C (r.after C ops) cs' ∧ (r.after C ops).key = r.key ∧
        (r.after C ops).nonce + 2 * cs'.length = r.nonce + 2 * cs.length := by
  induction ops with
  | nil => intro r cs hs; exact ⟨cs, hs, rfl, rfl⟩
  | cons op ops ih =>
    intro r cs hs
    obtain ⟨cs1, h⟩ := step_ok hC r cs hs op
    obtain ⟨cs2, h2, hk, hn⟩ := ih _ cs1 h.sync
    exact ⟨cs2, h2, by rw [Reader.after, hk, h.key], by rw [Reader.after, hn, h.nonce]⟩

end SSV.Stream
