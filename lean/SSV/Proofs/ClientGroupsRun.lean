import SSV.Proofs.ClientGroupsRing
import SSV.Proofs.ClientGroupsScan
/-
Lemmas for C19: the declarative scores of the statement; the invariant of the probe loop (`LoopInv`:
every ring is its client's window rotated by the round counter, the selection is the scan over the
statement's figures) and with it the state after a whole history (`run_spec`); jobs of one round in any order.
-/
namespace SSV.ClientGroups
open SSV.Gen.C19

theorem avail_cmp : availCmp = CmpOp.gt := by decide
theorem lat_cmp : latCmp = CmpOp.lt := by decide
theorem minmax_cmp : minmaxCmp = CmpOp.lt := by decide
theorem avail_init : availInitBest = Val.zero := by decide
theorem lat_init : latInitBest = Val.timeout := by decide
theorem minmax_init : minmaxInitBest = Val.timeout := by decide
theorem lat_fail : latFailureRecord = Val.timeout := by decide
theorem initial_sel : initialSelection = 0 := by decide
theorem ringSize_pos (p : Policy) : 0 < ringSize p := by cases p <;> decide
theorem ringSize_dvd (p : Policy) : ringSize p ∣ 2 ^ 64 := by cases p <;> decide

/-- a history: per round, the outcome of every client's probe -/
abbrev History (n : Nat) := List (Fin n → Outcome)

/-- the outcomes of client `i`, oldest first -/
def column {n : Nat} (hist : History n) (i : Fin n) : List Outcome := hist.map (fun f => f i)

/-- the property's "counting a failed probe as the timeout" (properties.jsonl, C19) -/
def latencyOf (timeout : Nat) : Outcome → Nat
  | some d => d
  | none => timeout

/-- how many rounds the policy's history retains -/
def retention : Policy → Nat
  | .avail => availRingBits
  | _ => latencyProbeResultSize

theorem retention_eq_ringSize (p : Policy) : retention p = ringSize p := by cases p <;> rfl

/-- the figure the statement ranks clients by, computed from the client's whole history:
    successes in the retained rounds / mean latency (integer ns, over the fixed window of `retention`
    rounds; rounds that did not happen yet count zero for every client) / worst latency in the retained rounds -/
def specScore (p : Policy) (timeout : Nat) (col : List Outcome) : Nat :=
  match p with
  | .avail => (lastN (retention .avail) col).countP (fun o => o.isSome)
  | .lat => ((lastN (retention .lat) col).map (latencyOf timeout)).sum / retention .lat
  | .minmax => maxOf ((lastN (retention .minmax) col).map (latencyOf timeout))

theorem zipWith_ofFn {α β γ : Type} {n : Nat} (g : α → β → γ) (R : Fin n → α) (f : Fin n → β) :
    List.zipWith g (List.ofFn R) (List.ofFn f) = List.ofFn (fun i => g (R i) (f i)) := by
  apply List.ext_getElem
  · simp
  · intro i h1 h2
    simp [List.getElem_zipWith, List.getElem_ofFn]

theorem replicate_eq_ofFn {α : Type} (n : Nat) (a : α) : List.replicate n a = List.ofFn (fun _ : Fin n => a) := by
  apply List.ext_getElem
  · simp
  · intro i h1 h2
    simp [List.getElem_ofFn]

theorem modify_ofFn {α : Type} {n : Nat} (R : Fin n → α) (i : Fin n) (g : α → α) :
    (List.ofFn R).modify i.val g = List.ofFn (fun j => if j = i then g (R j) else R j) := by
  apply List.ext_getElem
  · simp
  · intro j h1 h2
    simp only [List.getElem_modify, List.getElem_ofFn]
    by_cases hji : i.val = j
    · have : (⟨j, by simpa using h2⟩ : Fin n) = i := Fin.ext hji.symm
      simp [hji, this]
    · have : (⟨j, by simpa using h2⟩ : Fin n) ≠ i := fun h => hji (by rw [← h])
      simp [hji, this]

theorem round_ofFn (p : Policy) (t : Nat) {n : Nat} (st : State) (R : Fin n → List Nat) (h : st.rings = List.ofFn R)
    (f : Fin n → Outcome) :
    (round p t st (List.ofFn f)).rings = List.ofFn (fun i => (R i).set (st.count % ringSize p) (record p t (f i))) ∧
    (round p t st (List.ofFn f)).count = countSucc st.count := by
  simp only [round, finish, h, zipWith_ofFn, put, and_self]

theorem record_latency (p : Policy) (hp : p ≠ .avail) (t : Nat) (o : Outcome) : record p t o = latencyOf t o := by
  cases p <;> cases o <;> simp_all [record, latencyOf, lat_fail, valOf]

/-- what a client's ring retains of its outcomes `col` (oldest first): the last K of K zeros followed by its records -/
def window (p : Policy) (t : Nat) (col : List Outcome) : List Nat :=
  lastN (ringSize p) (List.replicate (ringSize p) 0 ++ col.map (record p t))

theorem window_nil (p : Policy) (t : Nat) : window p t [] = List.replicate (ringSize p) 0 := by
  simp [window, lastN_of_short]

theorem window_length (p : Policy) (t : Nat) (col : List Outcome) : (window p t col).length = ringSize p := by
  simp [window, lastN]

theorem column_snoc {n : Nat} (hist : History n) (f : Fin n → Outcome) (i : Fin n) :
    column (hist ++ [f]) i = column hist i ++ [f i] := List.map_append

theorem window_snoc (p : Policy) (t : Nat) (col : List Outcome) (o : Outcome) :
    window p t (col ++ [o]) = (window p t col).tail ++ [record p t o] := by
  unfold window
  rw [List.map_append, ← List.append_assoc]
  exact lastN_snoc _ _ _ (ringSize_pos p) (by simp)

/-- the scan's figure does not see the rotation nor the zeros -/
theorem score_window (p : Policy) (t c : Nat) (col : List Outcome) :
    score p (rot (ringSize p) (window p t col) c) = specScore p t col := by
  have pad : window p t col = _ := lastN_pad (ringSize p) (col.map (record p t))
  cases p with
  | avail =>
    simp only [score, specScore, rot_sum, pad, List.sum_append, List.sum_replicate_nat, Nat.mul_zero, Nat.zero_add, lastN_map,
      retention_eq_ringSize]
    generalize lastN (ringSize .avail) col = l
    induction l with
    | nil => rfl
    | cons o r ih =>
      rw [List.map_cons, List.sum_cons, List.countP_cons, ih]
      cases o <;> simp [record] <;> omega
  | lat =>
    simp only [score, rot_length, window_length]
    simp only [specScore, rot_sum, pad, List.sum_append, List.sum_replicate_nat, Nat.mul_zero, Nat.zero_add, lastN_map,
      retention_eq_ringSize, List.map_congr_left fun o _ => record_latency .lat (by decide) t o]
  | minmax =>
    simp only [score, specScore, rot_maxOf, pad, maxOf_append, maxOf_replicate_zero, Nat.zero_max, lastN_map,
      retention_eq_ringSize, List.map_congr_left fun o _ => record_latency .minmax (by decide) t o]

structure LoopInv (p : Policy) (t : Nat) {n : Nat} (hist : History n) (st : State) : Prop where
  rings : st.rings = List.ofFn fun i => rot (ringSize p) (window p t (column hist i)) st.count
  sel : st.sel = if hist = [] then initialSelection else bestIndex p t (List.ofFn fun i => specScore p t (column hist i))

theorem loopInv_init (p : Policy) (t n : Nat) : LoopInv p t ([] : History n) (init p n) where
  rings := by
    simp only [init, column, List.map_nil, window_nil, replicate_eq_ofFn n]
    rw [rot_zero _ _ (List.length_replicate ..)]
  sel := rfl

theorem loopInv_round (p : Policy) (t : Nat) {n : Nat} (hist : History n) (st : State) (f : Fin n → Outcome)
    (h : LoopInv p t hist st) : LoopInv p t (hist ++ [f]) (round p t st (List.ofFn f)) := by
  obtain ⟨h1, h2⟩ := round_ofFn p t st _ h.rings f
  -- one write per ring (`rot_set`) moves every window on by the client's new record
  have hr : (round p t st (List.ofFn f)).rings =
      List.ofFn fun i => rot (ringSize p) (window p t (column (hist ++ [f]) i)) (countSucc st.count) := by
    rw [h1]
    refine congrArg List.ofFn (funext fun i => ?_)
    rw [rot_set _ _ _ _ (window_length ..) (ringSize_pos p), column_snoc, window_snoc]
    exact rot_congr _ _ _ _ (countSucc_mod _ _ (ringSize_dvd p)).symm
  refine ⟨h2 ▸ hr, ?_⟩
  rw [if_neg (by simp), show (round p t st (List.ofFn f)).sel = bestIndex p t ((round p t st (List.ofFn f)).rings.map (score p)) from rfl,
    hr, List.map_ofFn]
  exact congrArg (bestIndex p t ∘ List.ofFn) (funext fun i => score_window p t _ _)

theorem loopInv_run (p : Policy) (t : Nat) {n : Nat} : ∀ (rest pre : History n) (st : State), LoopInv p t pre st →
    LoopInv p t (pre ++ rest) (run p t st (rest.map List.ofFn))
  | [], pre, st, h => by simpa [run] using h
  | f :: rest, pre, st, h => by
    have := loopInv_run p t rest _ _ (loopInv_round p t pre st f h)
    rwa [List.append_assoc] at this

theorem run_spec (p : Policy) (t : Nat) {n : Nat} (hist : History n) :
    LoopInv p t hist (run p t (init p n) (hist.map List.ofFn)) :=
  List.nil_append hist ▸ loopInv_run p t hist [] _ (loopInv_init p t n)

theorem specScore_le (p : Policy) (hp : p ≠ .avail) (t : Nat) (col : List Outcome) (h : ∀ o ∈ col, ∀ d, o = some d → d ≤ t) :
    specScore p t col ≤ t := by
  have hw : ∀ x ∈ (lastN (retention p) col).map (latencyOf t), x ≤ t := by
    intro x hx
    obtain ⟨o, ho, rfl⟩ := List.mem_map.mp hx
    cases o with
    | none => simp [latencyOf]
    | some d => exact h _ (List.mem_of_mem_drop ho) d rfl
  cases p with
  | avail => exact absurd rfl hp
  | lat =>
    have hl : ((lastN (retention .lat) col).map (latencyOf t)).length ≤ retention .lat := by
      rw [List.length_map]; exact lastN_length_le _ _
    apply Nat.div_le_of_le_mul
    calc _ ≤ _ := sum_le_length_mul _ t hw
      _ ≤ retention Policy.lat * t := Nat.mul_le_mul_right t hl
  | minmax => exact maxOf_le _ t hw

def runJobs (p : Policy) (t : Nat) (st : State) (jobs : List (Nat × Outcome)) : State :=
  jobs.foldl (fun s j => jobDone p t s j.1 j.2) st

theorem runJobs_keeps (p : Policy) (t : Nat) : ∀ (jobs : List (Nat × Outcome)) (st : State),
    (runJobs p t st jobs).sel = st.sel ∧ (runJobs p t st jobs).count = st.count
  | [], _ => ⟨rfl, rfl⟩
  | j :: rest, st => runJobs_keeps p t rest (jobDone p t st j.1 j.2)

theorem jobDone_ofFn (p : Policy) (t : Nat) {n : Nat} (st : State) (R : Fin n → List Nat) (h : st.rings = List.ofFn R)
    (i : Fin n) (o : Outcome) :
    (jobDone p t st i.val o).rings = List.ofFn fun j => if j = i then put p st.count (R j) (record p t o) else R j := by
  simp only [jobDone, h]
  exact modify_ofFn R i _

theorem runJobs_rings (p : Policy) (t : Nat) {n : Nat} (f : Fin n → Outcome) :
    ∀ (ord : List (Fin n)) (st : State) (R : Fin n → List Nat), st.rings = List.ofFn R →
      (runJobs p t st (ord.map (fun i => (i.val, f i)))).rings =
        List.ofFn (fun i => if i ∈ ord then put p st.count (R i) (record p t (f i)) else R i)
  | [], st, R, h => by
    simp only [runJobs, List.map_nil, List.foldl_nil, List.not_mem_nil, if_false]
    exact h
  | i :: ord, st, R, h => by
    have ih := runJobs_rings p t f ord (jobDone p t st i.val (f i)) _ (jobDone_ofFn p t st R h i (f i))
    simp only [runJobs, List.map_cons, List.foldl_cons] at ih ⊢
    rw [ih]
    congr 1
    funext j
    -- a client whose job comes twice writes the same record into the same slot twice
    by_cases hj : j = i
    · subst hj
      simp [jobDone, put, List.set_set]
    · simp [jobDone, hj]

theorem jobs_then_finish (p : Policy) (t : Nat) {n : Nat} (f : Fin n → Outcome) (ord : List (Fin n))
    (hall : ∀ i : Fin n, i ∈ ord) (st : State) (hlen : st.rings.length = n) :
    finish p t (runJobs p t st (ord.map (fun i => (i.val, f i)))) = round p t st (List.ofFn f) := by
  have hR : st.rings = List.ofFn (fun i : Fin n => st.rings[i.val]'(by rw [hlen]; exact i.isLt)) := by
    subst hlen
    exact List.ofFn_getElem.symm
  have h1 := runJobs_rings p t f ord st _ hR
  have h2 := runJobs_keeps p t (ord.map (fun i => (i.val, f i))) st
  have hrings : (runJobs p t st (ord.map (fun i => (i.val, f i)))).rings =
      List.zipWith (fun r o => put p st.count r (record p t o)) st.rings (List.ofFn f) := by
    rw [h1]
    conv => rhs; rw [hR, zipWith_ofFn]
    congr 1
    funext i
    simp [hall i]
  simp only [finish, round, hrings, h2.2]

end SSV.ClientGroups
