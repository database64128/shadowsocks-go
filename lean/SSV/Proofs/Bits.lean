/-
Masking a word with one bit, as `w & (1 << j)` of the replay filter (`SWF`) and of the port set (`PortSetBits`) does.
-/
namespace SSV

theorem and_two_pow (x k : Nat) : x &&& 2 ^ k = if x.testBit k then 2 ^ k else 0 := by
  apply Nat.eq_of_testBit_eq
  intro i
  by_cases h : k = i <;> cases hb : x.testBit k <;> simp_all

theorem and_two_pow_beq_zero (x k : Nat) : (x &&& 2 ^ k == 0) = !x.testBit k := by
  rw [and_two_pow]
  cases x.testBit k <;> simp

theorem and_two_pow_bne_zero (x k : Nat) : (x &&& 2 ^ k != 0) = x.testBit k := by
  rw [bne, and_two_pow_beq_zero, Bool.not_not]

end SSV
