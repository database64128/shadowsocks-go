import SSV.Proofs.RelayLifeEntry
/-
C12, the invariant of the relay: the mutex discipline, the link between table and entries, and Stop's progress through
its program, in every reachable state.  Every clause that mentions an entry reads, besides that entry, only the mutex
holder, Stop's position and the table cell under the entry's key.  So it is stated for ONE entry with these three as
parameters (`LinkInv`; with `EInv` in front: `SInv`), and a step is checked on the entry it writes and on an arbitrary
other entry, with no quantifier in sight.  `RInv` adds the clauses about the shared fields alone (`SharedInv`), `noPanic`
and the bounds that keep the indices in range; `Inv1`, the clause list the properties quote, and `Inv6` are read off it.
-/
namespace SSV.RelayLife

def RPc.holds : RPc → Bool
  | .hold _ | .unlock => true
  | _ => false
def SPc.holds : SPc → Bool
  | .iter | .pend _ | .unlock => true
  | _ => false
/-- Stop has forced the listeners' read deadline -/
def SPc.afterDl : SPc → Bool
  | .idle | .dlServer => false
  | _ => true
/-- Stop is past `mwg.Wait()` -/
def SPc.afterMwg : SPc → Bool
  | .idle | .dlServer | .waitMwg => false
  | _ => true
/-- Stop has finished its pass over the table -/
def SPc.afterIter : SPc → Bool
  | .unlock | .waitWg | .closeSrv | .done => true
  | _ => false
/-- Stop is past `wg.Wait()` -/
def SPc.afterWg : SPc → Bool
  | .closeSrv | .done => true
  | _ => false

theorem SPc.afterIter_afterMwg (p : SPc) : p.afterIter = true → p.afterMwg = true := by
  cases p <;> simp [SPc.afterIter, SPc.afterMwg]
theorem SPc.afterWg_afterIter (p : SPc) : p.afterWg = true → p.afterIter = true := by
  cases p <;> simp [SPc.afterWg, SPc.afterIter]

theorem allB_iff (n : Nat) (p : Nat → Bool) : allB n p = true ↔ ∀ i, i < n → p i = true := by
  simp [allB, List.all_eq_true, List.mem_range]

theorem exists_of_not_allB {n : Nat} {p : Nat → Bool} (h : ¬ allB n p = true) : ∃ i, i < n ∧ p i = false := by
  rw [allB_iff] at h
  obtain ⟨i, hi⟩ := Classical.not_forall.mp h
  obtain ⟨hin, hp⟩ := Classical.not_imp.mp hi
  exact ⟨i, hin, by simpa using hp⟩

/-- Stop's `state.Swap(serverConn)` has not hit the entry: `nil` before the initialiser's swap, `natConn` after -/
def Entry.unswapped (e : Entry) : Prop := (e.st = .nil ∧ e.clean = false) ∨ (e.st = .nat ∧ e.clean = true)
/-- it has: `serverConn`, or overwritten by the initialiser's swap, which then saw non-nil and is returning -/
def Entry.swapped (e : Entry) : Prop := e.st = .srv ∨ (e.st = .nat ∧ e.clean = false ∧ 9 ≤ e.ipc.idx)
/-- a future deadline only between the uplink's re-arm and its re-force -/
def Entry.rechecking (e : Entry) : Prop := e.clean = true → e.dl = .future → e.upc = .check ∨ e.upc = .force
/-- the entry against Stop's pass over the table; `pend` says that Stop has swapped this entry's state pointer and is
about to force its deadline -/
def Entry.StopOK (cfg : Cfg) (pend : Prop) (e : Entry) : Prop :=
  (e.visited = false → ¬ pend → e.unswapped) ∧ (e.visited = true ∨ pend → e.swapped) ∧
  (cfg.recheck = true → e.visited = true → e.rechecking)

/-- mutex discipline, table/entry link, channel closed exactly once the clean-up is past its `close` -/
structure Inv1 (s : State) : Prop where
  muR : s.mu = .recv ↔ s.rpc.holds = true
  muS : s.mu = .stop ↔ s.spc.holds = true
  muC : ∀ i, s.mu = .cleanup i ↔ (i < s.n ∧ (s.ent i).ipc.inCrit = true)
  noPanic : s.panic = false
  tab : ∀ c i, s.table c = some i → i < s.n ∧ (s.ent i).key = c
  inTab : ∀ i, i < s.n → (s.table (s.ent i).key = some i ↔ (s.ent i).ipc.deleted = false)
  closed : ∀ i, i < s.n → ((s.ent i).chClosed = true ↔ (s.ent i).ipc.closed = true)

/-- the listener's deadline is in the past once Stop's first step is done; the entry Stop is about to force has not been
marked visited yet -/
structure Inv6 (s : State) : Prop where
  p1 : s.spc.afterDl = true → s.srvPast = true
  p2 : ∀ i, s.spc = .pend i → (i < s.n ∧ (s.ent i).visited = false)

variable {cfg : Cfg}

theorem Inv1.closed_in_table {s : State} (I : Inv1 s) {i : Nat} (hi : i < s.n) (hc : (s.ent i).chClosed = true)
    (ht : s.table (s.ent i).key = some i) : s.mu = .cleanup i :=
  (I.muC i).mpr ⟨hi, IPc.closed_live_crit _ ((I.closed i hi).mp hc) ((I.inTab i hi).mp ht)⟩

theorem Inv1.target_open {s : State} (I : Inv1 s) {c i : Nat} (hr : s.rpc = .hold c) (ht : s.table c = some i) :
    (s.ent i).chClosed = false := by
  obtain ⟨hi, hk⟩ := I.tab c i ht
  have hm : s.mu = .recv := I.muR.mpr (by simp [hr, RPc.holds])
  cases hc : (s.ent i).chClosed with
  | false => rfl
  | true =>
    have := I.closed_in_table hi hc (hk ▸ ht)
    rw [hm] at this
    cases this

/-- Entry `j` against the mutex holder, Stop's position and `tk`, the table cell under its key.  The positions of I_i are
given through `ipc.idx` (10–12 inside the critical section, < 12 not yet deleted, 14 returned) and not through
`inCrit`/`deleted`/`finished`: the `failEarly` move of `Own` leaves `ipc` symbolic. -/
def LinkInv (cfg : Cfg) (mu : Holder) (spc : SPc) (tk : Option Nat) (j : Nat) (e : Entry) : Prop :=
  (mu = .cleanup j ↔ (10 ≤ e.ipc.idx ∧ e.ipc.idx ≤ 12)) ∧ (tk = some j ↔ e.ipc.idx < 12) ∧
  (spc = .pend j → e.visited = false) ∧ e.StopOK cfg (spc = .pend j) ∧
  (spc.afterIter = true → tk = some j → e.visited = true) ∧
  (spc.afterWg = true → e.ipc.idx = 14 ∧ (e.upc = .none ∨ e.upc = .done))

def SInv (cfg : Cfg) (mu : Holder) (spc : SPc) (tk : Option Nat) (j : Nat) (e : Entry) : Prop :=
  EInv cfg e ∧ LinkInv cfg mu spc tk j e

def SharedInv (mu : Holder) (rpc : RPc) (spc : SPc) (srvPast : Bool) : Prop :=
  (mu = .recv ↔ rpc.holds = true) ∧ (mu = .stop ↔ spc.holds = true) ∧ (spc.afterDl = true → srvPast = true) ∧
  (spc.afterMwg = true → rpc = .done)

structure RInv (cfg : Cfg) (s : State) : Prop where
  shared : SharedInv s.mu s.rpc s.spc s.srvPast
  noPanic : s.panic = false
  critLt : ∀ i, s.mu = .cleanup i → i < s.n
  pendLt : ∀ i, s.spc = .pend i → i < s.n
  tab : ∀ c i, s.table c = some i → i < s.n ∧ (s.ent i).key = c
  loc : ∀ j, j < s.n → SInv cfg s.mu s.spc (s.table (s.ent j).key) j (s.ent j)

theorem RInv.inv1 {s : State} (hR : RInv cfg s) : Inv1 s where
  muR := hR.shared.1
  muS := hR.shared.2.1
  muC i := ⟨fun h => ⟨hR.critLt i h, (IPc.inCrit_t _).mpr ((hR.loc i (hR.critLt i h)).2.1.mp h)⟩,
    fun h => (hR.loc i h.1).2.1.mpr ((IPc.inCrit_t _).mp h.2)⟩
  noPanic := hR.noPanic
  tab := hR.tab
  inTab i hi := (hR.loc i hi).2.2.1.trans (IPc.deleted_f _).symm
  closed i hi := ((hR.loc i hi).1.closed).trans (IPc.closed_t _).symm

theorem RInv.inv6 {s : State} (hR : RInv cfg s) : Inv6 s :=
  ⟨hR.shared.2.2.1, fun i h => ⟨hR.pendLt i h, (hR.loc i (hR.pendLt i h)).2.2.2.1 h⟩⟩

theorem RInv.recvDone {s : State} (hR : RInv cfg s) : s.spc.afterMwg = true → s.rpc = .done := hR.shared.2.2.2
theorem RInv.pass {s : State} (hR : RInv cfg s) (i : Nat) (hi : i < s.n) : (s.ent i).StopOK cfg (s.spc = .pend i) :=
  (hR.loc i hi).2.2.2.2.1
theorem RInv.visitedAll {s : State} (hR : RInv cfg s) (hs : s.spc.afterIter = true) (i : Nat) (hi : i < s.n)
    (ht : s.table (s.ent i).key = some i) : (s.ent i).visited = true := (hR.loc i hi).2.2.2.2.2.1 hs ht
theorem RInv.allFinished {s : State} (hR : RInv cfg s) (hs : s.spc.afterWg = true) (i : Nat) (hi : i < s.n) :
    (s.ent i).finished = true := by
  obtain ⟨h1, h2⟩ := (hR.loc i hi).2.2.2.2.2.2 hs
  exact Entry.finished_iff.mpr ⟨(IPc.idx_done _).mpr h1, h2⟩

attribute [local grind] SInv LinkInv EInv Entry.StopOK Entry.unswapped Entry.swapped Entry.rechecking IPc.idx Entry.closeIf Cfg.closesAll

/-- Against Stop: the initialiser's swap is the only own move that touches the state pointer, and once Stop has swapped it
the uplink's re-check sees a pointer other than `natConn` and forces the deadline back. -/
theorem Own.sinv {e e' : Entry} {b : Bool} {mu : Holder} {spc : SPc} {tk : Option Nat} {j : Nat}
    (o : Own cfg e b e') (h : SInv cfg mu spc tk j e) : SInv cfg mu spc tk j e' ∧ e'.key = e.key := by
  cases o <;> grind -linarith

theorem SInv.of_shared {mu mu' : Holder} {spc spc' : SPc} {tk : Option Nat} {j : Nat} {e : Entry} (h : SInv cfg mu spc tk j e)
    (hm : mu' = .cleanup j ↔ mu = .cleanup j) (hp : spc' = .pend j ↔ spc = .pend j)
    (hi : spc'.afterIter = true → spc.afterIter = true) (hw : spc'.afterWg = true → spc.afterWg = true) :
    SInv cfg mu' spc' tk j e := by
  grind

theorem RInv.touch {s : State} (hR : RInv cfg s) {i : Nat} {e' : Entry} {mu' : Holder} {spc' : SPc} {tab' : Nat → Option Nat}
    (self : SInv cfg s.mu s.spc (s.table (s.ent i).key) i (s.ent i) → SInv cfg mu' spc' (tab' e'.key) i e')
    (others : ∀ j, j ≠ i → SInv cfg s.mu s.spc (s.table (s.ent j).key) j (s.ent j) →
      SInv cfg mu' spc' (tab' (s.ent j).key) j (s.ent j)) :
    ∀ j, j < s.n → SInv cfg mu' spc' (tab' ((s.setE i e').ent j).key) j ((s.setE i e').ent j) := by
  intro j hj
  simp only [State.setE]
  split
  · next h => subst h; exact self (hR.loc j hj)
  · next h => exact others j h (hR.loc j hj)

/-- The invariant is instantiated at the one or two entries a case needs and cleared before `grind` is called, which would
otherwise instantiate its quantified clauses at every entry in sight. -/
theorem RInv.next_loc {s s' : State} (hR : RInv cfg s) {b : Bool} (hs : Step cfg s b s') :
    ∀ j, j < s'.n → SInv cfg s'.mu s'.spc (s'.table (s'.ent j).key) j (s'.ent j) := by
  cases hs
  case own i e' hi o =>
    refine hR.touch (fun h => ?_) (fun j _ h => h)
    have := o.sinv h
    rw [this.2]; exact this.1
  case rNew c hr ht =>
    intro j hj
    have := hR.shared; have := hR.pendLt s.n; have := SPc.afterIter_afterMwg s.spc; have := SPc.afterWg_afterIter s.spc
    by_cases hjn : j = s.n
    · subst hjn; clear hR; simp only [if_true]; have := einv_fresh (cfg := cfg) c
      grind [Entry.fresh, SharedInv, RPc.holds, SPc.afterIter, SPc.afterWg, SPc.afterMwg]
    · have := hR.loc j (by simp only at hj; omega); have := hR.tab c j; clear hR; simp only [hjn, if_false]; grind
  -- `delete` removes by key and no other live entry has this key; `Unlock` frees a mutex nobody else holds
  case cDelete i hi hp | cUnlock i hi hp =>
    have := hR.loc i hi
    refine hR.touch (fun h => ?_) (fun j hji h => ?_) <;> clear hR <;> simp only [State.setE] <;> grind -linarith
  case stopIter hp hall =>
    intro j hj; have := hR.loc j hj; have := (allB_iff _ _).mp hall j hj
    clear hR hall; simp only [State.inTab] at this; grind [SPc.afterIter, SPc.afterWg]
  case stopWg hp hall =>
    intro j hj; have := hR.loc j hj; have := (allB_iff _ _).mp hall j hj
    clear hR hall; grind [Entry.finished_iff, IPc.idx_done, SPc.afterIter, SPc.afterWg]
  case cLock | cCloseAgain | rEnqueue | stopForce | visitNil | visit =>
    refine hR.touch (fun h => ?_) (fun j hji h => h.of_shared ?_ ?_ ?_ ?_) <;> clear hR <;> simp only [State.setE] <;>
      grind -linarith [SPc.afterIter, SPc.afterWg]
  -- `SInv` does not read `rpc`
  case arrive | rDrop | rClosed | rMore | rExit => exact hR.loc
  case rLock | rUnlock | stopCall | stopDl | stopMwg | stopLock | stopUnlock | stopClose =>
    intro j hj; have := hR.shared
    refine (hR.loc j hj).of_shared ?_ ?_ ?_ ?_ <;> clear hR <;> grind -linarith [SharedInv, RPc.holds, SPc.holds, SPc.afterIter, SPc.afterWg]

theorem RInv.next {s s' : State} (hR : RInv cfg s) {b : Bool} (hs : Step cfg s b s') : RInv cfg s' := by
  refine ⟨?shared, ?noPanic, ?critLt, ?pendLt, ?tab, hR.next_loc hs⟩
  case shared =>
    have h := hR.shared
    cases hs
    case cUnlock i hi hp => have := hR.loc i hi; clear hR; grind [State.setE, SharedInv]
    all_goals first
      | exact h
      | (clear hR; grind -linarith [State.setE, SharedInv, RPc.holds, SPc.holds, SPc.afterDl, SPc.afterMwg])
  case noPanic =>
    cases hs
    case rClosed hr ht hc => rw [hR.inv1.target_open hr ht] at hc; cases hc
    case cCloseAgain hi hp hc => have := ((hR.loc _ hi).1.closed).mp hc; simp [hp, IPc.idx] at this
    all_goals exact hR.noPanic
  case critLt => cases hs <;> first | exact hR.critLt | (have := hR.critLt; simp only [State.setE]; grind)
  case pendLt => cases hs <;> first | exact hR.pendLt | (have := hR.pendLt; simp only [State.setE]; grind)
  case tab =>
    intro c j h
    have := hR.tab c j
    cases hs
    case own i e' hi o => have := (o.sinv (hR.loc i hi)).2; simp only [State.setE] at h ⊢; grind
    all_goals first | exact this h | (simp only [State.setE] at h ⊢; grind [Entry.fresh])

theorem inv_reachable {s : State} (h : Reachable cfg s) : RInv cfg s := by
  induction h with
  | init => exact ⟨by simp [SharedInv, State.init, RPc.holds, SPc.holds, SPc.afterDl, SPc.afterMwg], rfl, nofun, nofun, nofun, nofun⟩
  | step e _ hs ih => exact ih.next (step_Step hs)

theorem inv1_reachable {s : State} (h : Reachable cfg s) : Inv1 s := (inv_reachable h).inv1
theorem einv_reachable {s : State} (h : Reachable cfg s) {i : Nat} (hi : i < s.n) : EInv cfg (s.ent i) :=
  ((inv_reachable h).loc i hi).1

end SSV.RelayLife
