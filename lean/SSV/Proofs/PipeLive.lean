import SSV.Proofs.Pipe
/-
C15 — facts about a single step: which threads can move (`CanMove`), that no combination of pending calls is
stuck once no thread is blocked in a select (`Unblocked`, `some_canMove`), that closing is irrevocable
(`closedAs_stable`), and that a close error is never a timeout (`PC.isTimeout`, for `timeout_only_if_expired`).
-/
namespace SSV.Pipe

/-- thread `i` can take a step now, alone or as one side of a channel operation -/
def CanMove (s : State) (i : Nat) : Prop :=
  (∃ s', s' ∈ localSteps s i) ∨
  (∃ j s', data s i j = some s' ∨ data s j i = some s') ∨
  (∃ j s', count s i j = some s' ∨ count s j i = some s')

theorem DL.chanClosed_of_closed {d : DL} {g : Nat} (hg : g ≤ d.gen) (hc : d.closed = true) : d.chanClosed g = true := by
  unfold DL.chanClosed
  by_cases h : g < d.gen
  · simp [h]
  · have : g = d.gen := by omega
    simp [this, hc]

theorem data_enabled {s : State} {i j : Nat} {k : RKind} {acc g : Nat} {b : Bytes} {n ci gw : Nat}
    (hi : s.thr i = .rSel k acc g) (hj : s.thr j = .wSel b n ci gw) : ∃ s', data s i j = some s' := by
  unfold data; simp only [hi, hj]
  have := sel_has k
  simp [this.1, wsel_has.1]

theorem count_enabled {s : State} {i j : Nat} {k : RKind} {acc nr : Nat} {fail : Bool} {chunk b : Bytes} {n ci : Nat}
    (hi : s.thr i = .rAck k acc nr fail chunk) (hj : s.thr j = .wAwait b n ci) : ∃ s', count s i j = some s' := by
  unfold count; simp only [hi, hj]
  split <;> exact ⟨_, rfl⟩

theorem local_enabled (s : State) (i : Nat) :
    match s.thr i with
    | .rChk1 .. | .rChk2 .. | .rEnter .. | .wChk1 .. | .wChk2 .. | .wEnter .. | .cStore .. | .cClose
    | .dChk .. | .dSet .. => ∃ s', s' ∈ localSteps s i
    | _ => True := by
  fun_cases localSteps s i <;> simp only [*] <;> exact ⟨_, List.mem_singleton_self _⟩

theorem finish_enabled {s : State} {i : Nat} (h : (s.thr i).returned = true) : ∃ s', IStep s s' :=
  ⟨s.setT i .idle, .finish i (by cases hp : s.thr i <;> simp_all [finish, PC.returned])⟩

theorem CanMove.istep {s : State} {j : Nat} (h : CanMove s j) : ∃ s', IStep s s' := by
  rcases h with ⟨s', h⟩ | ⟨j', s', h | h⟩ | ⟨j', s', h | h⟩
  · exact ⟨s', .loc j h⟩
  · exact ⟨s', .data j j' h⟩
  · exact ⟨s', .data j' j h⟩
  · exact ⟨s', .count j j' h⟩
  · exact ⟨s', .count j' j h⟩

theorem not_canMove_ret {s : State} {j : Nat} (h : (s.thr j).returned = true) : ¬ CanMove s j := by
  intro hc
  rcases hc with ⟨s', hl⟩ | ⟨i, s', hd | hd⟩ | ⟨i, s', hd | hd⟩
  · unfold localSteps at hl
    cases hp : s.thr j <;> simp_all [PC.returned]
  · obtain ⟨_, _, _, _, _, _, _, h1, _⟩ := data_cases hd
    rw [h1] at h; cases h
  · obtain ⟨_, _, _, _, _, _, _, _, h1, _⟩ := data_cases hd
    rw [h1] at h; cases h
  · obtain ⟨⟨_, _, _, _, _, h1⟩, _⟩ := count_some_pcs hd
    rw [h1] at h; cases h
  · obtain ⟨_, _, _, _, h1⟩ := count_some_pcs hd
    rw [h1] at h; cases h

theorem sel_pair_canMove {s : State} {i j : Nat} {k : RKind} {acc g : Nat} {b : Bytes} {n ci gw : Nat}
    (hi : s.thr i = .rSel k acc g) (hj : s.thr j = .wSel b n ci gw) : CanMove s i ∧ CanMove s j := by
  obtain ⟨s', h'⟩ := data_enabled hi hj
  exact ⟨.inr (.inl ⟨j, s', .inl h'⟩), .inr (.inl ⟨i, s', .inr h'⟩)⟩

theorem rAck_canMove {s : State} (h : Inv s) {i : Nat} {k : RKind} {acc nr : Nat} {fail : Bool} {chunk : Bytes}
    (hp : s.thr i = .rAck k acc nr fail chunk) : CanMove s i := by
  obtain ⟨j, _, _, _, _, h2, _⟩ := h.ack_partner hp
  obtain ⟨s', h'⟩ := count_enabled hp h2
  exact .inr (.inr ⟨j, s', .inl h'⟩)

theorem wAwait_canMove {s : State} (h : Inv s) {j : Nat} {b : Bytes} {n ci : Nat}
    (hp : s.thr j = .wAwait b n ci) : CanMove s j := by
  obtain ⟨i, _, _, _, _, _, h1, _⟩ := h.await_partner hp
  obtain ⟨s', h'⟩ := count_enabled h1 hp
  exact .inr (.inr ⟨i, s', .inr h'⟩)

theorem rSel_canMove {s : State} (inv : Inv s) {i : Nat} {k : RKind} {acc g : Nat} (hp : s.thr i = .rSel k acc g)
    (h : s.done = true ∨ s.rdl.chanClosed g = true) : CanMove s i := by
  rcases h with hd | hc
  · obtain ⟨e, he⟩ := Inv.err_of_done inv hd
    exact .inl ⟨_, Loc.mem hp (.rSelDone hd he)⟩
  · exact .inl ⟨_, Loc.mem hp (.rSelExp hc)⟩

theorem wSel_canMove {s : State} (inv : Inv s) {i : Nat} {b : Bytes} {n ci g : Nat} (hp : s.thr i = .wSel b n ci g)
    (h : s.done = true ∨ s.wdl.chanClosed g = true) : CanMove s i := by
  rcases h with hd | hc
  · obtain ⟨e, he⟩ := Inv.err_of_done inv hd
    exact .inl ⟨_, Loc.mem hp (.wSelDone hd he)⟩
  · exact .inl ⟨_, Loc.mem hp (.wSelExp hc)⟩

/-- no thread is blocked in a select: the only threads that cannot move are those waiting for the lock -/
def Unblocked (s : State) : Prop :=
  ∀ i, match s.thr i with
    | .rSel .. | .wSel .. => CanMove s i
    | _ => True

theorem unblocked_of_done {s : State} (inv : Inv s) (hd : s.done = true) : Unblocked s := by
  intro i
  cases hp : s.thr i <;> simp only
  · exact rSel_canMove inv hp (.inl hd)
  · exact wSel_canMove inv hp (.inl hd)

/-- every select waits on a cancel channel that existed (`gens`), and those are all closed -/
theorem unblocked_of_expired {s : State} (inv : Inv s) (hr : s.rdl.closed = true) (hw : s.wdl.closed = true) :
    Unblocked s := by
  intro i
  have hg := inv.gens i
  cases hp : s.thr i <;> simp only [hp] at hg ⊢
  · exact rSel_canMove inv hp (.inr (DL.chanClosed_of_closed hg hr))
  · exact wSel_canMove inv hp (.inr (DL.chanClosed_of_closed hg hw))

theorem holder_canMove {s : State} (h : Inv s) (hu : Unblocked s) {j : Nat} (hj : (s.thr j).holds = true) :
    CanMove s j := by
  cases hp : s.thr j <;> simp only [hp, PC.holds] at hj <;> try cases hj
  case wEnter => exact .inl (by have := local_enabled s j; simpa only [hp] using this)
  case wSel => have := hu j; simpa only [hp] using this
  case wAwait => exact wAwait_canMove h hp

/-- NO DEADLOCK where nobody is blocked in a select: a thread inside a call can move, or waits for the lock, whose
holder is inside the write loop and can move -/
theorem some_canMove {s : State} (inv : Inv s) (hu : Unblocked s) (i : Nat)
    (hc : match s.thr i with | .idle | .rRet .. | .wRet .. | .uRet .. => False | _ => True) :
    ∃ j, CanMove s j := by
  have loc := local_enabled s i
  have hi := hu i
  -- idle / returned: `hc` is `False`; pcs that never block: `loc`; the selects: `hi`
  cases hp : s.thr i <;> simp only [hp] at loc hc hi <;> (try exact ⟨i, .inl loc⟩) <;> (try exact ⟨i, hi⟩)
  case rAck => exact ⟨i, rAck_canMove inv hp⟩
  case wAwait => exact ⟨i, wAwait_canMove inv hp⟩
  case wLock b =>
    cases hm : s.mu with
    | none => exact ⟨i, .inl ⟨_, Loc.mem hp (.wLock hm)⟩⟩
    | some j => exact ⟨j, holder_canMove inv hu (inv.muLive j hm)⟩

theorem quiescent_idle {s : State} (inv : Inv s) (hu : Unblocked s) (hq : ¬ ∃ s', IStep s s') (i : Nat) :
    s.thr i = .idle := by
  cases hp : s.thr i
  case idle => rfl
  case rRet | wRet | uRet => exact absurd (finish_enabled (by rw [hp]; rfl)) hq
  all_goals
    exfalso; apply hq
    obtain ⟨j, hj⟩ := some_canMove inv hu i (by simp [hp])
    exact hj.istep

/-- the part of the state a close decides -/
def closedAs (s : State) (e : Err) : Prop := s.done = true ∧ s.err = some e

theorem Loc.keeps_closed {s g : State} {i : Nat} {p p' : PC} (l : Loc s i p p' g) :
    (s.done = true → g.done = true) ∧ ∀ e, s.err = some e → g.err = some e := by
  cases l
  case cStore => exact ⟨id, fun e he => by simp [he]⟩
  case cClose => exact ⟨fun _ => rfl, fun _ => id⟩
  all_goals exact ⟨id, fun _ => id⟩

theorem step_keeps_closed {s s' : State} (h : Inv s) (st : Step s s') :
    (s.done = true → s'.done = true) ∧ (∀ e, s.err = some e → s'.err = some e) := by
  rcases st.start_or_internal with ⟨i, op, _, rfl⟩ | st
  · exact ⟨id, fun _ => id⟩
  · cases st.rule h with
    | loc _ l => exact l.keeps_closed
    | _ => exact ⟨id, fun _ => id⟩

theorem closedAs_stable {s s' : State} {e : Err} (h : Inv s) (st : Step s s') (hc : closedAs s e) : closedAs s' e :=
  ⟨(step_keeps_closed h st).1 hc.1, (step_keeps_closed h st).2 e hc.2⟩

theorem closeErr_ne_timeout (k : RKind) (e : Err) : k.closeErr e ≠ .timeout := by
  cases k <;> cases e <;> simp [RKind.closeErr, writeToCloseErr, Err.toR]

theorem writeCloseErr_ne_timeout (e : Err) : writeCloseErr e ≠ .timeout := by
  cases e <;> simp [writeCloseErr, Err.toR]

def PC.isTimeout : PC → Bool
  | .rRet _ .timeout => true
  | .wRet _ .timeout _ => true
  | _ => false

end SSV.Pipe
