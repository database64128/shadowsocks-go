import SSV.Proofs.PacketSS
/- C05: what the unpackers can return (shapes), and absence of panics. -/
namespace SSV.Packet
open SSV SSV.Gen.C05 Outcome

theorem unbe_two_lt (x : Bytes) (h : x.length = 2) : unbe x < 65536 := by
  match x, h with
  | [p, q], _ =>
    have hp := p.toNat_lt
    have hq := q.toNat_lt
    simp [unbe]
    omega

theorem decodeAddrPort_ok {s : Bytes} {a : AddrPort} {n : Nat} (h : decodeAddrPort s = .ok (a, n)) :
    a.wf ∧ addrPortLen a ≤ n ∧ n ≤ s.length := by
  revert h
  fun_cases decodeAddrPort s
  case case3 t tl _ hlen => -- IPv4
    intro h
    cases h
    refine ⟨⟨sub_length _ _ _ (by omega), unbe_two_lt _ (sub_length _ _ _ (by omega))⟩, ?_, by omega⟩
    simp only [addrPortLen, IP.v4family, if_true, addrLenV4]; omega
  case case4 h19 => -- IPv6, too short
    rw [if_pos h19]
    nofun
  case case5 t tl _ _ _ h19 => -- IPv6
    rw [if_neg h19]
    intro h
    cases h
    refine ⟨⟨sub_length _ _ _ (by omega), unbe_two_lt _ (sub_length _ _ _ (by omega))⟩, ?_, by omega⟩
    simp only [addrPortLen]
    split <;> simp [addrLenV4, addrLenV6]
  all_goals nofun

theorem decodeAddr_ok {s : Bytes} {a : Addr} {n : Nat} (h : decodeAddr s = .ok (a, n)) :
    a.wf ∧ addrLen a ≤ n ∧ n ≤ s.length ∧ a ≠ .zero := by
  cases s with
  | nil => cases h
  | cons t tl =>
    by_cases ht : t.toNat = AtypDomainName
    · unfold decodeAddr at h
      simp only [ite_err_eq_ok, if_pos ht] at h
      cases tl with
      | nil => cases h.2
      | cons l rest =>
        simp only [ite_err_eq_ok, Outcome.ok.injEq, Prod.mk.injEq] at h
        obtain ⟨-, h1, h2, rfl, rfl⟩ := h
        have hl := l.toNat_lt
        have hsub : (sub (t :: l :: rest) 2 l.toNat).length = l.toNat := sub_length _ _ _ (by omega)
        have hport := unbe_two_lt (sub (t :: l :: rest) (2 + l.toNat) 2) (sub_length _ _ _ (by omega))
        refine ⟨⟨by omega, by omega, hport⟩, ?_, by omega, nofun⟩
        simp only [addrLen, addrLenDomain, hsub]; omega
    · rw [decodeAddr_of_not_dom t tl ht] at h
      obtain ⟨r, hp, h⟩ := bind_eq_ok h
      cases h
      obtain ⟨hw, hl, hn⟩ := decodeAddrPort_ok (a := r.1) (n := r.2) hp
      exact ⟨hw, hl, hn, nofun⟩

theorem decodeAddr_safe (s : Bytes) : (decodeAddr s).safe := by
  unfold decodeAddr
  refine safe_ite (safe_err _) fun _ => ?_
  cases s with
  | nil => exact safe_err _
  | cons t tl =>
    refine safe_ite ?_ fun _ => safe_ite (safe_ite (safe_err _) fun _ => safe_ok _) fun _ =>
      safe_ite (safe_ite (safe_err _) fun _ => safe_ok _) fun _ => safe_err _
    cases tl with
    | nil => exact safe_err _
    | cons l _ => exact safe_ite (safe_err _) fun _ => safe_ite (safe_err _) fun _ => safe_ok _

theorem decodeAddrPort_safe (s : Bytes) : (decodeAddrPort s).safe := by
  unfold decodeAddrPort
  refine safe_ite (safe_err _) fun _ => ?_
  cases s with
  | nil => exact safe_err _
  | cons t tl =>
    exact safe_ite (safe_ok _) fun _ => safe_ite (safe_ite (safe_err _) fun _ => safe_ok _) fun _ => safe_err _

theorem parseClientHeader_ok {pt : Bytes} {now : Int} {a : Addr} {ps' pl' : Nat}
    (h : parseClientHeader pt now = .ok (a, ps', pl')) :
    a.wf ∧ a ≠ .zero ∧ 11 + addrLen a ≤ ps' ∧ ps' + pl' = pt.length := by
  unfold parseClientHeader at h
  simp only [ite_err_eq_ok] at h
  obtain ⟨h1, -, -, h4, h⟩ := h
  simp only [UDPClientMessageHeaderFixedLength] at h1 h4 h
  split at h
  · next a' n hd =>
    simp only [Outcome.ok.injEq, Prod.mk.injEq] at h
    obtain ⟨rfl, rfl, rfl⟩ := h
    obtain ⟨hw, hl, hn, hz⟩ := decodeAddr_ok hd
    simp only [List.length_drop] at hn
    refine ⟨hw, hz, by omega, by omega⟩
  all_goals cases h

theorem parseClientHeader_safe (pt : Bytes) (now : Int) : (parseClientHeader pt now).safe := by
  unfold parseClientHeader
  refine safe_ite (safe_err _) fun _ => safe_ite (safe_err _) fun _ => safe_ite (safe_err _) fun _ =>
    safe_ite (safe_err _) fun _ => ?_
  generalize hx : decodeAddr _ = x
  exact (hx ▸ decodeAddr_safe _).elim (fun _ => safe_ok _) fun _ => safe_err _

/-- the header stripped (`hdr`) is at least as long as a fresh unpadded one for the returned address; the 16 bytes
behind the payload are the tag; of the identity headers written back only the length matters -/
theorem ssServerUnpack_ok {c : Crypto} (L : c.Laws) {block key : Bytes} {k : Nat} {lookup : Bool} {users : List (Bytes × Bytes)}
    {now : Int} {b : Bytes} {q n : Nat} {u : Unpacked Addr}
    (h : ssServerUnpack c block key k lookup users now b q n = .ok u) :
    u.buf.length = b.length ∧ u.addr.wf ∧ u.addr ≠ .zero ∧
    ∃ hdr : Nat, u.payloadStart = (q + hdr : Nat) ∧ u.payloadLen + hdr + 16 = n ∧ 0 ≤ u.payloadLen ∧
      16 + 16 * k + 11 + addrLen u.addr ≤ hdr := by
  have hna : UDPSeparateHeaderLength + IdentityHeaderLength * k = 16 + 16 * k := rfl
  have hu : UDPSeparateHeaderLength = 16 := rfl
  unfold ssServerUnpack at h
  rw [hna, hu] at h
  simp only [ite_panic_eq_ok, ite_err_eq_ok, Decidable.not_not] at h
  obtain ⟨hs, h1, h2, h⟩ := h
  rw [Nat.add_sub_cancel_left] at h
  simp only [sliceOk] at hs
  split at h
  · cases h
  · simp only [ite_err_eq_ok] at h
    obtain ⟨h3, h⟩ := h
    simp only [sUnpackTooSmall, decide_eq_true_eq] at h3
    rw [sUnpackMessageHeaderStart_toNat] at h
    split at h
    · cases h
    · next pt hopen =>
      split at h
      · next a ps' pl' hparse =>
        cases h
        obtain ⟨hw, hz, hl, hsum⟩ := parseClientHeader_ok hparse
        have hol := L.open_len _ _ _ _ hopen
        rw [sub_length _ _ _ (by omega)] at hol
        have hsepl : (c.dec block (sub b q 16)).length = 16 := by rw [L.dec_len, sub_length _ _ _ (by omega)]
        have hraw : (sub b (q + 16) (16 * k)).length = 16 * k := sub_length _ _ _ (by omega)
        refine ⟨splice_length _ _ _ ?_, hw, hz, 16 + 16 * k + ps', ?_⟩
        · rw [List.length_append, List.length_append, hsepl, ids_length_after_lookup L block _ _ lookup (k := k) hraw hsepl]
          omega
        · rw [sUnpackMessageHeaderStart_add]
          simp only
          omega
      all_goals cases h

theorem ssServerUnpack_safe (c : Crypto) (block key : Bytes) (k : Nat) (lookup : Bool) (users : List (Bytes × Bytes))
    (now : Int) (b : Bytes) (q n : Nat) (h : q + n ≤ b.length) :
    (ssServerUnpack c block key k lookup users now b q n).safe := by
  unfold ssServerUnpack
  refine safe_guard (by simp only [sliceOk]; omega) (safe_ite (safe_err _) fun _ => safe_ite (safe_err _) fun _ => ?_)
  simp only
  split
  · exact safe_err _
  · refine safe_ite (safe_err _) fun _ => ?_
    split
    · exact safe_err _
    · next pt _ =>
      generalize hx : parseClientHeader pt now = x
      exact (hx ▸ parseClientHeader_safe pt now).elim (fun _ => safe_ok _) fun _ => safe_err _

theorem parseServerHeader_ok {pt : Bytes} {now : Int} {csid : Bytes} {a : AddrPort} {ps' pl' : Nat}
    (h : parseServerHeader pt now csid = .ok (a, ps', pl')) :
    a.wf ∧ 19 + addrPortLen a ≤ ps' ∧ ps' + pl' = pt.length := by
  unfold parseServerHeader at h
  simp only [ite_err_eq_ok] at h
  obtain ⟨h1, -, -, -, h4, h⟩ := h
  simp only [UDPServerMessageHeaderFixedLength] at h1 h4 h
  split at h
  · next a' n hd =>
    simp only [Outcome.ok.injEq, Prod.mk.injEq] at h
    obtain ⟨rfl, rfl, rfl⟩ := h
    obtain ⟨hw, hl, hn⟩ := decodeAddrPort_ok hd
    simp only [List.length_drop] at hn
    refine ⟨hw, by omega, by omega⟩
  all_goals cases h

theorem parseServerHeader_safe (pt : Bytes) (now : Int) (csid : Bytes) : (parseServerHeader pt now csid).safe := by
  unfold parseServerHeader
  refine safe_ite (safe_err _) fun _ => safe_ite (safe_err _) fun _ => safe_ite (safe_err _) fun _ =>
    safe_ite (safe_err _) fun _ => safe_ite (safe_err _) fun _ => ?_
  generalize hx : decodeAddrPort _ = x
  exact (hx ▸ decodeAddrPort_safe _).elim (fun _ => safe_ok _) fun _ => safe_err _

theorem ssClientUnpack_ok {c : Crypto} (L : c.Laws) {block key csid : Bytes} {now : Int} {b : Bytes} {q n : Nat}
    {u : Unpacked AddrPort} (h : ssClientUnpack c block key csid now b q n = .ok u) :
    u.buf.length = b.length ∧ u.addr.wf ∧
    ∃ hdr : Nat, u.payloadStart = (q + hdr : Nat) ∧ u.payloadLen + hdr + 16 = n ∧ 0 ≤ u.payloadLen ∧
      16 + 19 + addrPortLen u.addr ≤ hdr := by
  unfold ssClientUnpack at h
  simp only [ite_panic_eq_ok, ite_err_eq_ok, Decidable.not_not] at h
  obtain ⟨h1, hs1, hs2, h⟩ := h
  simp only [sliceOk, cUnpackMessageHeaderStart] at hs1 hs2
  simp only [cUnpackTooSmall, decide_eq_true_eq] at h1
  split at h
  · cases h
  · next pt hopen =>
    split at h
    · next a ps' pl' hparse =>
      simp only [Outcome.ok.injEq] at h
      subst h
      obtain ⟨hw, hl, hsum⟩ := parseServerHeader_ok hparse
      have hol := L.open_len _ _ _ _ hopen
      rw [cUnpackMessageHeaderStart_toNat, sub_length _ _ _ (by omega)] at hol
      have hsepl : (c.dec block (sub b q 16)).length = 16 := by rw [L.dec_len, sub_length _ _ _ (by omega)]
      refine ⟨splice_length _ _ _ ?_, hw, 16 + ps', ?_⟩
      · rw [List.length_append, hsepl]; omega
      · simp only [cUnpackMessageHeaderStart]
        omega
    all_goals cases h

theorem ssClientUnpack_safe (c : Crypto) (block key csid : Bytes) (now : Int) (b : Bytes) (q n : Nat) (h : q + n ≤ b.length) :
    (ssClientUnpack c block key csid now b q n).safe := by
  unfold ssClientUnpack
  refine safe_ite (safe_err _) fun h1 => ?_
  simp only [cUnpackTooSmall, decide_eq_true_eq] at h1
  refine safe_guard (by simp only [sliceOk, cUnpackMessageHeaderStart]; omega)
    (safe_guard (by simp only [sliceOk, cUnpackMessageHeaderStart]; omega) ?_)
  simp only
  split
  · exact safe_err _
  · next pt _ =>
    generalize hx : parseServerHeader pt now csid = x
    exact (hx ▸ parseServerHeader_safe pt now csid).elim (fun _ => safe_ok _) fun _ => safe_err _

end SSV.Packet
