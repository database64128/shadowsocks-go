import SSV.Proofs.StatsConc
/-
C14 — a thread running alone: a Snapshot taken while nothing else runs reads exactly the counters, for the
anonymous collector and for every user collector that exists, whatever order `range sc.ucs` yields (`Lone`);
the sequential runs of the driver are interleavings; the fuel `snapFuel` always suffices (`stepsLeft`).
-/
namespace SSV.Stats
open SSV.Gen.C14

def loadSame : BStep → Bool
  | .load f o => o == f
  | _ => false

theorem loadSame_elim {x : BStep} (h : loadSame x = true) : ∃ f, x = .load f f := by
  cases x with
  | load f o => exact ⟨f, eq_of_beq h ▸ rfl⟩
  | _ => cases h

def LoadsAll (pc : List BStep) : Prop := (∀ x ∈ pc, loadSame x = true) ∧ ∀ f, BStep.load f f ∈ pc

theorem loadsAll_anon : LoadsAll ((snapProg (shapeOf false).anonKind).map (bindStep [])) :=
  ⟨by decide, fun f => by cases f <;> decide⟩

theorem loadsAll_user : LoadsAll ((snapProg (shapeOf false).userKind).map (bindStep [])) :=
  ⟨by decide, fun f => by cases f <;> decide⟩

/-- the collector a snapshot in this phase is visiting (`Visit.idle.t` between visits) -/
def Phase.target : Phase → Target
  | .visiting u _ => .user u
  | _ => .anon

/-- the collectors still to be visited, the one being visited first; `names` = the keys of `sc.ucs` -/
def Phase.pending (names : List String) : Phase → List Target
  | .anon => .anon :: names.map .user
  | .lockWait => names.map .user
  | .users todo => todo.map .user
  | .visiting u todo => .user u :: todo.map .user
  | .finished => []

/-- invariant of a lone Snapshot thread started on shared state `sh0` -/
structure Lone (sh0 sh : Shared) (s : SnapTh) : Prop where
  ctr : sh.ctr = sh0.ctr
  names : sh.names = sh0.names
  nreset : s.reset = false
  tgt : s.v.t = s.phase.target
  done : ∀ e ∈ s.done, ∀ f, e.2.get f = (sh0.ctr e.1).get f
  pcShape : ∀ x ∈ s.v.pc, loadSame x = true
  /-- during a visit every counter is still to be loaded or is in the literal -/
  lit : ¬ s.phase.idle → ∀ f, BStep.load f f ∈ s.v.pc ∨ s.v.lit.get f = (sh0.ctr s.v.t).get f
  /-- every collector has been visited or is still to be visited -/
  cover : ∀ t ∈ Target.anon :: sh0.names.map .user, t ∈ s.done.map Prod.fst ∨ t ∈ s.phase.pending sh0.names

theorem lone_init (sh0 : Shared) : Lone sh0 sh0 (mkSnap false) where
  ctr := rfl
  names := rfl
  nreset := rfl
  tgt := rfl
  done _ h := absurd h List.not_mem_nil
  pcShape := loadsAll_anon.1
  lit _ f := Or.inl (loadsAll_anon.2 f)
  cover _ h := Or.inr h

/-- the end of a visit (of the anonymous collector: `p = .lockWait`; of a user: `p = .users todo`): the literal
holds the counters of the first pending collector, which passes to the visited ones -/
theorem Lone.visit_end {sh0 sh : Shared} {s : SnapTh} (hl : Lone sh0 sh s) (hpc : s.v.pc = []) (hbusy : ¬ s.phase.idle)
    {p : Phase} (tot : Counters) (hp : p.idle) (htgt : p.target = .anon)
    (hpend : s.phase.pending sh0.names = s.phase.target :: p.pending sh0.names) :
    Lone sh0 sh { s with phase := p, total := tot, done := s.done ++ [(s.v.t, s.v.lit)], v := Visit.idle } where
  ctr := hl.ctr
  names := hl.names
  nreset := hl.nreset
  tgt := htgt.symm
  done e he f := by
    rcases List.mem_append.mp he with he | he
    · exact hl.done e he f
    · cases List.mem_singleton.mp he
      exact (hl.lit hbusy f).resolve_left (hpc ▸ List.not_mem_nil)
  pcShape _ h := absurd h List.not_mem_nil
  lit h := absurd hp h
  cover t ht := by
    rw [List.map_append, List.mem_append, List.map_singleton, List.mem_singleton, hl.tgt]
    rcases hl.cover t ht with h | h
    · exact Or.inl (Or.inl h)
    · rw [hpend] at h
      rcases List.mem_cons.mp h with h | h
      · exact Or.inl (Or.inr h)
      · exact Or.inr h

theorem lone_step {sh0 sh sh' : Shared} {s s' : SnapTh} {order : List String} (hperm : order.Perm sh.names)
    (hl : Lone sh0 sh s) (h : s.step order sh = some (sh', s')) : Lone sh0 sh' s' := by
  have hc := hl.cover
  cases SnapTh.step_rel h with
  | op x rest hpc =>
    obtain ⟨f0, rfl⟩ := loadSame_elim (hl.pcShape x (hpc ▸ List.mem_cons_self))
    refine { hl with pcShape := fun y hy => hl.pcShape y (hpc ▸ List.mem_cons_of_mem _ hy), lit := fun hbusy g => ?_ }
    -- the counter just loaded is in the literal; the others are where they were
    simp only [exec, Counters.get_set]
    by_cases hg : f0 = g
    · subst hg; exact Or.inr (by rw [if_pos rfl, hl.ctr])
    · rw [if_neg hg]
      refine (hl.lit hbusy g).imp_left fun hm => ?_
      rcases List.mem_cons.mp (hpc ▸ hm) with hm | hm
      · cases hm; exact absurd rfl hg
      · exact hm
  | anonEnd hpc hph | userEnd _ _ hpc hph =>
    exact hl.visit_end hpc (hph ▸ not_false) _ trivial rfl (by rw [hph]; rfl)
  | rlock hpc hph =>
    rw [hph] at hc
    refine { hl with tgt := by rw [hl.tgt, hph]; rfl, lit := fun hi => absurd trivial hi, cover := fun t ht => ?_ }
    exact (hc t ht).imp_right ((hl.names ▸ hperm).map Target.user).mem_iff.mpr
  | userBegin u todo hpc hph =>
    rw [hph] at hc
    exact { hl with
      tgt := rfl
      pcShape := hl.nreset ▸ loadsAll_user.1
      lit := fun _ f => Or.inl (hl.nreset ▸ loadsAll_user.2 f)
      cover := hc }
  | runlock hpc hph =>
    rw [hph] at hc
    exact { hl with tgt := by rw [hl.tgt, hph]; rfl, lit := fun hi => absurd trivial hi, cover := hc }

theorem lone_reach (sh0 : Shared) {cfg : Config} (hr : Reach ⟨sh0, [.snap (mkSnap false)]⟩ cfg) :
    ∃ s, cfg.threads = [.snap s] ∧ Lone sh0 cfg.sh s := by
  induction hr with
  | refl => exact ⟨mkSnap false, rfl, lone_init sh0⟩
  | tail _ hstep ih =>
    obtain ⟨s, hth, hl⟩ := ih
    cases hstep with
    | mk pre post th th' sh sh' order hperm hs =>
      -- the pool is a singleton: the thread that steps is `s`
      rcases List.append_eq_singleton_iff.mp hth with ⟨rfl, hth⟩ | ⟨_, hth⟩
      · cases hth
        obtain ⟨s', hs', rfl⟩ := Thread.step_snap.mp hs
        exact ⟨s', rfl, lone_step hperm hl hs'⟩
      · cases hth

theorem Reach.trans {a b c : Config} (h1 : Reach a b) (h2 : Reach b c) : Reach a c := by
  induction h2 with
  | refl => exact h1
  | tail _ hs ih => exact Reach.tail ih hs

theorem Reach.lone_head {sh sh' : Shared} {th th' : Thread} {c : Config}
    (h : Thread.step sh.names sh th = some (sh', th')) (hr : Reach ⟨sh', [th']⟩ c) : Reach ⟨sh, [th]⟩ c :=
  Reach.trans (.tail (.refl _) (Step.mk [] [] th th' sh sh' sh.names (.refl _) h)) hr

theorem runSnap_reach (n : Nat) (sh : Shared) (th : SnapTh) :
    Reach ⟨sh, [.snap th]⟩ ⟨(runSnap n sh th).1, [.snap (runSnap n sh th).2]⟩ := by
  -- the three arms of `runSnap`: out of fuel; a step; the thread has stopped
  fun_induction runSnap n sh th with
  | case1 => exact Reach.refl _
  | case2 n sh th sh' th' h ih => exact Reach.lone_head (Thread.step_snap.mpr ⟨th', h, rfl⟩) ih
  | case3 => exact Reach.refl _

theorem runCollect_reach (n : Nat) (sh : Shared) (th : CollectTh) :
    Reach ⟨sh, [.collect th]⟩ ⟨(runCollect n sh th).1, [.collect (runCollect n sh th).2]⟩ := by
  -- out of fuel; a step; the thread has stopped
  fun_induction runCollect n sh th with
  | case1 => exact Reach.refl _
  | case2 n sh th sh' th' h ih => exact Reach.lone_head (Thread.step_collect.mpr ⟨th', h, rfl⟩) ih
  | case3 => exact Reach.refl _

def userLen (reset : Bool) : Nat := ((snapProg (shapeOf reset).userKind).map (bindStep [])).length

/-- steps a lone snapshot thread still needs after the current visit, `n` = number of user collectors, `P` = atomic
operations of one user visit (`userLen`) -/
def phaseCost (n P : Nat) : Phase → Nat
  | .anon => 1 + 1 + n * (P + 2) + 1
  | .lockWait => 1 + n * (P + 2) + 1
  | .users todo => todo.length * (P + 2) + 1
  | .visiting _ todo => 1 + todo.length * (P + 2) + 1
  | .finished => 0

def stepsLeft (sh : Shared) (th : SnapTh) : Nat :=
  th.v.pc.length + phaseCost sh.names.length (userLen th.reset) th.phase

theorem snap_step_left {sh sh' : Shared} {th th' : SnapTh} (h : th.step sh.names sh = some (sh', th')) :
    stepsLeft sh' th' + 1 = stepsLeft sh th := by
  cases SnapTh.step_rel h with
  | op x rest hpc => simp only [stepsLeft, exec_pc, hpc, List.length_cons]; omega
  | anonEnd hpc hph | userEnd _ _ hpc hph =>
    simp only [stepsLeft, hpc, hph, phaseCost, Visit.idle, List.length_nil]; omega
  | rlock hpc hph => simp only [stepsLeft, hpc, hph, phaseCost, List.length_nil]; omega
  | userBegin u todo hpc hph =>
    simp only [stepsLeft, hpc, hph, phaseCost, userLen, List.length_nil, List.length_cons, Nat.succ_mul]; omega
  | runlock hpc hph => simp only [stepsLeft, hpc, hph, phaseCost, List.length_nil, Nat.zero_mul]

theorem runSnap_finishes (n : Nat) (sh : Shared) (th : SnapTh) (hn : stepsLeft sh th < n) :
    (runSnap n sh th).2.phase = .finished := by
  -- out of fuel (`hn` excludes it); a step; the thread has stopped
  fun_induction runSnap n sh th with
  | case1 => omega
  | case2 n sh th sh' th' h ih => have hm := snap_step_left h; exact ih (by omega)
  | case3 n sh th h => exact SnapTh.step_none h

theorem fuel_suffices (sh : Shared) (reset : Bool) : stepsLeft sh (mkSnap reset) < snapFuel sh := by
  have hall : Field.all.length = 6 := rfl
  have huser : userLen reset = 6 := by cases reset <;> decide
  have hanon : (mkSnap reset).v.pc.length = 6 := by cases reset <;> decide
  simp only [stepsLeft, hanon, show (mkSnap reset).reset = reset from rfl, show (mkSnap reset).phase = .anon from rfl,
    phaseCost, huser, snapFuel, hall]
  omega

end SSV.Stats
