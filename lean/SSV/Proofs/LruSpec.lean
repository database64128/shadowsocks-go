import SSV.Model.Lru
/-
Lemmas about the specification `Lru.Spec`, a recency-ordered association list. What `set` does to
bindings is `SSV.C17.spec_set_find_self`, `spec_set_find_other`.
-/
namespace SSV.Lru
variable {K V : Type} [DecidableEq K]

theorem find_cons (k0 : K) (v : V) (r : Spec K V) (k : K) :
    Spec.find ((k0, v) :: r) k = if k0 = k then some v else Spec.find r k := rfl

theorem find_none_iff (s : Spec K V) (k : K) : Spec.find s k = none ↔ ∀ p ∈ s, p.1 ≠ k := by
  induction s with
  | nil => simp [Spec.find]
  | cons p r ih =>
    obtain ⟨k0, v⟩ := p
    rw [find_cons, List.forall_mem_cons]
    by_cases h : k0 = k
    · simp [h]
    · rw [if_neg h, ih]; exact ⟨fun hr => ⟨h, hr⟩, fun hr => hr.2⟩

theorem find_append (s t : Spec K V) (k : K) :
    Spec.find (s ++ t) k = (Spec.find s k).or (Spec.find t k) := by
  induction s with
  | nil => simp [Spec.find]
  | cons p r ih =>
    obtain ⟨k0, v⟩ := p
    by_cases h : k0 = k <;> simp [find_cons, h, ih]

theorem find_mem (s : Spec K V) (k : K) (v : V) (h : Spec.find s k = some v) : (k, v) ∈ s := by
  induction s with
  | nil => cases h
  | cons p r ih =>
    obtain ⟨k0, v0⟩ := p
    rw [find_cons] at h
    split at h
    · rename_i h0; cases h; subst h0; exact List.mem_cons_self
    · exact List.mem_cons_of_mem _ (ih h)

theorem erase_cons (p : K × V) (r : Spec K V) (k : K) :
    Spec.erase (p :: r) k = if p.1 = k then Spec.erase r k else p :: Spec.erase r k := by
  by_cases h : p.1 = k <;> simp [Spec.erase, h]

theorem mem_erase (s : Spec K V) (k : K) (kv : K × V) (h : kv ∈ Spec.erase s k) : kv ∈ s :=
  (List.mem_filter.mp h).1

theorem find_erase_self (s : Spec K V) (k : K) : Spec.find (Spec.erase s k) k = none := by
  rw [find_none_iff]
  intro p hp
  simpa using (List.mem_filter.mp hp).2

theorem find_erase_ne (s : Spec K V) (k k' : K) (h : k' ≠ k) : Spec.find (Spec.erase s k) k' = Spec.find s k' := by
  induction s with
  | nil => rfl
  | cons p r ih =>
    obtain ⟨k0, v⟩ := p
    rw [erase_cons]
    by_cases h0 : k0 = k
    · have : ¬ k0 = k' := fun e => h (e.symm.trans h0)
      rw [if_pos h0, find_cons, if_neg this, ih]
    · rw [if_neg h0, find_cons, find_cons, ih]

theorem find_get (s : Spec K V) (k k' : K) : Spec.find (Spec.get s k).1 k' = Spec.find s k' := by
  unfold Spec.get
  cases h : Spec.find s k with
  | none => rfl
  | some v =>
    simp only [Spec.touch, find_append, find_cons]
    by_cases hk : k' = k
    · subst hk; simp [find_erase_self, h]
    · have : ¬ k = k' := fun e => hk e.symm
      simp [find_erase_ne s k k' hk, Spec.find, this]

theorem get_snd (s : Spec K V) (k : K) : (Spec.get s k).2 = Spec.find s k := by
  unfold Spec.get; cases Spec.find s k <;> rfl

theorem mem_get (s : Spec K V) (k : K) (kv : K × V) (h : kv ∈ (Spec.get s k).1) : kv ∈ s := by
  unfold Spec.get at h
  cases hf : Spec.find s k with
  | none => simpa [hf] using h
  | some v =>
    simp only [hf, Spec.touch, List.mem_append, List.mem_singleton] at h
    rcases h with h | h
    · exact mem_erase s k kv h
    · subst h; exact find_mem s k v hf

theorem mem_set (cap : Nat) (s : Spec K V) (k : K) (v : V) (kv : K × V) (h : kv ∈ Spec.set cap s k v) :
    kv ∈ s ∨ kv = (k, v) := by
  unfold Spec.set at h
  cases hf : Spec.find s k with
  | none =>
    simp only [hf, Spec.add, List.mem_append, List.mem_singleton] at h
    rcases h with h | h
    · split at h
      · exact Or.inl (List.mem_of_mem_tail h)
      · exact Or.inl h
    · exact Or.inr h
  | some v0 =>
    simp only [hf, Spec.touch, List.mem_append, List.mem_singleton] at h
    rcases h with h | h
    · exact Or.inl (mem_erase s k kv h)
    · exact Or.inr h

end SSV.Lru
