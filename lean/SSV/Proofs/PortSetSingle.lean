import SSV.Proofs.PortSetRanges
/-
`Count()` counts the set bits (`count_eq`) and `First()` is the least set bit (`firstFrom_spec`); in a bit list with one
set bit a position holds it iff it is the first (`getElem?_eq_true_iff_of_count_one`).
-/
namespace SSV.PortSet

theorem allBits_getElem?_bitAt {ws : Words} (h : WF ws) {q : Nat} (hq : q < 65536) :
    (allBits ws)[q]? = some (bitAt ws q) := by
  rw [allBits_eq_map h, List.getElem?_map, List.getElem?_range' hq, Nat.zero_add, Nat.one_mul]; rfl

theorem onesCount_eq_count : ∀ (f x : Nat), onesCount f x = (bitsOf x f).count true
  | 0, _ => rfl
  | f + 1, x => by
    rw [onesCount, bitsOf, List.count_cons, onesCount_eq_count f (x / 2), Nat.add_comm]
    congr 1
    rcases Nat.mod_two_eq_zero_or_one x with h | h <;> rw [h] <;> rfl

theorem count_foldl : ∀ (ws : Words) (c : Nat),
    ws.foldl (fun c w => c + onesCount 64 w) c = c + (allBits ws).count true
  | [], c => by simp [allBits]
  | w :: rest, c => by
    rw [List.foldl_cons, count_foldl rest, allBits_cons, List.count_append, onesCount_eq_count]
    omega

theorem count_eq (ws : Words) : count ws = (allBits ws).count true := by
  unfold count
  rw [count_foldl]; omega

theorem firstFrom_spec (ws : Words) (i : Nat) (hw : ∀ w ∈ ws, w < 2 ^ 64) (hlen : i + ws.length ≤ 1024)
    (hc : true ∈ allBits ws) :
    ∃ k t, firstFrom i ws = i * 64 + k ∧ allBits ws = List.replicate k false ++ true :: t := by
  fun_induction firstFrom i ws with
  | case1 => exact absurd hc List.not_mem_nil
  | case2 i rest ih =>
    rw [allBits_cons, bitsOf_all_zero 64 0 64 (by decide)] at hc ⊢
    obtain ⟨k, t, hk, ht⟩ := ih (fun x hx => hw x (List.mem_cons_of_mem _ hx)) (by rw [List.length_cons] at hlen; omega)
      ((List.mem_append.mp hc).resolve_left fun h => nomatch List.eq_of_mem_replicate h)
    exact ⟨64 + k, t, by rw [hk]; omega, by rw [ht, ← List.append_assoc, List.replicate_append_replicate]⟩
  | case3 i w rest h0 =>
    have htz := tz_lt_of_ne_zero 64 w h0 (hw w List.mem_cons_self)
    obtain ⟨m, hm⟩ : ∃ m, 64 - trailingZeros 64 w = m + 1 := ⟨64 - trailingZeros 64 w - 1, by omega⟩
    refine ⟨trailingZeros 64 w, bitsOf (w >>> trailingZeros 64 w / 2) m ++ allBits rest, ?_, ?_⟩
    · simp only [u16, blockBits, SSV.Gen.C10.portsetBlockBits]
      rw [List.length_cons] at hlen
      omega
    · rw [allBits_cons, bitsOf_zeros 64 w 64 _ (Nat.le_refl _) (by omega), hm, bitsOf, tz_bit 64 w htz]
      simp

theorem getElem?_eq_true_iff_of_count_one {k : Nat} {t : List Bool} (hc : (List.replicate k false ++ true :: t).count true = 1)
    (p : Nat) : (List.replicate k false ++ true :: t)[p]? = some true ↔ p = k := by
  have ht : true ∉ t := by
    apply List.count_eq_zero.mp
    simpa [List.count_append, List.count_cons, List.count_replicate] using hc
  rcases Nat.lt_trichotomy p k with hlt | rfl | hgt
  · rw [List.getElem?_append_left (by simpa using hlt), List.getElem?_replicate]
    simp only [hlt, ↓reduceIte, Option.some.injEq, Bool.false_eq_true, false_iff]
    omega
  · simp
  · obtain ⟨m, rfl⟩ : ∃ m, p = k + (m + 1) := ⟨p - k - 1, by omega⟩
    rw [List.getElem?_append_right (by simp)]
    simp only [List.length_replicate, Nat.add_sub_cancel_left, List.getElem?_cons_succ]
    exact ⟨fun h => absurd (List.mem_of_getElem? h) ht, fun h => by omega⟩

end SSV.PortSet
