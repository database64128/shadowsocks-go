import SSV.Model.HandshakeHttp
import SSV.Proofs.Decimal
import SSV.Proofs.Split
/-
C07: what `C07.connect_faithful` (conn.ParseAddr ∘ conn.Addr.String) is put together from: net.SplitHostPort on a host without
and with brackets, the decimal port, the dotted quad.
-/
namespace SSV.HS
open SSV SSV.Gen

theorem lastIndexOf_none (c : UInt8) (l : Bytes) (h : c ∉ l) : lastIndexOf c l = none := by
  induction l with
  | nil => rfl
  | cons x xs ih =>
    simp at h
    simp [lastIndexOf, ih h.2, Ne.symm h.1]

theorem lastIndexOf_split (c : UInt8) (h ds : Bytes) (hd : c ∉ ds) :
    lastIndexOf c (h ++ c :: ds) = some h.length := by
  induction h with
  | nil => simp [lastIndexOf, lastIndexOf_none c ds hd]
  | cons x xs ih => simp [lastIndexOf, ih]

theorem indexOfB_split (c : UInt8) (h rest : Bytes) (hh : c ∉ h) :
    indexOfB c (h ++ c :: rest) = some h.length := by
  induction h with
  | nil => simp [indexOfB]
  | cons x xs ih =>
    simp at hh
    simp [indexOfB, Ne.symm hh.1, ih hh.2]

theorem not_mem_of_all_digit (l : Bytes) (h : l.all isDigit = true) (c : UInt8) (hc : isDigit c = false) : c ∉ l := by
  intro hm
  have := List.all_eq_true.mp h c hm
  rw [hc] at this; cases this

theorem splitHostPort_plain (h ds : Bytes) (h1 : COLON ∉ h) (h2 : (91 : UInt8) ∉ h) (h3 : (93 : UInt8) ∉ h)
    (hd : ds.all isDigit = true) : splitHostPort (h ++ [COLON] ++ ds) = some (h, ds) := by
  have d := not_mem_of_all_digit ds hd
  rw [List.append_assoc, List.singleton_append]
  unfold splitHostPort
  rw [lastIndexOf_split COLON h ds (d _ (by decide))]
  have hh : (h ++ COLON :: ds).head? ≠ some 91 := by
    cases h with
    | nil => simp [COLON]
    | cons x xs => simpa using fun (e : x = 91) => h2 (e ▸ List.mem_cons_self)
  have e : (h ++ COLON :: ds).drop (h.length + 1) = ds := by
    rw [show h ++ COLON :: ds = (h ++ [COLON]) ++ ds by simp]; exact List.drop_left' (by simp)
  simp only [hh, if_false]
  -- no bracket in front: the host is what stands before the last colon, and neither rejection test fires
  simp [List.take_left' rfl, e, h1, h2, h3, d _ (show isDigit 91 = false by decide),
    d _ (show isDigit 93 = false by decide), show (91 : UInt8) ≠ COLON by decide, show (93 : UInt8) ≠ COLON by decide]

theorem splitHostPort_bracket (h ds : Bytes) (h2 : (91 : UInt8) ∉ h) (h3 : (93 : UInt8) ∉ h)
    (hd : ds.all isDigit = true) : splitHostPort ([91] ++ h ++ [93, COLON] ++ ds) = some (h, ds) := by
  have d := not_mem_of_all_digit ds hd
  have e1 : [91] ++ h ++ [93, COLON] ++ ds = (91 :: h ++ [93]) ++ COLON :: ds := by simp
  have e2 : [91] ++ h ++ [93, COLON] ++ ds = (91 :: h) ++ 93 :: (COLON :: ds) := by simp
  unfold splitHostPort
  rw [e1, lastIndexOf_split COLON _ ds (d _ (by decide)), ← e1]
  have hi : indexOfB 93 ([91] ++ h ++ [93, COLON] ++ ds) = some (h.length + 1) := by
    rw [e2, indexOfB_split 93 (91 :: h) _ (by simp [h3])]; simp
  simp only [hi]
  -- the first `]` stands right before the last colon, and there is no further bracket on either side
  simp [h2, d _ (show isDigit 91 = false by decide), d _ (show isDigit 93 = false by decide), COLON]

theorem natDecAux_spec (fuel n : Nat) (acc : Bytes) (h : n < fuel) :
    ∃ ds : Bytes, natDecAux fuel n acc = ds ++ acc ∧ ds ≠ [] ∧ ds.all isDigit = true ∧ decVal ds = n := by
  obtain ⟨ds, h1, h2, h3, h4⟩ := decimal_spec (p := natDecAux) (fun _ _ _ => rfl) fuel n acc h
  exact ⟨ds, h1, h2, List.all_eq_true.2 fun c hc => by simpa [isDigit, UInt8.le_iff_toNat_le] using h3 c hc, h4⟩

theorem natDec_spec (n : Nat) : natDec n ≠ [] ∧ (natDec n).all isDigit = true ∧ decVal (natDec n) = n := by
  obtain ⟨ds, h1, h⟩ := natDecAux_spec (n + 1) n [] (by omega)
  rwa [natDec, h1, List.append_nil]

theorem natDec_all (n : Nat) : (natDec n).all isDigit = true := (natDec_spec n).2.1

theorem parsePort_natDec (p : Nat) (h : p < 65536) : parsePort (natDec p) = some p := by
  obtain ⟨h1, h2, h3⟩ := natDec_spec p
  have : (natDec p).isEmpty = false := by simpa using h1
  simp [parsePort, this, h2, h3]; omega

theorem splitOn_eq (c : UInt8) : ∀ xs : Bytes, splitOn c xs = SSV.splitOn c xs
  | [] => rfl
  | x :: xs => by rw [SSV.splitOn, ← splitOn_eq c xs]; rfl

theorem parseV4Field_natDec : ∀ n, n < 256 → parseV4Field (natDec n) = some (u8 n) := by decide +kernel

/-- a digit is none of the characters by which `netip.ParseAddr` tells the address families apart -/
theorem digit_not_special (y : UInt8) (hy : isDigit y = true) : (y == 46 || y == 58 || y == 37) = false := by
  simp only [Bool.or_eq_false_iff, beq_eq_false_iff_ne]
  refine ⟨⟨?_, ?_⟩, ?_⟩ <;> (rintro rfl; revert hy; decide)

theorem find?_dot_after_digits (l rest : Bytes) (h : l.all isDigit = true) :
    (l ++ 46 :: rest).find? (fun c => c == 46 || c == 58 || c == 37) = some 46 := by
  induction l with
  | nil => simp
  | cons x xs ih =>
    simp only [List.all_cons, Bool.and_eq_true] at h
    simp [digit_not_special x h.1, ih h.2]

theorem fmtV4_quad (a b c d : UInt8) :
    fmtV4 [a, b, c, d] = natDec a.toNat ++ 46 :: (natDec b.toNat ++ 46 :: (natDec c.toNat ++ 46 :: natDec d.toNat)) := by
  simp [fmtV4]

theorem parseV4_fmtV4 (a b c d : UInt8) : parseV4 (fmtV4 [a, b, c, d]) = some [a, b, c, d] := by
  have nd : ∀ n, (46 : UInt8) ∉ natDec n := fun n => not_mem_of_all_digit _ (natDec_all n) 46 (by decide)
  unfold parseV4
  simp only [fmtV4_quad, splitOn_eq, splitOn_append_sep, splitOn_no_sep _ _ (nd _), List.cons_append, List.nil_append]
  simp [parseV4Field_natDec _ (UInt8.toNat_lt a), parseV4Field_natDec _ (UInt8.toNat_lt b), parseV4Field_natDec _ (UInt8.toNat_lt c),
    parseV4Field_natDec _ (UInt8.toNat_lt d), u8]

theorem parseIP_fmtV4 (a b c d : UInt8) : parseIP (fmtV4 [a, b, c, d]) = some (false, [a, b, c, d]) := by
  have := find?_dot_after_digits (natDec a.toNat) (natDec b.toNat ++ 46 :: (natDec c.toNat ++ 46 :: natDec d.toNat)) (natDec_all _)
  rw [← fmtV4_quad] at this
  simp [parseIP, this, parseV4_fmtV4]

theorem not_mem_fmtV4 (a b c d x : UInt8) (hx : isDigit x = false) (h46 : x ≠ 46) : x ∉ fmtV4 [a, b, c, d] := by
  rw [fmtV4_quad]
  simp [not_mem_of_all_digit _ (natDec_all _) x hx, h46]

end SSV.HS
