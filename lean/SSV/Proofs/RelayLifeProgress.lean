import SSV.Proofs.RelayLifeThms
import SSV.Proofs.RelayLifeMeasure
/-
C12: global deadlock freedom of the relay once Stop has been called, with the NAT timer and the environment switched off:
in every reachable state in which Stop has been called and has not returned, some goroutine of the relay can make a step
(`Ev.internal`: no client datagram, no datagram from the target, no timer).  Needs the uplink's re-check (F9) and the
initial read deadline (`cfg.recheck`, `cfg.initArms`).
-/
namespace SSV.RelayLife
variable (cfg : Cfg)

theorem inv6_reachable' {s : State} (h : Reachable cfg s) : Inv6 s := (inv_reachable h).inv6

theorem cleanup_enabled_in_crit {s : State} {i : Nat} (hi : i < s.n) (hc : (s.ent i).ipc.inCrit = true) :
    (step cfg s (.cleanup i)).isSome = true := by
  cases hp : (s.ent i).ipc <;> simp [hp, IPc.inCrit] at hc <;> simp [step, hi, hp]
  split <;> simp

theorem iter_can_move {s : State} (hs : s.spc = .iter) : ∃ e, e.internal = true ∧ (step cfg s e).isSome = true := by
  by_cases hall : allB s.n (fun i => !s.inTab i || (s.ent i).visited) = true
  · exact ⟨.stop, rfl, by simp [step, hs, hall]⟩
  · obtain ⟨i, hin, hp⟩ := exists_of_not_allB hall
    simp only [Bool.or_eq_false_iff, Bool.not_eq_false'] at hp
    refine ⟨.stopVisit i, rfl, ?_⟩
    simp only [step, hs, hin, hp.1, hp.2, and_self, if_true]
    split <;> simp

theorem recv_holder_moves {s : State} (hh : s.rpc.holds = true) : ∃ e, e.internal = true ∧ (step cfg s e).isSome = true := by
  cases hrp : s.rpc with
  | hold c => exact ⟨.rProc false, rfl, by simp [step, hrp]⟩
  | unlock => exact ⟨.rUnlock, rfl, by simp [step, hrp]⟩
  | read | wantLock c | done => simp [hrp, RPc.holds] at hh

theorem mutex_holder_moves {s : State} (h : Reachable cfg s) (hm : s.mu ≠ .free) :
    ∃ e, e.internal = true ∧ (step cfg s e).isSome = true := by
  have I := inv1_reachable h
  cases hmu : s.mu with
  | free => exact absurd hmu hm
  | recv => exact recv_holder_moves cfg (I.muR.mp hmu)
  | stop =>
    have hh := I.muS.mp hmu
    cases hsp : s.spc with
    | iter => exact iter_can_move cfg hsp
    | pend i | unlock => exact ⟨.stop, rfl, by simp [step, hsp]⟩
    | idle | dlServer | waitMwg | lock | waitWg | closeSrv | done => simp [hsp, SPc.holds] at hh
  | cleanup j =>
    obtain ⟨hj, hc⟩ := (I.muC j).mp hmu
    exact ⟨.cleanup j, rfl, cleanup_enabled_in_crit cfg hj hc⟩

theorem lock_or_holder_moves {s : State} (h : Reachable cfg s) {e : Ev} (he : e.internal = true)
    (hen : s.mu = .free → (step cfg s e).isSome = true) : ∃ e', e'.internal = true ∧ (step cfg s e').isSome = true := by
  by_cases hf : s.mu = .free
  · exact ⟨e, he, hen hf⟩
  · exact mutex_holder_moves cfg h hf

theorem uplink_can_move {s : State} (h : Reachable cfg s) {i : Nat} (hi : i < s.n) (hp : (s.ent i).ipc = .done)
    (hnf : (s.ent i).finished = false) :
    (step cfg s (.uRecv i 1)).isSome = true ∨ (step cfg s (.uStep i)).isSome = true := by
  have hcl : (s.ent i).chClosed = true := ((inv1_reachable h).closed i hi).mpr (by rw [hp]; rfl)
  cases hu : (s.ent i).upc with
  | none | done => simp [Entry.finished, hp, hu] at hnf
  | recv =>
    by_cases hq : (s.ent i).q = 0
    · right; simp [step, hi, hu, hq, hcl]
    · left; simp [step, hi, hu]; omega
  | send | arm | check | force | closeSock => right; simp [step, hi, hu]

/-- every initialiser call returns (the model's assumption on in-flight work), with either outcome -/
theorem init_always_returns {s : State} {i : Nat} (hi : i < s.n) (hp : 9 ≤ (s.ent i).ipc.rank) (ok : Bool) :
    (step cfg s (.init i ok)).isSome = true := by
  cases hipc : (s.ent i).ipc <;> simp [hipc, IPc.rank] at hp <;> simp [step, hi, hipc]
  split <;> simp

theorem session_can_move (hr : cfg.recheck = true) (ha : cfg.initArms = true) {s : State} (h : Reachable cfg s)
    (hs : s.spc.afterIter = true) {i : Nat} (hin : i < s.n) (hnf : (s.ent i).finished = false) :
    ∃ e, e.internal = true ∧ (step cfg s e).isSome = true := by
  cases hp : (s.ent i).ipc with
  | getClient | newSession | listen | setDl | newPacker | swap | spawn =>
    exact ⟨.init i true, rfl, init_always_returns cfg hin (by rw [hp]; decide) true⟩
  | dProc => exact ⟨.dSend i, rfl, by simp [step, hin, hp]⟩
  | dRead =>
    cases hd : (s.ent i).dl with
    | past => exact ⟨.dTimeout i, rfl, by simp [step, hin, hp, hd]⟩
    | unset => exact absurd hd (downlink_has_deadline cfg ha h hin hp)
    | future =>
      -- Stop's pass is over: the uplink is between its re-arm and its re-force, and moves
      rcases future_deadline_only_rechecking cfg hr h hs hin hp hd with hu | hu <;>
        exact ⟨.uStep i, rfl, by simp [step, hin, hu]⟩
  | cLock => exact lock_or_holder_moves cfg h (e := .cleanup i) rfl fun hf => by simp [step, hin, hp, hf]
  | cClose | cDelete | cUnlock => exact ⟨.cleanup i, rfl, cleanup_enabled_in_crit cfg hin (by rw [hp]; rfl)⟩
  | cDrain => exact ⟨.cleanup i, rfl, by simp [step, hin, hp]⟩
  | done =>
    rcases uplink_can_move cfg h hin hp hnf with hm | hm
    · exact ⟨.uRecv i 1, rfl, hm⟩
    · exact ⟨.uStep i, rfl, hm⟩

theorem stop_progress (hr : cfg.recheck = true) (ha : cfg.initArms = true) {s : State} (h : Reachable cfg s)
    (h1 : s.spc ≠ .idle) (h2 : s.spc ≠ .done) : ∃ e, e.internal = true ∧ (step cfg s e).isSome = true := by
  cases hs : s.spc with
  | idle => exact absurd hs h1
  | done => exact absurd hs h2
  | dlServer | pend i | unlock | closeSrv => exact ⟨.stop, rfl, by simp [step, hs]⟩
  | iter => exact iter_can_move cfg hs
  | waitMwg =>
    cases hrp : s.rpc with
    | done => exact ⟨.stop, rfl, by simp [step, hs, hrp]⟩
    | read =>
      have hsp : s.srvPast = true := (inv6_reachable' cfg h).p1 (by simp [hs, SPc.afterDl])
      exact ⟨.rExit, rfl, by simp [step, hrp, hsp]⟩
    | hold c | unlock => exact recv_holder_moves cfg (by simp [hrp, RPc.holds])
    | wantLock c => exact lock_or_holder_moves cfg h (e := .rLock) rfl fun hf => by simp [step, hrp, hf]
  | lock => exact lock_or_holder_moves cfg h (e := .stop) rfl fun hf => by simp [step, hs, hf]
  | waitWg =>
    by_cases hall : allB s.n (fun i => (s.ent i).finished) = true
    · exact ⟨.stop, rfl, by simp [step, hs, hall]⟩
    · obtain ⟨i, hin, hp⟩ := exists_of_not_allB hall
      exact session_can_move cfg hr ha h (by rw [hs]; rfl) hin hp

theorem not_idle_step {s s' : State} {e : Ev} (hs : step cfg s e = some s') (h : s.spc ≠ .idle) : s'.spc ≠ .idle := by
  obtain ⟨b, st⟩ := step_exists hs
  cases st <;> first | exact h | (simp only [ne_eq, reduceCtorEq, not_false_eq_true])

theorem not_idle_run {s s' : State} (es : List Ev) (hr : run cfg s es = some s') (h : s.spc ≠ .idle) : s'.spc ≠ .idle := by
  induction es generalizing s with
  | nil => simp [run] at hr; subst hr; exact h
  | cons e es ih =>
    simp only [run] at hr
    split at hr
    · next s1 h1 => exact ih hr (not_idle_step cfg h1 h)
    · simp at hr

theorem stop_completes (hr : cfg.recheck = true) (ha : cfg.initArms = true) {s : State} (h : Reachable cfg s)
    (h1 : s.spc ≠ .idle) :
    ∃ es s', (∀ e ∈ es, e.internal = true) ∧ es.length ≤ measure s ∧ run cfg s es = some s' ∧ s'.spc = .done := by
  generalize hm : measure s = m
  induction m using Nat.strongRecOn generalizing s with
  | _ m ih =>
    subst hm
    by_cases h2 : s.spc = .done
    · exact ⟨[], s, by simp, by simp, rfl, h2⟩
    · obtain ⟨e, he, hen⟩ := stop_progress cfg hr ha h h1 h2
      obtain ⟨s1, hs1⟩ := Option.isSome_iff_exists.mp hen
      have hd := measure_decreases cfg h e he hs1
      obtain ⟨es, s', hint, hlen, hrun, hdone⟩ := ih _ hd (Reachable.step e h hs1) (not_idle_step cfg hs1 h1) rfl
      refine ⟨e :: es, s', ?_, ?_, ?_, hdone⟩
      · intro e' he'
        rcases List.mem_cons.mp he' with rfl | h'
        · exact he
        · exact hint e' h'
      · simp only [List.length_cons]; omega
      · simp [run, hs1, hrun]

theorem maximal_run_returns (hr : cfg.recheck = true) (ha : cfg.initArms = true) {s s' : State} (h : Reachable cfg s)
    (h1 : s.spc ≠ .idle) (es : List Ev) (hint : ∀ e ∈ es, e.internal = true) (hrun : run cfg s es = some s')
    (hmax : ∀ e, e.internal = true → step cfg s' e = none) : s'.spc = .done ∧ es.length ≤ measure s := by
  have hb := internal_run_bounded cfg h es hint hrun
  refine ⟨?_, by omega⟩
  by_cases h2 : s'.spc = .done
  · exact h2
  · obtain ⟨e, he, hen⟩ := stop_progress cfg hr ha (reachable_run es h hrun) (not_idle_run cfg es hrun h1) h2
    rw [hmax e he] at hen
    cases hen

end SSV.RelayLife
