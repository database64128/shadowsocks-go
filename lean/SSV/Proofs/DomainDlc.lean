import SSV.Proofs.DomainRoundTrip
/-
The converter's v2fly/dlc reader: on a file made of well-formed entries (`full:` / `domain:` / `keyword:` / `regexp:`
value, optionally one separator byte and `@attribute`) it builds exactly the selected entries: the fold of
`Builder.addRule` over their rules from the empty builder, which is a `TextBuilder`.
-/
namespace SSV.DomainSet

inductive DlcKind where
  | full | domain | keyword | regexp
deriving DecidableEq, Repr

def DlcKind.pre : DlcKind → Str
  | .full => SSV.Gen.C10.dlcFullPrefix
  | .domain => SSV.Gen.C10.dlcDomainPrefix
  | .keyword => SSV.Gen.C10.dlcKeywordPrefix
  | .regexp => SSV.Gen.C10.dlcRegexpPrefix

structure DlcEntry where
  kind : DlcKind
  value : Str
  /-- separator byte and attribute text (after the '@') -/
  attr : Option (UInt8 × Str)

def DlcEntry.tail (e : DlcEntry) : Str :=
  match e.attr with
  | none => []
  | some (sep, a) => sep :: 64 :: a

def DlcEntry.render (e : DlcEntry) : Str := e.kind.pre ++ (e.value ++ e.tail)

/-- `-tag` selection: no tag selects every entry, a tag the entries carrying exactly that attribute -/
def DlcEntry.selected (tag : Str) (e : DlcEntry) : Bool :=
  tag.isEmpty || (match e.attr with | none => false | some (_, a) => a == tag)

/-- entries the reader handles as the format means them: a non-empty value without '@', one separator byte that is not '@' -/
def DlcEntry.WellFormed (e : DlcEntry) : Prop :=
  e.value ≠ [] ∧ (64 : UInt8) ∉ e.value ∧ (∀ sep a, e.attr = some (sep, a) → sep ≠ 64)

/-- the outcome of the prefix switch for a kind and its value -/
def DlcKind.line : DlcKind → Str → DlcLine
  | .full, v => .domain v
  | .domain, v => .suffix v
  | .keyword, v => .keyword v
  | .regexp, v => .regexp v

theorem DlcKind.pre_no_at (k : DlcKind) : (64 : UInt8) ∉ k.pre := by
  cases k <;> decide

theorem DlcKind.pre_head (k : DlcKind) (rest : Str) : (k.pre ++ rest).head? ≠ some hash := by
  cases k <;> simp [DlcKind.pre, SSV.Gen.C10.dlcFullPrefix, SSV.Gen.C10.dlcDomainPrefix, SSV.Gen.C10.dlcKeywordPrefix,
    SSV.Gen.C10.dlcRegexpPrefix, hash]

theorem goSlice_mid (a b c : Str) : goSlice (a ++ (b ++ c)) a.length (a.length + b.length) = some b := by
  unfold goSlice
  have : ¬ a.length > a.length + b.length := by omega
  simp only [this, ↓reduceIte]
  rw [← List.append_assoc, List.take_left' (by simp), List.drop_left' rfl]

open SSV.Gen.C10 in
/-- the four prefixes differ in their first byte -/
theorem dlc_prefix_exclusive (x : Str) :
    dlcFullPrefix.isPrefixOf (dlcDomainPrefix ++ x) = false ∧ dlcFullPrefix.isPrefixOf (dlcKeywordPrefix ++ x) = false
    ∧ dlcDomainPrefix.isPrefixOf (dlcKeywordPrefix ++ x) = false ∧ dlcFullPrefix.isPrefixOf (dlcRegexpPrefix ++ x) = false
    ∧ dlcDomainPrefix.isPrefixOf (dlcRegexpPrefix ++ x) = false ∧ dlcKeywordPrefix.isPrefixOf (dlcRegexpPrefix ++ x) = false :=
  ⟨rfl, rfl, rfl, rfl, rfl, rfl⟩

theorem dlcPick_render (k : DlcKind) (v t : Str) :
    dlcPick (k.pre ++ (v ++ t)) (k.pre.length + v.length) = k.line v := by
  have hs := fun p : Str => goSlice_mid p v t
  have hp : ∀ p : Str, p.isPrefixOf (p ++ (v ++ t)) = true :=
    fun p => List.isPrefixOf_iff_prefix.mpr (List.prefix_append _ _)
  obtain ⟨n1, n2, n3, n4, n5, n6⟩ := dlc_prefix_exclusive (v ++ t)
  cases k <;> simp only [DlcKind.pre, DlcKind.line] <;>
    simp only [dlcPick, hp, hs, n1, n2, n3, n4, n5, n6, Bool.false_eq_true, ↓reduceIte]

theorem dlcLine_no_at (tag l : Str) (hh : l.head? ≠ some hash) (h : (64 : UInt8) ∉ l) :
    dlcLine tag l = if tag.isEmpty then dlcPick l l.length else .skip := by
  have hc : cutAt 64 l = (l, none) := by simpa [cutAt] using cutAt_no_sep_append 64 l [] h
  unfold dlcLine
  simp only [hh, ↓reduceIte, hc, Option.isSome_none, Bool.false_eq_true, false_and]
  by_cases ht : tag.isEmpty = true <;> simp [ht]

theorem dlcLine_at (tag x a : Str) (sep : UInt8) (hh : (x ++ sep :: 64 :: a).head? ≠ some hash)
    (h : (64 : UInt8) ∉ x) (hs : sep ≠ 64) :
    dlcLine tag (x ++ sep :: 64 :: a)
      = if tag.isEmpty ∨ a = tag then dlcPick (x ++ sep :: 64 :: a) x.length else .skip := by
  have hc : cutAt 64 (x ++ sep :: 64 :: a) = (x ++ [sep], some a) := by
    rw [cutAt_no_sep_append 64 x _ h]; simp [cutAt, hs]
  unfold dlcLine
  simp only [hh, ↓reduceIte, hc, Option.isSome_some, true_and, List.length_append, List.length_singleton,
    Nat.add_one_ne_zero, Nat.add_sub_cancel]
  by_cases ht : tag.isEmpty = true
  · simp only [ht, ↓reduceIte, true_or]
  · by_cases ha : a = tag <;> simp [ht, ha]

theorem dlcLine_render (tag : Str) (e : DlcEntry) (hw : e.WellFormed) :
    dlcLine tag e.render = if e.selected tag then e.kind.line e.value else .skip := by
  obtain ⟨_, hat, hsep⟩ := hw
  have hno : (64 : UInt8) ∉ e.kind.pre ++ e.value := fun h =>
    (List.mem_append.mp h).elim (DlcKind.pre_no_at _) hat
  unfold DlcEntry.render DlcEntry.tail DlcEntry.selected
  cases ha : e.attr with
  | none =>
    have hp := dlcPick_render e.kind e.value []
    rw [List.append_nil, ← List.length_append] at hp
    rw [List.append_nil, dlcLine_no_at tag _ (DlcKind.pre_head _ _) hno, hp]
    simp
  | some p =>
    obtain ⟨sep, a⟩ := p
    have hp := dlcPick_render e.kind e.value (sep :: 64 :: a)
    rw [← List.append_assoc, ← List.length_append] at hp
    rw [← List.append_assoc, dlcLine_at tag _ a sep (by rw [List.append_assoc]; exact DlcKind.pre_head _ _) hno (hsep sep a ha), hp]
    simp

/-- what the reader builds from a list of entries -/
def addEntries (tag : Str) (b : Builder) : List DlcEntry → Builder
  | [] => b
  | e :: es =>
    if e.selected tag then
      (match e.kind with
       | .full => addEntries tag { b with domains := b.domains.insert e.value } es
       | .domain => addEntries tag { b with suffixes := b.suffixes.insert e.value } es
       | .keyword => addEntries tag { b with keywords := b.keywords ++ [e.value] } es
       | .regexp => addEntries tag { b with regexps := b.regexps ++ [e.value] } es)
    else addEntries tag b es

theorem addDlcLines_entries (tag : Str) : ∀ (es : List DlcEntry) (b : Builder), (∀ e ∈ es, e.WellFormed) →
    addDlcLines tag b (es.map DlcEntry.render) = .ok (addEntries tag b es)
  | [], b, _ => rfl
  | e :: es, b, h => by
    have ih := fun b' => addDlcLines_entries tag es b' (fun x hx => h x (by simp [hx]))
    rw [List.map_cons, addDlcLines, dlcLine_render tag e (h e (by simp))]
    unfold addEntries
    by_cases hs : e.selected tag = true
    · simp only [hs, ↓reduceIte]
      cases e.kind <;> simp only [DlcKind.line, ih]
    · simp only [hs, Bool.false_eq_true, ↓reduceIte, ih]

/-- what one entry denotes -/
def DlcEntry.matches (re : Str → Str → Bool) (e : DlcEntry) (d : Str) : Bool :=
  match e.kind with
  | .full => d == e.value
  | .domain => matchDomainSuffix d e.value
  | .keyword => containsSub d e.value
  | .regexp => re e.value d

/-- the rule an entry stands for, in the terms of the text format -/
def DlcEntry.toRule (e : DlcEntry) : Line :=
  match e.kind with
  | .full => .domain e.value
  | .domain => .suffix e.value
  | .keyword => .keyword e.value
  | .regexp => .regexp e.value

theorem DlcEntry.matches_toRule (re : Str → Str → Bool) (e : DlcEntry) (d : Str) :
    e.toRule.matches re d = e.matches re d := by
  unfold DlcEntry.toRule DlcEntry.matches
  cases e.kind <;> rfl

theorem addEntries_eq (tag : Str) (es : List DlcEntry) (b : Builder) :
    addEntries tag b es = ((es.filter (DlcEntry.selected tag)).map DlcEntry.toRule).foldl Builder.addRule b := by
  fun_induction addEntries tag b es <;> simp [*, DlcEntry.toRule, Builder.addRule]

/-- the dlc file made of the entries' lines, each terminated by LF -/
def dlcText (es : List DlcEntry) : Str := (es.map DlcEntry.render).flatMap (fun l => l ++ [LF])

theorem builderFromDlc_entries (tag : Str) (es : List DlcEntry) (hw : ∀ e ∈ es, e.WellFormed)
    (hs : ∀ e ∈ es, lineSafe e.render = true) :
    builderFromDlc tag (dlcText es) = .ok (addEntries tag Builder.emptyText es) := by
  unfold builderFromDlc dlcText
  rw [nonEmptyLines_of_safe _ (by
    intro l hl
    obtain ⟨e, he, rfl⟩ := List.mem_map.mp hl
    exact hs e he)]
  exact addDlcLines_entries tag es _ hw

theorem addEntries_textBuilder (tag : Str) (es : List DlcEntry) (b : Builder) (hb : TextBuilder b)
    (hv : ∀ e ∈ es, lineSafe e.value = true) : TextBuilder (addEntries tag b es) := by
  rw [addEntries_eq]
  refine hb.foldl_addRule _ fun ln hln => ?_
  obtain ⟨e, he, rfl⟩ := List.mem_map.mp hln
  have := hv e (List.mem_filter.mp he).1
  unfold DlcEntry.toRule
  cases e.kind <;> exact this

end SSV.DomainSet
