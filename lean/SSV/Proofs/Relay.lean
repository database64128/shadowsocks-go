import SSV.Model.Relay
/-
The relay transition system (SSV/Model/Relay.lean) step by step. A step that changes the state is ONE arm of ONE session
(`Arm`: its guard, read in the state before; the session afterwards, its packer's cache afterwards and what it appends
to each log, all as indices, so that what an invariant needs of a step is a lemma about `Arm` in which no successor
state occurs) together with the frame (`Touch`: every other session, every other packer's cache and the old log entries
stay). `step_elim`: every action is such a step or changes nothing. `Touch` does not determine the successor state:
it is silent about `qdrop`; of the table it only says that an entry is an old one or the new session's (which old
entries a clean-up drops is not said); the caches are given pointwise. That is what the invariants need
(`run_preserves`); it is not a way to compute `step`.
-/
namespace SSV.Relay

theorem enqueue_eq (cfg : Config) (s : Sess) (q : Pkt) :
    enqueue cfg s q = { s with queue := s.queue ++ if s.queue.length < cfg.cap then [q] else [] } := by
  unfold enqueue; split <;> simp

theorem updF_self {α : Type} {f : Nat → α} {i : Nat} {v : α} (h : f i = v) : updF f i v = f := by
  funext j
  by_cases e : j = i
  · rw [e, updF_same, h]
  · rw [updF_other _ _ _ _ e]

theorem table_updF {t : Nat → Option Nat} {k n k' i : Nat} (h : updF t k (some n) k' = some i) :
    t k' = some i ∨ (i = n ∧ k = k') := by
  by_cases e : k' = k
  · rw [e, updF_same] at h; exact .inr ⟨(Option.some.inj h).symm, e.symm⟩
  · rw [updF_other _ _ _ _ e] at h; exact .inl h

theorem table_closeSess (st : State) (sid : Nat) (s : Sess) (k : Key) (i : Nat)
    (h : (closeSess st sid s).table k = some i) : st.table k = some i := by
  simp only [closeSess] at h
  split at h
  · cases h
  · exact h

/-- `a` is a step of the uplink goroutine of `sid` (or of the resolver on its behalf) whose guard holds in `st` -/
def enabledUpB (st : State) (sid : Nat) : Act → Bool
  | .take i => i == sid && (match st.sess i with
      | some s => s.started && s.pc == .idle && !s.queue.isEmpty | none => false)
  | .packErr i => i == sid && (match st.sess i with
      | some s => s.started && s.pc == .idle && !s.queue.isEmpty | none => false)
  | .resolved i _ => i == sid && (match st.sess i with
      | some s => (match s.pc with | .resolving _ _ => true | _ => false) | none => false)
  | .storeIP i => i == sid && (match st.sess i with
      | some s => (match s.pc with | .storedDomain _ _ => true | _ => false) | none => false)
  | .readSend i => i == sid && (match st.sess i with
      | some s => (match s.pc with | .storedIP _ => true | _ => false) | none => false)
  | _ => false

/-- the session whose uplink (or resolver) an action belongs to -/
def actSid : Act → Option Nat
  | .take i => some i
  | .packErr i => some i
  | .resolved i _ => some i
  | .storeIP i => some i
  | .readSend i => some i
  | _ => none

/-- what one arm appends to the logs, without the session tag -/
structure Out where
  recvd : List (Addr × Pkt) := []
  answers : List (Dom × IP) := []
  sent : List (Pkt × IP × Nat) := []
  replies : List Reply := []
  enq : List Pkt := []
  fate : List (Pkt × Fate) := []

structure Touch (cfg : Config) (st st' : State) (sid : Nat) (os : Option Sess) (s' : Sess) (c' : Cache) (o : Out) : Prop where
  old : ∀ s, os = some s → st.sess sid = some s
  next : st.next ≤ st'.next
  new : os = none → st.next ≤ sid ∧ sid < st'.next
  sess : st'.sess = updF st.sess sid (some s')
  cacheAt : st'.cache (cfg.packerOf sid) = c'
  cacheOther : ∀ p, p ≠ cfg.packerOf sid → st'.cache p = st.cache p
  table : ∀ k i, st'.table k = some i → st.table k = some i ∨ (i = sid ∧ s'.key = k)
  recvd : st'.recvd = st.recvd ++ o.recvd.map (fun x => (sid, x))
  answers : st'.answers = st.answers ++ o.answers
  sent : st'.sent = st.sent ++ o.sent.map (fun x => ⟨sid, x.1, x.2.1, x.2.2⟩)
  replies : st'.replies = st.replies ++ o.replies
  enq : st'.enq = st.enq ++ o.enq.map (fun x => (sid, x))
  fate : st'.fate = st.fate ++ o.fate.map (fun x => (sid, x))

section
variable {cfg : Config} {st st' : State} {sid : Nat} {os : Option Sess} {s' : Sess} {c' : Cache} {o : Out}

theorem Touch.sess_at (ht : Touch cfg st st' sid os s' c' o) : st'.sess sid = some s' := by rw [ht.sess, updF_same]

theorem Touch.sess_other (ht : Touch cfg st st' sid os s' c' o) {i : Nat} (hne : i ≠ sid) : st'.sess i = st.sess i := by
  rw [ht.sess, updF_other _ _ _ _ hne]

theorem Touch.sess_cases (ht : Touch cfg st st' sid os s' c' o) {i : Nat} {s : Sess} (hs : st'.sess i = some s) :
    (i = sid ∧ s = s') ∨ (i ≠ sid ∧ st.sess i = some s) := by
  by_cases he : i = sid
  · rw [he, ht.sess_at] at hs; exact .inl ⟨he, (Option.some.inj hs).symm⟩
  · rw [ht.sess_other he] at hs; exact .inr ⟨he, hs⟩

/-- session ids are handed out in order, so the session a `recv` creates did not exist -/
theorem Touch.sess_before (ht : Touch cfg st st' sid os s' c' o) (hf : ∀ i s, st.sess i = some s → i < st.next) :
    st.sess sid = os := by
  cases os with
  | some s => exact ht.old s rfl
  | none =>
    cases h : st.sess sid with
    | none => rfl
    | some s => exact absurd (hf _ _ h) (Nat.not_lt.2 (ht.new rfl).1)

theorem Touch.fresh (ht : Touch cfg st st' sid os s' c' o) (hf : ∀ i s, st.sess i = some s → i < st.next) :
    ∀ i s, st'.sess i = some s → i < st'.next := by
  intro i s hs
  rcases ht.sess_cases hs with ⟨rfl, _⟩ | ⟨_, hs⟩
  · cases os with
    | some s0 => exact Nat.lt_of_lt_of_le (hf _ _ (ht.old s0 rfl)) ht.next
    | none => exact (ht.new rfl).2
  · exact Nat.lt_of_lt_of_le (hf _ _ hs) ht.next

end

inductive Arm (cfg : Config) (st : State) (sid : Nat) : Option Sess → Act → Sess → Cache → Out → Prop
  | recvOld {k : Key} {src : Addr} {q : Pkt} {s : Sess} :
      ¬ (cfg.byAddr && k != src) = true → st.table k = some sid →
      Arm cfg st sid (some s) (.recv k src (some q)) { s with clientAddr := src, queue := s.queue ++ if s.queue.length < cfg.cap then [q] else [] }
        (st.cache (cfg.packerOf sid))
        { recvd := [(src, q)], enq := if s.queue.length < cfg.cap then [q] else [] }
  | recvNew {k : Key} {src : Addr} {q : Pkt} : ¬ (cfg.byAddr && k != src) = true →
      Arm cfg st sid none (.recv k src (some q)) { newSess k src with queue := if 0 < cfg.cap then [q] else [] }
        (st.cache (cfg.packerOf sid)) { recvd := [(src, q)], enq := if 0 < cfg.cap then [q] else [] }
  | recvEmpty {k : Key} {src : Addr} : ¬ (cfg.byAddr && k != src) = true → cfg.insertFirst = true →
      Arm cfg st sid none (.recv k src none) (newSess k src) (st.cache (cfg.packerOf sid)) {}
  | initOk {s : Sess} : s.started = false → s.closed = false →
      Arm cfg st sid (some s) (.initOk sid) { s with started := true } (st.cache (cfg.packerOf sid)) {}
  | initFail {s : Sess} : s.started = false → s.closed = false →
      Arm cfg st sid (some s) (.initFail sid) { s with queue := [], closed := true } (st.cache (cfg.packerOf sid))
        { fate := s.queue.map (fun q => (q, Fate.notStarted)) }
  | evict {s : Sess} : s.started = true → s.closed = false →
      Arm cfg st sid (some s) (.evict sid) { s with closed := true } (st.cache (cfg.packerOf sid)) {}
  | takeUp {s : Sess} {q : Pkt} {rest : List Pkt} {a : IP} {p : Nat} :
      s.started = true → s.pc = .idle → s.queue = q :: rest → cfg.upstream = some (a, p) →
      Arm cfg st sid (some s) (.take sid) { s with queue := rest } (st.cache (cfg.packerOf sid))
        { sent := [(q, a, p)], fate := [(q, .sent a p)] }
  | takeIp {s : Sess} {q : Pkt} {rest : List Pkt} {a : IP} {p : Nat} :
      s.started = true → s.pc = .idle → s.queue = q :: rest → cfg.upstream = none → q.target = .ip a p →
      Arm cfg st sid (some s) (.take sid) { s with queue := rest } (st.cache (cfg.packerOf sid))
        { sent := [(q, a, p)], fate := [(q, .sent a p)] }
  | takeHit {s : Sess} {q : Pkt} {rest : List Pkt} {d : Dom} {port : Nat} :
      s.started = true → s.pc = .idle → s.queue = q :: rest → cfg.upstream = none → q.target = .dom d port →
      (st.cache (cfg.packerOf sid)).dom = some d →
      Arm cfg st sid (some s) (.take sid) { s with queue := rest, pc := .storedIP q } (st.cache (cfg.packerOf sid)) {}
  | takeMiss {s : Sess} {q : Pkt} {rest : List Pkt} {d : Dom} {port : Nat} :
      s.started = true → s.pc = .idle → s.queue = q :: rest → cfg.upstream = none → q.target = .dom d port →
      (st.cache (cfg.packerOf sid)).dom ≠ some d →
      Arm cfg st sid (some s) (.take sid) { s with queue := rest, pc := .resolving q d } (st.cache (cfg.packerOf sid)) {}
  | packErr {s : Sess} {q : Pkt} {rest : List Pkt} : s.started = true → s.pc = .idle → s.queue = q :: rest →
      Arm cfg st sid (some s) (.packErr sid) { s with queue := rest } (st.cache (cfg.packerOf sid))
        { fate := [(q, .packFailed)] }
  | resolvedOk {s : Sess} {q : Pkt} {d : Dom} {ip : IP} : s.pc = .resolving q d →
      Arm cfg st sid (some s) (.resolved sid (some ip)) { s with pc := .storedDomain q ip }
        { st.cache (cfg.packerOf sid) with dom := some d } { answers := [(d, ip)] }
  | resolvedFail {s : Sess} {q : Pkt} {d : Dom} : s.pc = .resolving q d →
      Arm cfg st sid (some s) (.resolved sid none) { s with pc := .idle } (st.cache (cfg.packerOf sid))
        { fate := [(q, .resolveFailed)] }
  | storeIP {s : Sess} {q : Pkt} {ip : IP} : s.pc = .storedDomain q ip →
      Arm cfg st sid (some s) (.storeIP sid) { s with pc := .storedIP q } { st.cache (cfg.packerOf sid) with ip := ip } {}
  | readSend {s : Sess} {q : Pkt} : s.pc = .storedIP q →
      Arm cfg st sid (some s) (.readSend sid) { s with pc := .idle } (st.cache (cfg.packerOf sid))
        { sent := [(q, (st.cache (cfg.packerOf sid)).ip, q.target.port)],
          fate := [(q, .sent (st.cache (cfg.packerOf sid)).ip q.target.port)] }
  | down {s : Sess} {src : IP × Nat} {pl : Payload} : s.started = true → s.closed = false →
      Arm cfg st sid (some s) (.down sid (some (src, pl))) s (st.cache (cfg.packerOf sid))
        { replies := [⟨sid, s.clientAddr, if cfg.carriesSource then some src else none, src, pl, st.recvd.length⟩] }

theorem Arm.new_session {cfg : Config} {st : State} {sid : Nat} {a : Act} {s' : Sess} {c' : Cache} {o : Out}
    (ha : Arm cfg st sid none a s' c' o) : c' = st.cache (cfg.packerOf sid) ∧ s'.pc = .idle ∧ o.sent = [] ∧
      o.answers = [] ∧ o.fate = [] ∧ o.enq = s'.queue ∧ actSid a = none := by
  cases ha <;> simp [newSess, actSid]

theorem Touch.existing {cfg : Config} {st st' : State} {sid : Nat} {s s' : Sess} {c' : Cache} {o : Out} {T : Key → Option Nat}
    (hs : st.sess sid = some s) (hT : ∀ k i, T k = some i → st.table k = some i)
    (h : st' = { st with
      table := T
      sess := updF st.sess sid (some s')
      cache := updF st.cache (cfg.packerOf sid) c'
      recvd := st.recvd ++ o.recvd.map (fun x => (sid, x))
      sent := st.sent ++ o.sent.map (fun x => ⟨sid, x.1, x.2.1, x.2.2⟩)
      replies := st.replies ++ o.replies
      answers := st.answers ++ o.answers
      enq := st.enq ++ o.enq.map (fun x => (sid, x))
      qdrop := st'.qdrop
      fate := st.fate ++ o.fate.map (fun x => (sid, x)) }) :
    Touch cfg st st' sid (some s) s' c' o := by
  rw [h]
  constructor
  case table => exact fun k i h => .inl (hT k i h)
  all_goals simp +contextual [hs, updF_other]

theorem idle_guard {s : Sess} : (s.started && s.pc == .idle) = true ↔ s.started = true ∧ s.pc = .idle := by simp

theorem step_elim {cfg : Config} {st : State} {a : Act} {P : State → Prop}
    (noop : (∀ sid, enabledUpB st sid a = false) → P st)
    (arm : ∀ {st' sid os s' c' o}, Arm cfg st sid os a s' c' o → Touch cfg st st' sid os s' c' o → P st') :
    P (step cfg st a) := by
  -- the cases come in the source order of `step` and of each action's function; `next` names the hypotheses from the end
  -- of the context, where a `_` stands for a `let` of the model (`{ setSess … with … }`), hence `+zetaDelta`
  fun_cases step cfg st a
  next k src res =>
    fun_cases recv cfg st k src res
    next => -- source is not the key
      exact noop fun _ => rfl
    next hg sid ht s q hs _ _ =>
      exact arm (.recvOld hg ht) (.existing hs (fun _ _ h => h)
        (by simp +zetaDelta [setSess, enqueue_eq, updF_self, apply_ite (HAppend.hAppend _), apply_ite (List.map _)]))
    next => -- dangling entry or garbage
      exact noop fun _ => rfl
    next hg _ q _ =>
      refine arm (sid := st.next) (.recvNew hg) ?_
      constructor
      case table => exact fun _ _ h => table_updF h
      all_goals simp +zetaDelta [enqueue_eq, newSess, apply_ite (HAppend.hAppend _), apply_ite (List.map _)]
    next hg _ hi _ =>
      refine arm (sid := st.next) (.recvEmpty hg hi) ?_
      constructor
      case table => exact fun _ _ h => table_updF h
      all_goals simp +zetaDelta
    next => -- garbage, insert comes later
      exact noop fun _ => rfl
  next sid =>
    fun_cases initOk st sid
    next s hs hg =>
      have hg : s.started = false ∧ s.closed = false := by simpa using hg
      exact arm (.initOk hg.1 hg.2) (.existing hs (fun _ _ h => h) (by simp +zetaDelta [setSess, updF_self]))
    next => -- guard false
      exact noop fun _ => rfl
    next => -- no such session
      exact noop fun _ => rfl
  next sid =>
    fun_cases initFail st sid
    next s hs hg _ =>
      have hg : s.started = false ∧ s.closed = false := by simpa using hg
      exact arm (.initFail hg.1 hg.2) (.existing hs (table_closeSess st sid { s with queue := [] })
        (by simp +zetaDelta [setSess, closeSess, updF_self, Function.comp_def]))
    next => -- guard false
      exact noop fun _ => rfl
    next => -- no such session
      exact noop fun _ => rfl
  next sid =>
    fun_cases take cfg st sid
    next s hs hg hq => exact noop fun _ => by simp [enabledUpB, hs, hq]
    next s hs hg q rest hq a p hup _ =>
      have hg := idle_guard.1 hg
      exact arm (.takeUp hg.1 hg.2 hq hup) (.existing hs (fun _ _ h => h) (by simp +zetaDelta [setSess, updF_self]))
    next s hs hg q rest hq hup a p htg _ =>
      have hg := idle_guard.1 hg
      exact arm (.takeIp hg.1 hg.2 hq hup htg) (.existing hs (fun _ _ h => h) (by simp +zetaDelta [setSess, updF_self]))
    next s hs hg q rest hq hup d port htg hh =>
      have hg := idle_guard.1 hg
      exact arm (.takeHit hg.1 hg.2 hq hup htg (by simpa using hh))
        (.existing hs (fun _ _ h => h) (by simp +zetaDelta [setSess, updF_self]))
    next s hs hg q rest hq hup d port htg hh =>
      have hg := idle_guard.1 hg
      exact arm (.takeMiss hg.1 hg.2 hq hup htg (by simpa using hh))
        (.existing hs (fun _ _ h => h) (by simp +zetaDelta [setSess, updF_self]))
    next s hs hg => exact noop fun _ => by simp [enabledUpB, hs, Bool.eq_false_iff.2 hg]
    next hs => exact noop fun _ => by simp [enabledUpB, hs]
  next sid =>
    fun_cases packErr st sid
    next s hs hg hq => exact noop fun _ => by simp [enabledUpB, hs, hq]
    next s hs hg q rest hq _ =>
      have hg := idle_guard.1 hg
      exact arm (.packErr hg.1 hg.2 hq) (.existing hs (fun _ _ h => h) (by simp +zetaDelta [setSess, updF_self]))
    next s hs hg => exact noop fun _ => by simp [enabledUpB, hs, Bool.eq_false_iff.2 hg]
    next hs => exact noop fun _ => by simp [enabledUpB, hs]
  next sid ans =>
    fun_cases resolved cfg st sid ans
    next s hs q d ip hpc _ _ => exact arm (.resolvedOk hpc) (.existing hs (fun _ _ h => h) (by simp +zetaDelta [setSess]))
    next s hs q d hpc _ =>
      exact arm (.resolvedFail hpc) (.existing hs (fun _ _ h => h) (by simp +zetaDelta [setSess, updF_self]))
    next s hs h1 h2 =>
      refine noop fun _ => ?_
      cases hpc : s.pc with
      | resolving q d =>
        cases ans with
        | none => exact (h2 q d hpc rfl).elim
        | some ip => exact (h1 q d ip hpc rfl).elim
      | _ => simp [enabledUpB, hs, hpc]
    next hs => exact noop fun _ => by simp [enabledUpB, hs]
  next sid =>
    fun_cases storeIP cfg st sid
    next s hs q ip hpc _ _ => exact arm (.storeIP hpc) (.existing hs (fun _ _ h => h) (by simp +zetaDelta [setSess]))
    next s hs h =>
      refine noop fun _ => ?_
      cases hpc : s.pc with
      | storedDomain q ip => exact (h q ip hpc).elim
      | _ => simp [enabledUpB, hs, hpc]
    next hs => exact noop fun _ => by simp [enabledUpB, hs]
  next sid =>
    fun_cases readSend cfg st sid
    next s hs q hpc _ =>
      exact arm (.readSend hpc) (.existing hs (fun _ _ h => h) (by simp +zetaDelta [setSess, updF_self]))
    next s hs h =>
      refine noop fun _ => ?_
      cases hpc : s.pc with
      | storedIP q => exact (h q hpc).elim
      | _ => simp [enabledUpB, hs, hpc]
    next hs => exact noop fun _ => by simp [enabledUpB, hs]
  next sid res =>
    fun_cases down cfg st sid res
    next s src pl hs hg =>
      have hg : s.started = true ∧ s.closed = false := by simpa using hg
      exact arm (.down hg.1 hg.2) (.existing hs (fun _ _ h => h) (by simp [updF_self, hs]))
    next => -- guard false
      exact noop fun _ => rfl
    next => -- no session or garbage
      exact noop fun _ => rfl
  next sid =>
    fun_cases evict st sid
    next s hs hg =>
      have hg : s.started = true ∧ s.closed = false := by simpa using hg
      exact arm (.evict hg.1 hg.2) (.existing hs (table_closeSess st sid s) (by simp [setSess, closeSess, updF_self]))
    next => -- guard false
      exact noop fun _ => rfl
    next => -- no such session
      exact noop fun _ => rfl

theorem run_preserves {cfg : Config} {P : State → Prop}
    (h : ∀ st a st' sid os s' c' o, P st → Arm cfg st sid os a s' c' o → Touch cfg st st' sid os s' c' o → P st')
    (acts : List Act) {st : State} (h0 : P st) : P (run cfg st acts) := by
  induction acts generalizing st with
  | nil => exact h0
  | cons a rest ih => exact ih (step_elim (fun _ => h0) fun ha ht => h _ _ _ _ _ _ _ _ h0 ha ht)

end SSV.Relay
