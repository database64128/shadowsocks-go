import SSV.Model.DomainSet
import SSV.Proofs.Split
/-
Suffix matching: `matchDomainSuffix`, the linear / map matchers and the trie decide the same language
"the domain equals a rule or ends with '.' ++ rule"; trie insertion order is irrelevant. Keyword matching is
substring search (`containsSub_iff`).
-/
namespace SSV.DomainSet

-- found once: the search through core's `LawfulBEq` instances is dear, and `beq_iff_eq` / `List.contains_iff_mem` on bytes
-- and byte strings ask for these two throughout the C10 proofs
instance : LawfulBEq UInt8 := inferInstance
instance : LawfulBEq Str := inferInstance

/-- the declarative meaning of one suffix rule: equality or a suffix on a label boundary -/
def SuffixOf (r d : Str) : Prop := d = r ∨ (dot :: r) <:+ d

theorem matchDomainSuffix_iff (d s : Str) : matchDomainSuffix d s = true ↔ SuffixOf s d := by
  unfold matchDomainSuffix SuffixOf
  simp only [Bool.or_eq_true, beq_iff_eq, Bool.and_eq_true, decide_eq_true_eq]
  constructor
  · rintro (h | ⟨⟨hlen, hdot⟩, hdrop⟩)
    · exact Or.inl h
    · right
      obtain ⟨hn, hdot'⟩ := List.getElem?_eq_some_iff.mp hdot
      refine ⟨d.take (d.length - s.length - 1), ?_⟩
      have h1 := List.drop_eq_getElem_cons hn
      rw [Nat.sub_add_cancel (Nat.sub_pos_of_lt hlen), hdrop, hdot'] at h1
      rw [← h1, List.take_append_drop]
  · rintro (h | ⟨t, ht⟩)
    · exact Or.inl h
    · right
      subst ht
      have e : (t ++ dot :: s).length - s.length = t.length + 1 := by simp; omega
      rw [e]
      simp
      omega

theorem suffixLinearMatch_iff (rs : List Str) (d : Str) : suffixLinearMatch rs d = true ↔ ∃ r ∈ rs, SuffixOf r d := by
  unfold suffixLinearMatch
  simp only [List.any_eq_true, matchDomainSuffix_iff]

theorem suffixLinearMatch_congr {l l' : List Str} (h : ∀ r, r ∈ l ↔ r ∈ l') (d : Str) :
    suffixLinearMatch l d = suffixLinearMatch l' d := by
  rw [Bool.eq_iff_iff]
  simp only [suffixLinearMatch, List.any_eq_true, h]

theorem suffixLinearMatch_insert {l l' : List Str} {r : Str} (h : ∀ x, x ∈ l' ↔ x ∈ l ∨ x = r) (d : Str) :
    suffixLinearMatch l' d = (suffixLinearMatch l d || matchDomainSuffix d r) := by
  rw [Bool.eq_iff_iff]
  simp only [suffixLinearMatch, List.any_eq_true, Bool.or_eq_true, h, or_and_right, exists_or, exists_eq_left]

theorem mem_afterDots (d t : Str) : t ∈ afterDots d ↔ (dot :: t) <:+ d := by
  fun_induction afterDots d
  case case1 => simp
  -- a dot: what follows it is one more suffix; any other byte is none
  case case2 ih => rw [List.suffix_cons_iff, List.mem_cons, ih, List.cons.injEq, eq_self, true_and]
  case case3 hc ih =>
    rw [List.suffix_cons_iff, ih, List.cons.injEq]
    exact ⟨Or.inr, fun h => h.elim (fun h => absurd h.1.symm hc) id⟩

theorem suffixMapMatch_eq (m : List Str) (d : Str) : suffixMapMatch m d = suffixLinearMatch m d := by
  rw [Bool.eq_iff_iff, suffixLinearMatch_iff]
  unfold suffixMapMatch SuffixOf
  simp only [Bool.or_eq_true, List.any_eq_true, List.contains_iff_mem, mem_afterDots]
  constructor
  · rintro (⟨t, ht, htm⟩ | h)
    · exact ⟨t, htm, Or.inr ht⟩
    · exact ⟨d, h, Or.inl rfl⟩
  · rintro ⟨r, hr, rfl | h⟩
    · exact Or.inr hr
    · exact Or.inl ⟨r, h, hr⟩

theorem mem_mapInsert (m : List Str) (r x : Str) : x ∈ mapInsert m r ↔ x ∈ m ∨ x = r := by
  fun_cases mapInsert m r
  -- `r` is a key already
  case case1 h => exact ⟨Or.inl, fun h' => h'.elim id (· ▸ List.contains_iff_mem.mp h)⟩
  case case2 => rw [List.mem_append, List.mem_singleton]

theorem foldl_or {α β : Type} {ins : β → α → β} {P : β → Prop} {Q : α → Prop}
    (h : ∀ b r, P (ins b r) ↔ P b ∨ Q r) (rs : List α) : ∀ b, P (rs.foldl ins b) ↔ P b ∨ ∃ r ∈ rs, Q r := by
  induction rs with
  | nil => simp
  | cons r rs ih => intro b; rw [List.foldl_cons, ih, h, or_assoc]; simp

theorem mem_foldl_mapInsert (rs m : List Str) (x : Str) : x ∈ rs.foldl mapInsert m ↔ x ∈ m ∨ x ∈ rs := by
  simpa using foldl_or (P := (x ∈ ·)) (Q := (x = ·)) (fun m r => mem_mapInsert m r x) rs m

theorem labels_suffix_iff (r d : Str) : splitOn dot r <:+ splitOn dot d ↔ SuffixOf r d := by
  unfold SuffixOf
  constructor
  · rintro ⟨pre, hpre⟩
    have := congrArg (joinWith dot) hpre
    cases pre with
    | nil =>
      left
      simp only [List.nil_append, joinWith_splitOn] at this
      exact this.symm
    | cons p ps =>
      right
      rw [joinWith_append dot _ _ (by simp) (splitOn_ne_nil dot r), joinWith_splitOn, joinWith_splitOn] at this
      exact ⟨joinWith dot (p :: ps), this⟩
  · rintro (rfl | ⟨t, rfl⟩)
    · exact List.suffix_refl _
    · rw [splitOn_append_sep]
      exact List.suffix_append _ _

theorem labelsRev_prefix_iff (r d : Str) : (labelsRev r).isPrefixOf (labelsRev d) = true ↔ SuffixOf r d := by
  unfold labelsRev
  rw [List.isPrefixOf_iff_prefix, List.reverse_prefix, labels_suffix_iff]

theorem labelsRev_ne_nil (r : Str) : labelsRev r ≠ [] := by
  unfold labelsRev
  simp [splitOn_ne_nil]

theorem Children.lookup_set : ∀ (cs : Children) (s : Str) (t : Trie) (s' : Str),
    (cs.set s t).lookup s' = if s = s' then some t else cs.lookup s'
  | .nil, s, t, s' => by simp [Children.set, Children.lookup]
  | .cons k u rest, s, t, s' => by
    unfold Children.set
    by_cases hk : k = s
    · subst hk
      simp only [↓reduceIte, Children.lookup]
      by_cases h : k = s' <;> simp [h]
    · simp only [hk, ↓reduceIte, Children.lookup, Children.lookup_set rest s t s']
      by_cases hks : k = s'
      · subst hks
        have : ¬ s = k := fun h => hk h.symm
        simp [this]
      · simp [hks]

/-- `Match` below a node reached by a label -/
def matchTrie : Trie → List Str → Bool
  | .leaf, _ => true
  | .node cs, d => matchLabels cs d

attribute [simp] matchTrie

theorem matchLabels_cons (cs : Children) (x : Str) (ds : List Str) :
    matchLabels cs (x :: ds) = match cs.lookup x with
      | none => false
      | some t => matchTrie t ds := by
  cases ds with
  | nil =>
    unfold matchLabels
    cases cs.lookup x with
    | none => rfl
    | some t => cases t <;> rfl
  | cons y ys =>
    rw [matchLabels]
    · cases cs.lookup x with
      | none => rfl
      | some t => cases t <;> rfl
    · simp

theorem matchLabels_nil_children : ∀ d, matchLabels .nil d = false
  | [] => rfl
  | x :: ds => by rw [matchLabels_cons]; simp [Children.lookup]

theorem insertLabels_cons_cons (cs : Children) (l l' : Str) (rest : List Str) :
    insertLabels cs (l :: l' :: rest) = match cs.lookup l with
      | none => cs.set l (.node (insertLabels .nil (l' :: rest)))
      | some .leaf => cs
      | some (.node cs') => cs.set l (.node (insertLabels cs' (l' :: rest))) := by
  rw [insertLabels]
  · rfl
  · simp

theorem matchLabels_insert : ∀ (r : List Str), r ≠ [] → ∀ (cs : Children) (d : List Str),
    matchLabels (insertLabels cs r) d = (matchLabels cs d || r.isPrefixOf d)
  | [], h, _, _ => absurd rfl h
  | _ :: _, _, _, [] => rfl
  | [l], _, cs, x :: ds => by
    rw [insertLabels, matchLabels_cons, matchLabels_cons, Children.lookup_set]
    by_cases hl : l = x <;> simp [hl, List.isPrefixOf]
  | l :: l' :: rest, _, cs, x :: ds => by
    have ih := matchLabels_insert (l' :: rest) (by simp)
    rw [insertLabels_cons_cons]
    by_cases hl : l = x
    · subst hl
      rw [matchLabels_cons cs]
      cases hlk : cs.lookup l with
      | none =>
        -- no child `l`: a fresh chain for the rest, which matches exactly the names continuing with the rest
        simp [matchLabels_cons, Children.lookup_set, ih, matchLabels_nil_children, List.isPrefixOf]
      | some t =>
        cases t with
        | leaf =>
          -- `l` already ends a rule: nothing is inserted, and the shorter rule matches whatever the longer would
          simp [matchLabels_cons, hlk]
        | node cs1 =>
          simp [matchLabels_cons, Children.lookup_set, ih, List.isPrefixOf]
    · -- another first label: the rule cannot match, and the child under `x` is untouched (or nothing is)
      have hp : (l :: l' :: rest).isPrefixOf (x :: ds) = false := by simp [List.isPrefixOf, hl]
      rw [hp, Bool.or_false]
      split <;> simp only [matchLabels_cons, Children.lookup_set, if_neg hl]

theorem trieMatch_insert (root : Children) (r d : Str) :
    trieMatch (trieInsert root r) d = (trieMatch root d || matchDomainSuffix d r) := by
  unfold trieMatch trieInsert
  rw [matchLabels_insert _ (labelsRev_ne_nil r),
    Bool.eq_iff_iff.mpr ((labelsRev_prefix_iff r d).trans (matchDomainSuffix_iff d r).symm)]

theorem trieFromList_eq (rs : List Str) (d : Str) : trieMatch (trieFromList rs) d = suffixLinearMatch rs d := by
  have h := foldl_or (P := (trieMatch · d = true)) (Q := (matchDomainSuffix d · = true))
    (fun root r => by rw [trieMatch_insert, Bool.or_eq_true]) rs .nil
  rwa [show trieMatch .nil d = false from matchLabels_nil_children _, Bool.false_eq_true, false_or,
    ← List.any_eq_true, ← Bool.eq_iff_iff] at h

theorem containsSub_iff : ∀ (d kw : Str), containsSub d kw = true ↔ kw <:+: d
  | [], kw => by
    simp only [containsSub, List.isEmpty_iff, List.infix_nil]
  | c :: cs, kw => by
    rw [containsSub, Bool.or_eq_true, List.isPrefixOf_iff_prefix, containsSub_iff cs kw, List.infix_cons_iff]

theorem keywordMatch_iff (kws : List Str) (d : Str) : keywordMatch kws d = true ↔ ∃ k ∈ kws, k <:+: d := by
  unfold keywordMatch
  simp only [List.any_eq_true, containsSub_iff]

end SSV.DomainSet
