import SSV.Proofs.DomainTextSafe
import SSV.Model.PrefixSet
/-
Language preservation across text ↔ builder ↔ gob; `mapM_map_some`, the parsing step of the prefix-set text round trip.
-/
namespace SSV.DomainSet

/-- builders on which `Rules()` determines the language: a binary-search slot must agree with membership of its rules
(true for every slice kept sorted by `Insert`), a trie slot must be well-formed (true for every trie built by `Insert`). -/
def Builder.Regular (b : Builder) : Prop :=
  (match b.domains with
   | .bsearch rs => ∀ d, rs.contains d = (binarySearch rs d).2
   | _ => True) ∧
  (match b.suffixes with
   | .trie root => root.WF
   | _ => True)

theorem Builder.Regular.domains {b : Builder} (h : b.Regular) (d : Str) : b.domains.rules.contains d = b.domains.lang d := by
  obtain ⟨h1, _⟩ := h
  cases hb : b.domains with
  | linear rs => rfl
  | bsearch rs => rw [hb] at h1; exact h1 d
  | map m => rfl

theorem SuffixB.lang_eq_rules (b : SuffixB) (h : match b with | .trie root => root.WF | _ => True) (d : Str) :
    b.lang d = b.rules.any (matchDomainSuffix d) := by
  cases b with
  | linear rs => rfl
  | map m => exact suffixMapMatch_eq m d
  | trie root => exact Bool.eq_iff_iff.mpr ((trieMatch_iff_keys root h d).trans (suffixLinearMatch_iff _ d).symm)

theorem Builder.Regular.lang_eq (re : Str → Str → Bool) {b : Builder} (h : b.Regular) (d : Str) :
    b.lang re d = b.ruleList.any (·.matches re d) := by
  have hd : b.domains.lang d = b.domains.rules.any (d == ·) := by rw [← h.domains d, List.contains_eq_any_beq]
  rw [Builder.lang, hd, b.suffixes.lang_eq_rules h.2 d]
  simp only [Builder.ruleList, List.any_append, List.any_map, Function.comp_def, Line.matches, keywordMatch]

theorem Builder.emptyText_lang (re : Str → Str → Bool) (d : Str) : Builder.emptyText.lang re d = false := by
  simp [Builder.lang, Builder.emptyText, DomainB.lang, SuffixB.lang, trieMatch, matchLabels_nil_children, keywordMatch]

theorem lang_load (re : Str → Str → Bool) (lns : List Line) (d : Str) :
    (lns.foldl Builder.addRule Builder.emptyText).lang re d = lns.any (·.matches re d) := by
  rw [Builder.lang_foldl_addRule re d lns Builder.emptyText trivial, Builder.emptyText_lang, Bool.false_or]

theorem ofBuilder_domains (b : Builder) (h : b.Regular) (d : Str) :
    (BuilderGob.ofBuilder b).domains.contains d = b.domains.lang d := by
  rw [← h.domains d]
  unfold BuilderGob.ofBuilder
  cases b.domains <;> simp only [DomainB.rules, contains_foldl_mapInsert]

theorem ofBuilder_suffixes (b : Builder) (d : Str) :
    trieMatch (BuilderGob.ofBuilder b).suffixes d = b.suffixes.lang d := by
  unfold BuilderGob.ofBuilder
  simp only
  cases hb : b.suffixes with
  | linear rs => exact trieFromList_eq rs d
  | map m => exact (trieFromList_eq m d).trans (suffixMapMatch_eq m d).symm
  | trie root => rfl

theorem lang_gob (re : Str → Str → Bool) (b : Builder) (h : b.Regular) (d : Str) :
    (BuilderGob.ofBuilder b).builder.lang re d = b.lang re d := by
  have e1 := ofBuilder_domains b h d
  have e2 := ofBuilder_suffixes b d
  have e3 : (BuilderGob.ofBuilder b).keywords = b.keywords := rfl
  have e4 : (BuilderGob.ofBuilder b).regexps = b.regexps := rfl
  unfold Builder.lang BuilderGob.builder
  simp only [DomainB.lang, SuffixB.lang, e1, e2, e3, e4]

theorem TextBuilder.regular {b : Builder} (h : TextBuilder b) : b.Regular := by
  obtain ⟨m, hm⟩ := h.domains
  obtain ⟨root, hr, hwf⟩ := h.suffixes
  unfold Builder.Regular
  rw [hm, hr]
  exact ⟨trivial, hwf⟩

end SSV.DomainSet

namespace SSV.PrefixSet
open SSV.DomainSet

theorem mapM_map_some {P : Type} (parse : Str → Option P) (print : P → Str) : ∀ (ps : List P),
    (∀ p ∈ ps, parse (print p) = some p) → (ps.map print).mapM parse = some ps
  | [], _ => rfl
  | p :: ps, h => by
    rw [List.map_cons, List.mapM_cons, h p (by simp), mapM_map_some parse print ps (fun x hx => h x (by simp [hx]))]
    rfl

end SSV.PrefixSet
