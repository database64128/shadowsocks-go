import SSV.Proofs.Relay
/-
Conservation + FIFO of the send queues ("no datagram is lost for an undocumented reason") and the potential that drives
the progress theorem. Conservation is a simulation by a FIFO with `pend` as the abstraction: an arm puts what it logs in
`enq` at the back of its session's pending list and takes what it logs in `fate` from the front (`Arm.fifo`). The same
equation gives provenance, for every configuration: what is pending in a session was received for it (`FInv.own`), and an
arm sends only what was pending (`Arm.logs`), so a datagram carries a packet of its own session (`FInv.sentOwn`).
-/
namespace SSV.Relay

variable {cfg : Config}

/-- the packet the uplink holds inside `PackInPlace` -/
def inflight : UpPc → List Pkt
  | .idle => []
  | .resolving q _ => [q]
  | .storedDomain q _ => [q]
  | .storedIP q => [q]

/-- packets accepted into the queue of `sid`, in order -/
def enqOf (st : State) (sid : Nat) : List Pkt := st.enq.filterMap (fun e => if e.1 = sid then some e.2 else none)
/-- packets of `sid` that left the uplink (sent or dropped), in order -/
def fateOf (st : State) (sid : Nat) : List Pkt := st.fate.filterMap (fun e => if e.1 = sid then some e.2.1 else none)

def pend (s : Sess) : List Pkt := inflight s.pc ++ s.queue

def pendOf : Option Sess → List Pkt
  | some s => pend s
  | none => []

theorem filterMap_tag {β γ : Type} (sid i : Nat) (g : β → γ) (l : List β) :
    (l.map (fun x => (sid, x))).filterMap (fun e => if e.1 = i then some (g e.2) else none) =
      if sid = i then l.map g else [] := by
  induction l with
  | nil => simp
  | cons a t ih =>
    simp only [List.map_cons, List.filterMap_cons, ih]
    by_cases h : sid = i <;> simp [h]

theorem enqOf_append {st st' : State} {X : List (Nat × Pkt)} (h : st'.enq = st.enq ++ X) (i : Nat) :
    enqOf st' i = enqOf st i ++ X.filterMap (fun e => if e.1 = i then some e.2 else none) := by
  simp only [enqOf, h, List.filterMap_append]

theorem fateOf_append {st st' : State} {Y : List (Nat × Pkt × Fate)} (h : st'.fate = st.fate ++ Y) (i : Nat) :
    fateOf st' i = fateOf st i ++ Y.filterMap (fun e => if e.1 = i then some e.2.1 else none) := by
  simp only [fateOf, h, List.filterMap_append]

/-- steps done for the packet inside `PackInPlace` -/
def prog : UpPc → Nat
  | .idle => 0
  | .resolving _ _ => 1
  | .storedDomain _ _ => 2
  | .storedIP _ => 3

def progOf (o : Option Sess) : Nat := match o with | some s => prog s.pc | none => 0

def potential (st : State) (sid : Nat) : Nat := 4 * (fateOf st sid).length + progOf (st.sess sid)

theorem actSid_of_enabled {st : State} {sid : Nat} {a : Act} (h : enabledUpB st sid a = true) : actSid a = some sid := by
  cases a <;> simp_all [enabledUpB, actSid]

structure FInv (st : State) : Prop where
  fresh : ∀ sid s, st.sess sid = some s → sid < st.next
  fifo : ∀ sid, enqOf st sid = fateOf st sid ++ pendOf (st.sess sid)
  idle : ∀ sid s, st.sess sid = some s → s.started = false → s.pc = .idle
  sentLog : ∀ e ∈ st.fate, ∀ ip port, e.2.2 = .sent ip port → (⟨e.1, e.2.1, ip, port⟩ : Sent) ∈ st.sent
  own : ∀ sid, ∀ q ∈ pendOf (st.sess sid), ∃ a, (sid, a, q) ∈ st.recvd
  sentOwn : ∀ w ∈ st.sent, ∃ a, (w.sid, a, w.pkt) ∈ st.recvd

theorem FInv.fifo_some {st : State} (hI : FInv st) {sid : Nat} {s : Sess} (hs : st.sess sid = some s) :
    enqOf st sid = fateOf st sid ++ pend s := by
  have h := hI.fifo sid; rwa [hs] at h

theorem finv_init : FInv State.init := by
  refine ⟨?_, ?_, ?_, ?_, ?_, ?_⟩ <;> simp [State.init, enqOf, fateOf, pendOf]

structure FStep (st : State) (a : Act) (st' : State) : Prop where
  inv : FInv st'
  grow : ∃ X Y, st'.enq = st.enq ++ X ∧ st'.fate = st.fate ++ Y
  rise : ∀ sid, potential st sid + (if enabledUpB st sid a then 1 else 0) ≤ potential st' sid

theorem Arm.actSid_eq {st : State} {sid : Nat} {os : Option Sess} {a : Act} {s' : Sess} {c' : Cache} {o : Out}
    (h : Arm cfg st sid os a s' c' o) : ∀ i, actSid a = some i → i = sid := by
  cases h <;> simp [actSid, eq_comm]

theorem Arm.enabled_other {st : State} {sid : Nat} {os : Option Sess} {a : Act} {s' : Sess} {c' : Cache} {o : Out}
    (ha : Arm cfg st sid os a s' c' o) {i : Nat} (h : i ≠ sid) : enabledUpB st i a = false := by
  cases h' : enabledUpB st i a
  · rfl
  · exact absurd (ha.actSid_eq _ (actSid_of_enabled h')) h

section
variable {st : State} {a : Act} {sid : Nat} {os : Option Sess} {s s' : Sess} {c' : Cache} {o : Out}

theorem Arm.logs (ha : Arm cfg st sid os a s' c' o) :
    (∀ q ∈ o.enq, ∃ a, (a, q) ∈ o.recvd) ∧ (∀ x ∈ o.sent, x.1 ∈ pendOf os) ∧
    ∀ q ip port, (q, Fate.sent ip port) ∈ o.fate → (q, ip, port) ∈ o.sent := by
  cases ha <;> simp [pendOf, pend, inflight, *]

theorem Arm.fifo (ha : Arm cfg st sid (some s) a s' c' o) (hidle : s.started = false → s.pc = .idle) :
    pend s ++ o.enq = o.fate.map (·.1) ++ pend s' ∧ (s'.started = false → s'.pc = .idle) ∧
    prog s.pc + (if actSid a = some sid then 1 else 0) ≤ 4 * o.fate.length + prog s'.pc := by
  cases ha with
  | initFail hst =>
    -- not started, so nothing is in flight: all of `pend s` is the queue, and all of it gets the fate `notStarted`
    simp [pend, hidle hst, inflight, Function.comp_def, actSid]
  | _ =>
    -- `recvOld` queues at the back; `takeHit`, `takeMiss` move the head of the queue into flight; `takeUp`, `takeIp`,
    -- `packErr`, `resolvedFail`, `readSend` give the head of `pend` its fate; the other five leave `pend` alone
    simp_all [pend, inflight, actSid, prog]

end

theorem fstep_of_Arm {st st' : State} {a : Act} {sid : Nat} {os : Option Sess} {s' : Sess} {c' : Cache} {o : Out}
    (hI : FInv st) (ha : Arm cfg st sid os a s' c' o) (ht : Touch cfg st st' sid os s' c' o) : FStep st a st' := by
  have hold := ht.sess_before hI.fresh
  have ⟨heq, hidle, hge⟩ : pendOf os ++ o.enq = o.fate.map (·.1) ++ pend s' ∧ (s'.started = false → s'.pc = .idle) ∧
      progOf os + (if actSid a = some sid then 1 else 0) ≤ 4 * o.fate.length + prog s'.pc := by
    cases os with
    | some s => exact ha.fifo (hI.idle _ _ hold)
    | none =>
      obtain ⟨-, h1, -, -, h2, h3, h4⟩ := ha.new_session
      exact ⟨by simp [pendOf, pend, inflight, h1, h2, h3], fun _ => h1, by simp [progOf, h4]⟩
  -- the new entries all carry the tag `sid`: they show in the projections of `sid` and of no other session
  have he : ∀ i, enqOf st' i = enqOf st i ++ if sid = i then o.enq else [] := fun i => by
    rw [enqOf_append ht.enq, filterMap_tag sid i (fun q : Pkt => q), List.map_id']
  have hf : ∀ i, fateOf st' i = fateOf st i ++ if sid = i then o.fate.map (·.1) else [] := fun i => by
    rw [fateOf_append ht.fate, filterMap_tag sid i (fun x : Pkt × Fate => x.1)]
  have hrecvd : ∀ x ∈ st.recvd, x ∈ st'.recvd := fun _ h => by rw [ht.recvd]; exact List.mem_append_left _ h
  refine ⟨⟨ht.fresh hI.fresh, ?_, ?_, ?_, ?_, ?_⟩, ⟨_, _, ht.enq, ht.fate⟩, ?_⟩
  · intro i
    rw [he, hf, hI.fifo]
    by_cases h : sid = i
    · subst h
      rw [if_pos rfl, if_pos rfl, hold, ht.sess_at, List.append_assoc, heq, List.append_assoc]; rfl
    · rw [if_neg h, if_neg h, ht.sess_other (Ne.symm h), List.append_nil, List.append_nil]
  · intro i s hs hst
    rcases ht.sess_cases hs with ⟨rfl, rfl⟩ | ⟨_, hs⟩
    · exact hidle hst
    · exact hI.idle _ _ hs hst
  · intro e he ip port hx
    rw [ht.fate] at he
    rw [ht.sent]
    rcases List.mem_append.mp he with h | h
    · exact List.mem_append_left _ (hI.sentLog e h ip port hx)
    · obtain ⟨x, hx1, hx2⟩ := List.mem_map.mp h
      subst hx2
      obtain ⟨q, f⟩ := x
      subst hx
      exact List.mem_append_right _ (List.mem_map.mpr ⟨_, ha.logs.2.2 _ _ _ hx1, rfl⟩)
  · intro i q hq
    by_cases h : sid = i
    · -- pending afterwards = pending before or queued now, by the FIFO equation
      subst h
      rw [ht.sess_at] at hq
      have hq : q ∈ pendOf os ++ o.enq := by rw [heq]; exact List.mem_append_right _ hq
      rcases List.mem_append.mp hq with h | h
      · exact (hI.own sid q (hold ▸ h)).imp fun _ h => hrecvd _ h
      · obtain ⟨a, h⟩ := ha.logs.1 q h
        exact ⟨a, by rw [ht.recvd]; exact List.mem_append_right _ (List.mem_map.mpr ⟨_, h, rfl⟩)⟩
    · rw [ht.sess_other (Ne.symm h)] at hq
      exact (hI.own i q hq).imp fun _ h => hrecvd _ h
  · intro w hw
    rw [ht.sent] at hw
    rcases List.mem_append.mp hw with h | h
    · exact (hI.sentOwn w h).imp fun _ h => hrecvd _ h
    · obtain ⟨x, hx, rfl⟩ := List.mem_map.mp h
      exact (hI.own sid x.1 (hold ▸ ha.logs.2.1 x hx)).imp fun _ h => hrecvd _ h
  · intro i
    by_cases h : sid = i
    · subst h
      have : (if enabledUpB st sid a then 1 else 0) ≤ (if actSid a = some sid then 1 else 0) := by
        split
        · next h => rw [if_pos (actSid_of_enabled h)]; exact Nat.le_refl _
        · exact Nat.zero_le _
      simp only [potential, hf, if_pos, ht.sess_at, List.length_append, List.length_map, progOf, hold] at hge ⊢
      omega
    · simp [potential, hf, h, ht.sess_other (Ne.symm h), ha.enabled_other (Ne.symm h)]

theorem fstep {st : State} (hI : FInv st) (a : Act) : FStep st a (step cfg st a) :=
  step_elim (fun h => ⟨hI, ⟨[], [], by simp, by simp⟩, fun sid => by simp [h sid]⟩) (fstep_of_Arm hI)

theorem finv_run (acts : List Act) {st : State} (hI : FInv st) : FInv (run cfg st acts) :=
  run_preserves (fun _ _ _ _ _ _ _ _ hI ha ht => (fstep_of_Arm hI ha ht).inv) acts hI

end SSV.Relay
