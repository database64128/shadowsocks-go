import SSV.Proofs.StreamReader
/-
C02, layer 1: whatever wire an attacker presents, a reader only ever hands over genuine chunks, in
order, and everything it consumed on the way is byte-for-byte the honest wire.
-/
namespace SSV.Stream
open SSV.Gen.C01

/-- nonce → plaintext map of a genuine writer that sealed the chunks `cs` starting at nonce `n0`
(a function, because the writer uses every nonce once: `Writer.emit`) -/
def honestOf (n0 : Nat) (cs : List Bytes) (n : Nat) : Option Bytes :=
  if n < n0 then none
  else match cs[(n - n0) / 2]? with
    | none => none
    | some p => if (n - n0) % 2 = 0 then some (be16 p.length) else some p

/-- the hypotheses about the AEAD under the session key `k` (parameters of the theorems) -/
structure AeadAuth (C : Crypto) (k : Bytes) (honest : Nat → Option Bytes) : Prop where
  /-- unforgeability relative to the honest history: whatever opens under nonce `n` was sealed by the
  genuine peer under nonce `n` (`honest n`) -/
  uf : ∀ n c p, C.dec k n c = some p → honest n = some p
  /-- the ciphertext is determined by (key, nonce, plaintext) -/
  det : ∀ n c p, C.dec k n c = some p → c = C.enc k n p

theorem honestOf_even (n0 : Nat) (cs : List Bytes) (j : Nat) :
    honestOf n0 cs (n0 + 2 * j) = cs[j]?.map (fun p => be16 p.length) := by
  rw [honestOf, if_neg (Nat.not_lt.mpr (Nat.le_add_right _ _)), Nat.add_sub_cancel_left, Nat.mul_div_cancel_left j (by decide),
    Nat.mul_mod_right]
  cases cs[j]? <;> rfl

theorem honestOf_odd (n0 : Nat) (cs : List Bytes) (j : Nat) : honestOf n0 cs (n0 + 2 * j + 1) = cs[j]? := by
  rw [Nat.add_assoc, honestOf, if_neg (Nat.not_lt.mpr (Nat.le_add_right _ _)), Nat.add_sub_cancel_left,
    Nat.mul_add_div (by decide), Nat.mul_add_mod]
  cases cs[j]? <;> rfl

theorem openPart_auth {C : Crypto} {k : Bytes} {honest : Nat → Option Bytes} (hA : AeadAuth C k honest)
    {n len : Nat} {w p : Bytes} (h : (openPart C k n len w).res = .ok p) :
    honest n = some p ∧ w = C.enc k n p ++ (openPart C k n len w).wire ∧ (openPart C k n len w).nonce = n + 1 := by
  obtain ⟨c, hd, hw, hn⟩ := (openPart_inv C k n len w).1 p h
  exact ⟨hA.uf _ _ _ hd, by rw [← hA.det _ _ _ hd]; exact hw, hn⟩

theorem readChunk_honest {C : Crypto} {k : Bytes} {n0 : Nat} {cs : List Bytes}
    (hA : AeadAuth C k (honestOf n0 cs)) (hv : ValidChunks cs) (j : Nat) (w : Bytes) :
    (∀ p, (readChunk C k (n0 + 2 * j) w).res = .ok p →
        cs[j]? = some p ∧ w = sealChunk C k (n0 + 2 * j) p ++ (readChunk C k (n0 + 2 * j) w).wire ∧
        (readChunk C k (n0 + 2 * j) w).nonce = n0 + 2 * (j + 1)) ∧
    ((readChunk C k (n0 + 2 * j) w).res = .error .eof →
        (readChunk C k (n0 + 2 * j) w).wire = [] ∧
        (w = [] ∨ ∃ p, cs[j]? = some p ∧ w = C.enc k (n0 + 2 * j) (be16 p.length))) := by
  rw [readChunk_eq]
  cases h1 : (openPart C k (n0 + 2 * j) 2 w).res with
  | error e =>
    refine ⟨fun p hp => (by rw [h1] at hp; cases hp), fun he => ?_⟩
    obtain ⟨hw, hw'⟩ := (openPart_inv C k _ 2 w).2.1 he
    exact ⟨hw', Or.inl hw⟩
  | ok lp =>
    -- the length part opened: it is the genuine one of chunk `j`
    obtain ⟨hlp, hw, -⟩ := openPart_auth hA h1
    rw [honestOf_even] at hlp
    obtain ⟨pj, hpj, rfl⟩ := Option.map_eq_some_iff.mp hlp
    have hlen := hv pj (List.mem_of_getElem? hpj)
    simp only [unbe16_be16_length hlen.2, hlen.1, ↓reduceIte]
    refine ⟨fun p hp => ?_, fun he => ?_⟩
    · -- the payload part opened: it is the genuine payload of chunk `j`
      obtain ⟨h2, hw2, hn2⟩ := openPart_auth hA hp
      rw [honestOf_odd, hpj] at h2
      cases h2
      exact ⟨hpj, by rw [sealChunk, List.append_assoc, ← hw2, ← hw], hn2⟩
    · obtain ⟨hw1, hw'⟩ := (openPart_inv C k _ _ _).2.1 he
      exact ⟨hw', Or.inr ⟨pj, hpj, by rw [hw, hw1, List.append_nil]⟩⟩

theorem take_succ_flatten (cs : List Bytes) (j : Nat) (p : Bytes) (h : cs[j]? = some p) :
    (cs.take (j + 1)).flatten = (cs.take j).flatten ++ p := by
  rw [List.take_add_one, h]
  simp

/-- the transport is exhausted, or key and nonce are those of the genuine writer at chunk boundary `j` -/
def AtBoundary (k : Bytes) (n0 : Nat) (r : Reader) (j : Nat) : Prop :=
  r.wire = [] ∨ (r.key = k ∧ r.nonce = n0 + 2 * j)

/-- invariant of a reader facing an arbitrary wire: what it has handed over plus what it buffers is
a whole number of genuine chunks, and the reader is `AtBoundary` there -/
def Inv (k : Bytes) (n0 : Nat) (cs : List Bytes) (r : Reader) (delivered : Bytes) : Prop :=
  ∃ j, delivered ++ r.left = (cs.take j).flatten ∧ (r.wire = [] ∨ (r.key = k ∧ r.nonce = n0 + 2 * j))

theorem Inv.iff {k delivered : Bytes} {n0 : Nat} {cs : List Bytes} {r : Reader} :
    Inv k n0 cs r delivered ↔ ∃ j, delivered ++ r.left = (cs.take j).flatten ∧ AtBoundary k n0 r j :=
  Iff.rfl

theorem readChunk_atBoundary {C : Crypto} {k : Bytes} {n0 : Nat} {cs : List Bytes}
    (hA : AeadAuth C k (honestOf n0 cs)) (hv : ValidChunks cs) {r : Reader} {j : Nat} (hst : AtBoundary k n0 r j) :
    (∀ p, (readChunk C r.key r.nonce r.wire).res = .ok p →
      cs[j]? = some p ∧ r.key = k ∧ (readChunk C r.key r.nonce r.wire).nonce = n0 + 2 * (j + 1)) ∧
    ((readChunk C r.key r.nonce r.wire).res = .error .eof → (readChunk C r.key r.nonce r.wire).wire = []) := by
  rcases hst with hw | ⟨hk, hn⟩
  · rw [hw, readChunk_nil]
    exact ⟨nofun, fun _ => rfl⟩
  · have hh := readChunk_honest hA hv j r.wire
    rw [← hk, ← hn] at hh
    exact ⟨fun p hp => ⟨(hh.1 p hp).1, hk, (hh.1 p hp).2.2⟩, fun he => (hh.2 he).1⟩

theorem copyLoop_prefix {C : Crypto} {k : Bytes} {n0 : Nat} {cs : List Bytes}
    (hA : AeadAuth C k (honestOf n0 cs)) (hv : ValidChunks cs) (fuel : Nat) (r : Reader) (acc : List Bytes) (j : Nat)
    (hl : r.left = []) (hst : AtBoundary k n0 r j) :
    ∃ j' new e r', copyLoop C fuel r acc = (.copied (acc.reverse ++ new) e, r') ∧
      (cs.take j).flatten ++ new.flatten = (cs.take j').flatten ∧ r'.left = [] ∧ e ≠ some .eof ∧
      (e = none → AtBoundary k n0 r' j') := by
  fun_induction copyLoop C fuel r acc generalizing j
  case case1 r _ => exact ⟨j, [], some .fuel, r, by simp, by simp, hl, nofun, nofun⟩
  case case2 r' hres =>
    exact ⟨j, [], none, r', by simp, by simp, hl, nofun, fun _ => Or.inl ((readChunk_atBoundary hA hv hst).2 hres)⟩
  case case3 r' e he hres => exact ⟨j, [], some e, r', by simp, by simp, hl, fun h => he (Option.some.inj h), nofun⟩
  case case4 p hres ih =>
    obtain ⟨hp, hk, hnon⟩ := (readChunk_atBoundary hA hv hst).1 p hres
    obtain ⟨j', new, e, r', he, hfl, rest⟩ := ih (j + 1) hl (Or.inr ⟨hk, hnon⟩)
    refine ⟨j', p :: new, e, r', by simp [he], ?_, rest⟩
    rw [← hfl, take_succ_flatten cs j p hp]
    simp

theorem step_inv {C : Crypto} {k : Bytes} {n0 : Nat} {cs : List Bytes}
    (hA : AeadAuth C k (honestOf n0 cs)) (hv : ValidChunks cs) (r : Reader) (delivered : Bytes)
    (hi : Inv k n0 cs r delivered) (op : ROp) :
    ∃ j, (delivered ++ (r.step C op).1.bytes) ++ (r.step C op).2.left = (cs.take j).flatten ∧
      (((r.step C op).1.err = none ∨ (r.step C op).1.err = some .eof) → AtBoundary k n0 (r.step C op).2 j) := by
  obtain ⟨j, hb, hst⟩ := Inv.iff.mp hi
  have copy : ∃ j, (delivered ++ (r.writeTo C).1.bytes) ++ (r.writeTo C).2.left = (cs.take j).flatten ∧
      (((r.writeTo C).1.err = none ∨ (r.writeTo C).1.err = some .eof) → AtBoundary k n0 (r.writeTo C).2 j) := by
    obtain ⟨j', new, e, r2, he, hfl, hl2, hne, hst2⟩ :=
      copyLoop_prefix hA hv (r.wire.length + 1) { r with left := [] } (if r.left.length = 0 then [] else [r.left]) j rfl hst
    have hacc : (if r.left.length = 0 then [] else [r.left]).reverse.flatten = r.left := by
      split
      · rename_i h; rw [List.length_eq_zero_iff.mp h]; rfl
      · simp
    rw [Reader.writeTo_eq, he]
    refine ⟨j', ?_, fun herr => hst2 ?_⟩
    · simp only [ROut.bytes, List.flatten_append, hacc, hl2, List.append_nil, ← List.append_assoc, hb, hfl]
    · rcases herr with h | h
      · exact h
      · exact absurd h hne
  cases op with
  | writeTo => exact copy
  | tunnel => rw [Reader.step, Reader.tunnel_eq]; exact copy
  | read n =>
    by_cases hl' : r.left = []
    · rw [hl', List.append_nil] at hb
      obtain ⟨hok, heof⟩ := readChunk_atBoundary hA hv hst
      cases hres : (readChunk C r.key r.nonce r.wire).res with
      | ok p =>
        obtain ⟨hp, hk, hnon⟩ := hok p hres
        rw [Reader.read_chunk hl' (by rw [← hres]) (hv p (List.mem_of_getElem? hp)).2]
        exact ⟨j + 1, by rw [take_succ_flatten cs j p hp, ← hb, List.append_assoc]; exact congrArg _ (List.take_append_drop n p),
          fun _ => Or.inr ⟨hk, hnon⟩⟩
      | error e =>
        rw [Reader.read_error hl' (by rw [← hres])]
        refine ⟨j, by simp only [ROut.bytes, hl', List.append_nil, hb], fun herr => Or.inl (heof ?_)⟩
        rcases herr with h | h <;> cases h
        exact hres
    · rw [Reader.read_buffered C hl']
      exact ⟨j, by simp only [ROut.bytes, List.append_assoc, List.take_append_drop, hb], fun _ => hst⟩

theorem run_prefix {C : Crypto} {k : Bytes} {n0 : Nat} {cs : List Bytes}
    (hA : AeadAuth C k (honestOf n0 cs)) (hv : ValidChunks cs) (ops : List ROp) :
    ∀ (r : Reader) (delivered : Bytes), Inv k n0 cs r delivered →
      ∃ j rest, delivered ++ ((r.run C ops).map ROut.bytes).flatten ++ rest = (cs.take j).flatten := by
  induction ops with
  | nil => intro r d hi; obtain ⟨j, hb, -⟩ := Inv.iff.mp hi; exact ⟨j, r.left, by simpa [Reader.run] using hb⟩
  | cons op ops ih =>
    intro r d hi
    obtain ⟨j, hj, hnext⟩ := step_inv hA hv r d hi op
    rw [Reader.run_cons]
    split
    · rename_i herr
      obtain ⟨j', rest, h⟩ := ih _ _ (Inv.iff.mpr ⟨j, hj, hnext ((hardErr_none_iff _).mp herr)⟩)
      exact ⟨j', rest, by simpa [List.append_assoc] using h⟩
    · exact ⟨j, (r.step C op).2.left, by simpa using hj⟩

end SSV.Stream
