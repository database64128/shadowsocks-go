import SSV.Model.Router
import SSV.Proofs.PortSetBits
/-
The bit-by-bit run scan, once for both models of `portset.PortSet`: `runs` over `mem : Nat → Bool` (the router's table)
yields ascending, apart, non-empty ranges that cover exactly the set bits (`ScanInv`, read backwards from the end of
the scan), and C10's accumulator form `scanBits` is the same scan. Also the joints between the two spellings of a
range list (pairs here, `Range` in C10): `toRange`, what a list covers, the binary search.
-/
namespace SSV.Router
open SSV.PortSet (Scan scanBits closeAt stepBit openAt)

/-- what a range list covers, for the router's pairs (compared with the criterion's `rangesContain`, hence `Bool`) -/
def covered (rs : List (Nat × Nat)) (q : Nat) : Bool := rs.any (fun r => decide (r.1 ≤ q) && decide (q ≤ r.2))

/-- the router's `(lo, hi)` as C10's `Range` -/
def toRange (r : Nat × Nat) : SSV.PortSet.Range := ⟨r.1, r.2⟩

theorem covered_map_toRange (rs : List (Nat × Nat)) (q : Nat) :
    SSV.PortSet.covered (rs.map toRange) q ↔ covered rs q = true := by
  rw [SSV.PortSet.covered, covered, List.any_eq_true]
  simp only [List.mem_map, Bool.and_eq_true, decide_eq_true_eq]
  exact ⟨fun ⟨_, ⟨x, hx, e⟩, h⟩ => ⟨x, hx, by subst e; exact h⟩, fun ⟨x, hx, h⟩ => ⟨_, ⟨x, hx, rfl⟩, h⟩⟩

/-- `PortRangeSet.Contains` is modelled twice, here over pairs and in `SSV.PortSet` over `Range`s: the same loop -/
theorem bsearch_eq (rs : List (Nat × Nat)) (port : Nat) : ∀ fuel i j, j ≤ rs.length →
    bsearch rs port fuel i j = SSV.PortSet.bsearch (rs.map toRange) port fuel i j
  | 0, _, _, _ => rfl
  | fuel + 1, i, j, hj => by
    unfold bsearch SSV.PortSet.bsearch
    by_cases hij : i < j
    · have hh : (i + j) / 2 < rs.length := by omega
      simp only [hij, if_true, List.getElem?_map, List.getElem?_eq_getElem hh, List.getD_eq_getElem?_getD,
        Option.map_some, Option.getD_some, toRange]
      rw [bsearch_eq rs port fuel _ j hj, bsearch_eq rs port fuel i _ (by omega)]
    · simp only [hij, if_false]

theorem rangesContain_map_toRange (rs : List (Nat × Nat)) (port : Nat) :
    rangesContain rs port = SSV.PortSet.rangesContain (rs.map toRange) port := by
  rw [rangesContain, SSV.PortSet.rangesContain, List.length_map, bsearch_eq rs port _ _ _ (Nat.le_refl _)]

theorem covered_cons (r : Nat × Nat) (rs : List (Nat × Nat)) (q : Nat) :
    covered (r :: rs) q = ((decide (r.1 ≤ q) && decide (q ≤ r.2)) || covered rs q) := by
  simp [covered]

/-- What the scan has produced when it stands at `p` with `n` positions to go, `lo` being the start of the open run
(`lo = p`: no run is open): the ranges start at or after `lo`, are non-empty, ascending and apart, and cover exactly
the open run and the set bits still to come. -/
def ScanInv (mem : Nat → Bool) (n lo p : Nat) (rs : List (Nat × Nat)) : Prop :=
  (∀ r ∈ rs, lo ≤ r.1 ∧ r.1 ≤ r.2) ∧ rs.Pairwise (fun a b => a.2 < b.1) ∧
    ∀ q, covered rs q = true ↔ (lo ≤ q ∧ q < p) ∨ ((p ≤ q ∧ q < p + n) ∧ mem q = true)

/-- a finished scan of the positions `0 … n - 1` -/
theorem ScanInv.covered_iff {mem : Nat → Bool} {n : Nat} {rs : List (Nat × Nat)} (h : ScanInv mem n 0 0 rs) (q : Nat) :
    covered rs q = true ↔ q < n ∧ mem q = true :=
  (h.2.2 q).trans ⟨fun h => h.elim (fun h => absurd h.2 (Nat.not_lt_zero q)) fun h => ⟨by omega, h.2⟩,
    fun h => Or.inr ⟨⟨Nat.zero_le q, by omega⟩, h.2⟩⟩

theorem ScanInv.nil (mem : Nat → Bool) (p : Nat) : ScanInv mem 0 p p [] :=
  ⟨nofun, List.Pairwise.nil, fun q => ⟨nofun, by rintro (⟨_, _⟩ | ⟨⟨_, _⟩, _⟩) <;> omega⟩⟩

/-- one position back: the scan at `p + 1` had the run from `lo'` open, which is the run from `lo` plus `p` if it is set
(`hopen` says so; `runs_inv` uses it with `lo' = lo` when `p` is set and with `lo' = p + 1` when it is clear) -/
theorem ScanInv.step {mem : Nat → Bool} {n lo lo' p : Nat} {rs : List (Nat × Nat)}
    (h : ScanInv mem n lo' (p + 1) rs) (hlo : lo ≤ lo')
    (hopen : ∀ q, (lo' ≤ q ∧ q < p + 1) ↔ (lo ≤ q ∧ q < p) ∨ (q = p ∧ mem p = true)) :
    ScanInv mem (n + 1) lo p rs := by
  obtain ⟨hl, hpw, hc⟩ := h
  refine ⟨fun r hr => ⟨Nat.le_trans hlo (hl r hr).1, (hl r hr).2⟩, hpw, fun q => ?_⟩
  rw [hc q, hopen q, or_assoc]
  refine or_congr Iff.rfl ⟨?_, ?_⟩
  · rintro (⟨rfl, hm⟩ | ⟨ha, hm⟩) <;> exact ⟨by omega, hm⟩
  · rintro ⟨ha, hm⟩
    by_cases e : q = p
    · exact Or.inl ⟨e, e ▸ hm⟩
    · exact Or.inr ⟨by omega, hm⟩

theorem ScanInv.close {mem : Nat → Bool} {n s p : Nat} {rs : List (Nat × Nat)}
    (h : ScanInv mem n p p rs) (hs : s < p) : ScanInv mem n s p ((s, p - 1) :: rs) := by
  obtain ⟨hl, hpw, hc⟩ := h
  refine ⟨?_, List.Pairwise.cons (fun r hr => Nat.lt_of_lt_of_le (by omega) (hl r hr).1) hpw, fun q => ?_⟩
  · intro r hr
    rcases List.mem_cons.mp hr with rfl | hr
    · exact ⟨Nat.le_refl _, Nat.le_sub_one_of_lt hs⟩
    · exact ⟨Nat.le_trans (Nat.le_of_lt hs) (hl r hr).1, (hl r hr).2⟩
  · rw [covered_cons, Bool.or_eq_true, hc q, Bool.and_eq_true, decide_eq_true_eq, decide_eq_true_eq,
      or_iff_right (show ¬ (p ≤ q ∧ q < p) by omega)]
    exact or_congr (by omega) Iff.rfl

theorem runs_inv (mem : Nat → Bool) : ∀ n p,
    ScanInv mem n p p (runs mem n p none) ∧ ∀ s, s < p → ScanInv mem n s p (runs mem n p (some s))
  | 0, p => ⟨ScanInv.nil mem p, fun _ hs => (ScanInv.nil mem p).close hs⟩
  | n + 1, p => by
    obtain ⟨hn, hs⟩ := runs_inv mem n (p + 1)
    simp only [runs]
    by_cases hp : mem p = true
    · simp only [hp, if_true]
      -- `p` joins the run that is open, or opens one itself
      have grow : ∀ s, s ≤ p → ScanInv mem (n + 1) s p (runs mem n (p + 1) (some s)) := fun s h =>
        (hs s (by omega)).step (Nat.le_refl _) fun q => by simp only [hp, and_true]; omega
      exact ⟨grow p (Nat.le_refl _), fun s h => grow s (Nat.le_of_lt h)⟩
    · have hn' := hn.step (Nat.le_succ p) fun q =>
        iff_of_false (by omega) fun h => h.elim (by omega) fun h => hp h.2
      simp only [hp]
      exact ⟨hn', fun s h => hn'.close h⟩

/-- the run a scan state of C10 has open, as `runs` takes it -/
def openOf (st : Scan) : Option Nat := if st.inRange then some st.start else none

theorem scanBits_eq_runs (mem : Nat → Bool) : ∀ n p (st : Scan),
    (closeAt (scanBits st p ((List.range' p n).map mem)) (p + n)).acc =
      ((runs mem n p (openOf st)).map toRange).reverse ++ st.acc
  | 0, p, st => by
    cases hr : st.inRange <;> simp [scanBits, closeAt, runs, openOf, hr, toRange]
  | n + 1, p, st => by
    have ih := scanBits_eq_runs mem n (p + 1) (stepBit st p (mem p))
    rw [show p + 1 + n = p + (n + 1) by omega] at ih
    rw [List.range'_succ, List.map_cons, scanBits, ih]
    -- the run `stepBit st p b` has open is the one `runs` passes on (the open one or `p` for a set bit, none for a
    -- clear bit), and its `acc` grows by `(start, p - 1)` exactly when `runs` emits that pair: a clear bit, a run open
    cases hm : mem p <;> cases hr : st.inRange <;>
      simp [runs, stepBit, openAt, closeAt, openOf, hm, hr, toRange]

end SSV.Router
