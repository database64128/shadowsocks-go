import SSV.Model.Handshake
/-
C07, SOCKS5 and ss-none: `io.ReadFull` over a chunked transport depends only on the concatenation of the chunks.
`Reads m D D' r w` says so for a whole stage `m`: on every fragmentation of a transport holding the bytes `D`, the
stage leaves exactly `D'` unread, writes `w` and ends with `r`. Stages compose with `Reads.bind`, and each stage of
the server is run once, symbolically, on the bytes a client sends. Throughout a stage its scratch buffer has the
form `bwrite b 0 d` (the bytes read so far over whatever the buffer held before): PASSWD, read over UNAME at offset 2,
and the status byte set at offset 1 are changes to `d` (`bwrite_bwrite0_le`, `bset1_bwrite0`).
-/
namespace SSV.HS
open SSV SSV.Gen

theorem dropC_flatten (n : Nat) (cs : Chunks) : (dropC n cs).flatten = cs.flatten.drop n := by
  fun_induction dropC n cs with
  | case1 => rfl
  | case2 => rfl
  -- the first chunk ends exactly at the count
  | case3 n c cs h1 h2 => simp [h2]
  -- the count ends inside the first chunk
  | case4 n c cs h1 h2 => simp [List.drop_append, show n + 1 - c.length = 0 by omega]
  -- the count reaches past the first chunk
  | case5 n c cs h1 ih => simp [ih, List.drop_append, List.drop_eq_nil_of_le (Nat.le_of_not_ge h1)]

theorem readFull_flat (n : Nat) (cs : Chunks) (h : n ≤ cs.flatten.length) :
    readFull n cs = some (cs.flatten.take n, dropC n cs) := by
  fun_induction readFull n cs with
  | case1 => simp [dropC]
  | case2 => simp at h
  -- the first chunk suffices
  | case3 n c cs h1 => simp [dropC, h1, List.take_append, show n + 1 - c.length = 0 by omega]
  -- the first chunk is used up and the rest of the transport suffices
  | case4 n c cs h1 d r hr ih =>
    simp only [List.flatten_cons, List.length_append] at h
    rw [ih (by omega)] at hr
    cases hr
    simp [dropC, h1, List.take_append, List.take_of_length_le (Nat.le_of_not_ge h1)]
  -- the rest of the transport ends first
  | case5 n c cs h1 hr ih =>
    simp only [List.flatten_cons, List.length_append] at h
    rw [ih (by omega)] at hr; cases hr

theorem readFull_none (n : Nat) (cs : Chunks) (h : cs.flatten.length < n) : readFull n cs = none := by
  fun_induction readFull n cs with
  | case1 => simp at h
  | case2 => rfl
  | case3 n c cs h1 => simp at h; omega
  | case4 n c cs h1 d r hr ih =>
    simp only [List.flatten_cons, List.length_append] at h
    rw [ih (by omega)] at hr; cases hr
  | case5 n c cs h1 hr ih => rfl

theorem readFullM_of_flat (s : St) (d rest : Bytes) (h : s.inp.flatten = d ++ rest) :
    readFullM d.length s = (.ok d, { s with inp := dropC d.length s.inp }) ∧
    (dropC d.length s.inp).flatten = rest := by
  constructor
  · unfold readFullM
    rw [readFull_flat _ _ (by rw [h]; simp)]
    simp [h]
  · rw [dropC_flatten, h]; simp

@[simp] theorem bind_def (m : M α) (f : α → M β) (s : St) :
    (m >>= f) s = match m s with
      | (.ok a, s') => f a s'
      | (.error e, s') => (.error e, s') := rfl

@[simp] theorem pure_def (a : α) (s : St) : (pure a : M α) s = (.ok a, s) := rfl
@[simp] theorem fail_def (e : Err) (s : St) : (fail e : M α) s = (.error e, s) := rfl
@[simp] theorem need_true (s : St) : need true s = (.ok (), s) := rfl
@[simp] theorem write_def (b : Bytes) (s : St) : write b s = (.ok (), { s with out := s.out ++ b }) := rfl
@[simp] theorem liftE_def (x : Except Err α) (s : St) : liftE x s = (x, s) := rfl

theorem M_pure_bind (a : α) (f : α → M β) : (pure a >>= f) = f a := rfl
theorem liftE_ok (a : α) : liftE (.ok a) = pure a := rfl
theorem need_of {c : Bool} (h : c = true) : need c = pure () := by subst h; rfl

theorem bgetM_of (b : Bytes) (i : Nat) (v : UInt8) (h : b[i]? = some v) (s : St) :
    bgetM b i s = (.ok v, s) := by
  simp [bgetM, h]

theorem u8_toNat (n : Nat) (h : n < 256) : (u8 n).toNat = n := UInt8.toNat_ofNat_of_lt' h

theorem bwrite_length (b : Bytes) (off : Nat) (d : Bytes) (h : off + d.length ≤ b.length) :
    (bwrite b off d).length = b.length := by
  simp [bwrite, List.length_take, List.length_drop]; omega

theorem bslice_bwrite0 (b d : Bytes) (i j : Nat) (hj : j ≤ d.length) :
    bslice (bwrite b 0 d) i j = (d.take j).drop i := by
  simp [bslice, bwrite, List.take_append, show j - d.length = 0 by omega]

theorem getElem?_bwrite0 (b d : Bytes) (i : Nat) (hi : i < d.length) :
    (bwrite b 0 d)[i]? = d[i]? := by
  simp [bwrite, List.getElem?_append_left hi]

theorem bwrite_bwrite0_le (b d p : Bytes) (off : Nat) (h : off ≤ d.length) :
    bwrite (bwrite b 0 d) off p = bwrite b 0 (bwrite d off p) := by
  simp only [bwrite, List.take_zero, List.nil_append, Nat.zero_add, List.take_append_of_le_length h, List.drop_append,
    List.length_append, List.length_take_of_le h, List.length_drop, List.drop_drop, List.append_assoc]
  congr 4
  omega

theorem bwrite_bwrite0 (b d1 d2 : Bytes) (h : d1.length + d2.length ≤ b.length) :
    bwrite (bwrite b 0 d1) d1.length d2 = bwrite b 0 (d1 ++ d2) := by
  rw [bwrite_bwrite0_le _ _ _ _ (Nat.le_refl _), bwrite.eq_def d1, List.take_length, List.drop_eq_nil_of_le (Nat.le_add_right _ _),
    List.append_nil]

theorem bset1_bwrite0 (b : Bytes) (x y v : UInt8) (d : Bytes) :
    bset (bwrite b 0 (x :: y :: d)) 1 v = bwrite b 0 (x :: v :: d) := rfl

theorem bslice_bwrite0_two (b : Bytes) (x y : UInt8) (d : Bytes) : bslice (bwrite b 0 (x :: y :: d)) 0 2 = [x, y] := rfl

theorem bset_bwrite0_length (b : Bytes) (i : Nat) (v : UInt8) : (bset b i v).length = b.length := by
  simp [bset]

theorem bgetM_bwrite0 (b d : Bytes) (i : Nat) (hi : i < d.length) : bgetM (bwrite b 0 d) i = pure d[i] :=
  funext (bgetM_of _ i _ (by rw [getElem?_bwrite0 b d i hi, List.getElem?_eq_getElem hi]))

theorem bslice_field (b : Bytes) (a c : UInt8) (U X : Bytes) :
    bslice (bwrite b 0 (a :: c :: (U ++ X))) 2 (2 + U.length) = U := by
  rw [bslice_bwrite0 _ _ _ _ (by simp; omega), Nat.add_comm]; simp

theorem bwrite_field (a c : UInt8) (X P : Bytes) : bwrite (a :: c :: X) 2 P = a :: c :: (P ++ X.drop P.length) := by
  simp [bwrite, Nat.add_comm 2]

theorem bgetM_after_field (b : Bytes) (a c p : UInt8) (U X : Bytes) :
    bgetM (bwrite b 0 (a :: c :: (U ++ p :: X))) (2 + U.length) = pure p := by
  rw [bgetM_bwrite0 _ _ _ (by simp; omega)]; simp [Nat.add_comm 2]

def Reads (m : M α) (D D' : Bytes) (r : Except Err α) (w : Bytes) : Prop :=
  ∀ s : St, s.inp.flatten = D →
    ∃ inp', inp'.flatten = D' ∧ m s = (r, { s with inp := inp', out := s.out ++ w })

theorem Reads.pure (a : α) (D : Bytes) : Reads (pure a) D D (.ok a) [] :=
  fun s hs => ⟨s.inp, hs, by simp⟩

theorem Reads.fail (e : Err) (D : Bytes) : Reads (fail e : M α) D D (.error e) [] :=
  fun s hs => ⟨s.inp, hs, by simp⟩

theorem Reads.write (w D : Bytes) : Reads (write w) D D (.ok ()) w :=
  fun s hs => ⟨s.inp, hs, rfl⟩

theorem Reads.readFull (d rest : Bytes) : Reads (readFullM d.length) (d ++ rest) rest (.ok d) [] :=
  fun s hs => ⟨_, (readFullM_of_flat s d rest hs).2, by simp [(readFullM_of_flat s d rest hs).1]⟩

theorem Reads.bind {m : M α} {f : α → M β} {D D₁ D₂ w w' : Bytes} {a : α} {r : Except Err β}
    (hm : Reads m D D₁ (.ok a) w) (hf : Reads (f a) D₁ D₂ r w') : Reads (m >>= f) D D₂ r (w ++ w') := by
  intro s hs
  obtain ⟨i1, hi1, e1⟩ := hm s hs
  obtain ⟨i2, hi2, e2⟩ := hf { s with inp := i1, out := s.out ++ w } hi1
  exact ⟨i2, hi2, by simp [e1, e2]⟩

theorem Reads.bind_error {m : M α} {f : α → M β} {D D' w : Bytes} {e : Err}
    (hm : Reads m D D' (.error e) w) : Reads (m >>= f) D D' (.error e) w := by
  intro s hs
  obtain ⟨i1, hi1, e1⟩ := hm s hs
  exact ⟨i1, hi1, by simp [e1]⟩

theorem Reads.out_eq {m : M α} {D D' w w' : Bytes} {r : Except Err α} (h : Reads m D D' r w) (hw : w' = w) :
    Reads m D D' r w' := hw ▸ h

theorem Reads.readInto (b : Bytes) (off : Nat) (d rest : Bytes) (hb : off + d.length ≤ b.length) :
    Reads (readIntoM b off d.length) (d ++ rest) rest (.ok (bwrite b off d)) [] := by
  unfold readIntoM
  rw [need_of (by simpa using hb), M_pure_bind]
  exact Reads.bind (f := fun d => Pure.pure (bwrite b off d)) (Reads.readFull d rest) (Reads.pure _ _)

theorem Reads.readInto_next (b d1 d2 rest : Bytes) (h : d1.length + d2.length ≤ b.length) :
    Reads (readIntoM (bwrite b 0 d1) d1.length d2.length) (d2 ++ rest) rest (.ok (bwrite b 0 (d1 ++ d2))) [] :=
  bwrite_bwrite0 b d1 d2 h ▸ Reads.readInto _ _ d2 rest (by rw [bwrite_length] <;> omega)

theorem methodSelection_reads (b : Bytes) (hb : b.length = 262) (method : UInt8) (methods rest : Bytes)
    (hm1 : 1 ≤ methods.length) (hm2 : methods.length ≤ 255) :
    ∃ b', b'.length = 262 ∧
      Reads (methodSelection b method) (cVersion :: u8 methods.length :: (methods ++ rest)) rest
        (if methods.contains method then .ok b' else .error .noAcceptable)
        [cVersion, if methods.contains method then method else mNoAcceptable] := by
  match methods, hm1 with
  | m0 :: ms, _ =>
  rw [List.length_cons] at hm2 ⊢
  have hn : (u8 (ms.length + 1)).toNat = ms.length + 1 := u8_toNat _ (by omega)
  refine ⟨bwrite b 0 (cVersion :: method :: m0 :: ms), ?_, ?_⟩
  · rw [bwrite_length, hb]; simp; omega
  unfold methodSelection
  rw [need_of (by simp [hb]), M_pure_bind]
  refine (Reads.readInto b 0 [cVersion, u8 (ms.length + 1), m0] _ (by simp; omega)).bind ?_
  -- the header bytes just read are looked up in the buffer and the tests on them decided (the same step in every stage)
  simp only [bgetM_bwrite0, M_pure_bind, hn, List.length_cons, List.length_nil, Nat.zero_add, Nat.reduceAdd, Nat.reduceLT,
    List.getElem_cons_zero, List.getElem_cons_succ, ne_eq, not_true_eq_false, if_false, Nat.succ_ne_zero]
  refine Reads.bind (w := []) (D₁ := rest)
    (a := (bwrite b 0 (cVersion :: u8 (ms.length + 1) :: m0 :: ms), (m0 :: ms).contains method)) ?_ ?_
  · by_cases h1 : ms.length + 1 = 1
    · obtain rfl : ms = [] := List.eq_nil_of_length_eq_zero (by omega)
      rw [if_pos h1, show ([m0].contains method) = (m0 == method) by
        rw [List.contains_cons, List.contains_nil, Bool.or_false, BEq.comm]]
      exact Reads.pure _ _
    · rw [if_neg h1, Nat.add_sub_cancel]
      refine (Reads.readInto_next b [_, _, _] ms rest (by simp [hb]; omega)).bind ?_
      rw [bslice_bwrite0 _ _ _ _ (by simp; omega), List.take_of_length_le (by simp; omega)]
      exact Reads.pure _ _
  · simp only [bset1_bwrite0, bslice_bwrite0_two]
    cases (m0 :: ms).contains method
    · exact (Reads.write _ _).bind (Reads.fail _ _)
    · exact (Reads.write _ _).bind (Reads.pure _ _)

theorem userPass_reads (users : List (Bytes × Bytes)) (b : Bytes) (hb : b.length = 262)
    (U P rest : Bytes) (hU1 : 1 ≤ U.length) (hU2 : U.length ≤ 255) (hP1 : 1 ≤ P.length) (hP2 : P.length ≤ 255) :
    ∃ b', b'.length = 262 ∧
      Reads (userPass users b) (cAuthVersion :: u8 U.length :: (U ++ u8 P.length :: (P ++ rest))) rest
        (match lookupUser users U with
          | some (u, pw) => if P = pw then .ok (u, b') else .error .badCreds
          | none => .error .badCreds)
        [cAuthVersion, match lookupUser users U with
          | some (_, pw) => if P = pw then 0 else 1
          | none => 1] := by
  have hn : (u8 U.length).toNat = U.length := u8_toNat _ (by omega)
  have hp : (u8 P.length).toNat = P.length := u8_toNat _ (by omega)
  -- the first read takes four bytes: the header and two bytes of `U ++ [PLEN]`
  obtain ⟨t0, t1, T, hT, hTl⟩ : ∃ t0 t1 T, U ++ [u8 P.length] = t0 :: t1 :: T ∧ T.length + 1 = U.length := by
    match U, hU1 with
    | [_], _ => exact ⟨_, _, _, rfl, rfl⟩
    | _ :: _ :: _, _ => exact ⟨_, _, _, rfl, by simp⟩
  have hD : cAuthVersion :: u8 U.length :: (U ++ u8 P.length :: (P ++ rest)) =
      [cAuthVersion, u8 U.length, t0, t1] ++ (T ++ (P ++ rest)) := by
    rw [List.append_cons U, hT]; rfl
  refine ⟨bwrite b 0 (cAuthVersion :: 0 :: (P ++ (U ++ [u8 P.length]).drop P.length)), ?_, ?_⟩
  · rw [bwrite_length, hb]; simp; omega
  unfold userPass
  rw [need_of (by simp [hb]), M_pure_bind, hD]
  refine (Reads.readInto b 0 [cAuthVersion, u8 U.length, t0, t1] _ (by simp; omega)).bind ?_
  simp only [bgetM_bwrite0, M_pure_bind, hn, List.length_cons, List.length_nil, Nat.zero_add, Nat.reduceAdd, Nat.reduceLT,
    List.getElem_cons_zero, List.getElem_cons_succ, ne_eq, not_true_eq_false, if_false, show ¬ U.length = 0 by omega]
  refine Reads.bind (w := []) (D₁ := P ++ rest) (a := bwrite b 0 ([cAuthVersion, u8 U.length, t0, t1] ++ T)) ?_ ?_
  · by_cases h1 : U.length > 1
    · rw [if_pos h1, show U.length - 1 = T.length by omega]
      exact Reads.readInto_next b [_, _, _, _] T _ (by simp; omega)
    · obtain rfl : T = [] := List.eq_nil_of_length_eq_zero (by omega)
      rw [if_neg h1]; exact Reads.pure _ _
  rw [show [cAuthVersion, u8 U.length, t0, t1] ++ T = cAuthVersion :: u8 U.length :: (U ++ [u8 P.length]) by rw [hT]; rfl]
  rw [bgetM_after_field, M_pure_bind, hp, if_neg (show ¬ P.length = 0 by omega), bslice_field]
  refine (Reads.readInto _ 2 P _ (by rw [bwrite_length] <;> simp [hb] <;> omega)).bind ?_
  -- PASSWD is read over UNAME: still a write into the bytes read
  rw [bwrite_bwrite0_le _ _ _ _ (by simp), bwrite_field]
  simp only [bslice_field, bset1_bwrite0, bslice_bwrite0_two]
  cases lookupUser users U with
  | none => exact (Reads.write _ _).bind (Reads.fail _ _)
  | some up =>
    by_cases hpw : P = up.2
    · simp only [hpw, beq_self_eq_true, if_true]
      exact (Reads.write _ _).bind (Reads.pure _ _)
    · simp only [hpw, beq_eq_false_iff_ne.mpr hpw, if_false]
      exact (Reads.write _ _).bind (Reads.fail _ _)

/-- the plain wire form of an address (no IPv4-mapped conversion) -/
def wireEnc : Addr → Bytes
  | .v4 ip p => atypV4 :: (ip ++ be16 p)
  | .v6 ip p => atypV6 :: (ip ++ be16 p)
  | .dom n p => atypDom :: u8 n.length :: (n ++ be16 p)
  | .zero => []

theorem rd16_be16 (p : Nat) (h : p < 65536) : rd16 (u8 (p / 256)) (u8 (p % 256)) = p := by
  rw [rd16, u8_toNat _ (show p / 256 < 256 by omega), u8_toNat _ (show p % 256 < 256 by omega), Nat.div_add_mod']

theorem atypV4_ne_dom : atypV4 ≠ atypDom := by decide
theorem atypV6_ne_dom : atypV6 ≠ atypDom := by decide
theorem atypV6_ne_v4 : atypV6 ≠ atypV4 := by decide

theorem encodeAddr_norm (a : Addr) : encodeAddr a = wireEnc a.norm := by
  cases a with
  | zero | v4 => simp [encodeAddr, Addr.norm, wireEnc, encodeIPPort]
  | dom n p => simp [encodeAddr, Addr.norm, wireEnc]
  | v6 ip p =>
    by_cases hm : is4in6 ip = true <;> simp [encodeAddr, Addr.norm, encodeIPPort, hm, wireEnc]

theorem norm_wf (a : Addr) (h : a.wf = true) : a.norm.wf = true ∧ a.norm ≠ .zero := by
  cases a with
  | zero => simp [Addr.norm, Addr.wf]
  | v4 | dom => simpa [Addr.norm] using h
  | v6 ip p =>
    simp only [Addr.norm]
    split
    · simp [Addr.wf] at h ⊢; omega
    · simpa using h

/-- how many bytes follow ATYP and the byte after it -/
def tailLen (t x : UInt8) : Option Nat :=
  if t = atypDom then some (x.toNat + 2) else if t = atypV4 then some 5 else if t = atypV6 then some 17 else none

/-- the three-way switch on ATYP as it stands in `readAddrTailM` and `noneServer` -/
theorem tailLen_select {β : Type} {t x : UInt8} {k : Nat} (f : Nat → β) (e : β) : tailLen t x = some k →
    (if t = atypDom then f (x.toNat + 2) else if t = atypV4 then f 5 else if t = atypV6 then f 17 else e) = f k := by
  fun_cases tailLen t x with
  | case1 h1 => rintro ⟨⟩; rw [if_pos h1]  -- domain name
  | case2 h1 h2 => rintro ⟨⟩; rw [if_neg h1, if_pos h2]  -- IPv4
  | case3 h1 h2 h3 => rintro ⟨⟩; rw [if_neg h1, if_neg h2, if_pos h3]  -- IPv6
  | case4 => rintro ⟨⟩  -- any other ATYP

theorem wire_shape (w : Addr) (hw : w.wf = true) (hz : w ≠ .zero) :
    ∃ t x tail, wireEnc w = t :: x :: tail ∧ tailLen t x = some tail.length ∧ tail.length ≤ 257 ∧
      decodeAddr (t :: x :: tail) = .ok w := by
  cases w with
  | zero => exact absurd rfl hz
  | v4 ip p =>
    simp [Addr.wf] at hw
    match ip, hw.1 with
    | [a, b, c, d], _ =>
      exact ⟨atypV4, a, [b, c, d] ++ be16 p, by simp [wireEnc], by simp [tailLen, atypV4_ne_dom, be16], by simp [be16],
        by simp [decodeAddr, atypV4_ne_dom, be16, rd16_be16 p hw.2]⟩
  | v6 ip p =>
    simp [Addr.wf] at hw
    match ip, hw.1 with
    | i0 :: ip', hl =>
      simp at hl
      exact ⟨atypV6, i0, ip' ++ be16 p, by simp [wireEnc], by simp [tailLen, atypV6_ne_dom, atypV6_ne_v4, be16, hl],
        by simp [be16, hl], by simp [decodeAddr, atypV6_ne_dom, atypV6_ne_v4, be16, hl, rd16_be16 p hw.2]⟩
  | dom n p =>
    simp [Addr.wf] at hw
    have hn : (u8 n.length).toNat = n.length := u8_toNat _ (by omega)
    exact ⟨atypDom, u8 n.length, n ++ be16 p, by simp [wireEnc], by simp [tailLen, hn, be16], by simp [be16]; omega,
      by simp [decodeAddr, be16, hn, rd16_be16 p hw.2, show ¬ n.length = 0 by omega]⟩

theorem readAddrTailM_reads (b : Bytes) (hb : b.length = 262) (v c r t x : UInt8) (tail rest : Bytes) (w : Addr)
    (hsel : tailLen t x = some tail.length) (hk : tail.length ≤ 257) (hdec : decodeAddr (t :: x :: tail) = .ok w) :
    Reads (readAddrTailM (bwrite b 0 [v, c, r, t, x])) (tail ++ rest) rest
      (.ok (w, bwrite b 0 (v :: c :: r :: t :: x :: tail))) [] := by
  unfold readAddrTailM
  simp only [bgetM_bwrite0, M_pure_bind, List.length_cons, List.length_nil, Nat.zero_add, Nat.reduceAdd, Nat.reduceLT,
    List.getElem_cons_zero, List.getElem_cons_succ]
  rw [tailLen_select Pure.pure _ hsel, M_pure_bind]
  refine (Reads.readInto_next b [_, _, _, _, _] tail rest (by simp [hb]; omega)).bind ?_
  rw [bslice_bwrite0 _ _ _ _ (by simp; omega), List.take_of_length_le (by simp; omega)]
  show Reads (liftE (decodeAddr (t :: x :: tail)) >>= _) _ _ _ _
  rw [hdec, liftE_ok, M_pure_bind]
  exact Reads.pure _ _

theorem replyWithStatus_eq (b : Bytes) (hb : 10 ≤ b.length) (status : UInt8) :
    replyWithStatus b status = write [cVersion, status, 0, atypV4, 0, 0, 0, 0, 0, 0] := by
  unfold replyWithStatus
  rw [need_of (decide_eq_true (p := C07.IPv4AddrLen + 3 ≤ b.length) hb), M_pure_bind]
  rfl

theorem handleRequest_reads (tcp udp : Bool) (loc : Bool × Bytes × Nat) (b : Bytes) (hb : b.length = 262)
    (cmd rsv : UInt8) (w : Addr) (rest : Bytes) (hw : w.wf = true) (hz : w ≠ .zero) :
    ∃ b', b'.length = 262 ∧
      Reads (handleRequest tcp udp loc b) (cVersion :: cmd :: rsv :: (wireEnc w ++ rest)) rest
        (.ok (if cmd = cmdConnect ∧ tcp = true then .pending w
              else if cmd = cmdUDP ∧ udp = true then .udpDone w else .unsupported w cmd, b'))
        -- nothing is written for CONNECT: the reply follows the dial
        (if cmd = cmdConnect ∧ tcp = true then []
         else if cmd = cmdUDP ∧ udp = true then [cVersion, repSucceeded, rsv] ++ encodeIPPort loc.1 loc.2.1 loc.2.2
         else [cVersion, repCmdNotSupported, 0, atypV4, 0, 0, 0, 0, 0, 0]) := by
  obtain ⟨t, x, tail, hsh, hsel, hk, hdec⟩ := wire_shape w hw hz
  rw [hsh]
  have hB (c : UInt8) : (bwrite b 0 (cVersion :: c :: rsv :: t :: x :: tail)).length = 262 := by
    rw [bwrite_length, hb]; simp; omega
  refine ⟨bwrite b 0 (cVersion :: (if cmd = cmdUDP ∧ udp = true then repSucceeded else cmd) :: rsv :: t :: x :: tail), hB _, ?_⟩
  unfold handleRequest
  rw [need_of (by simp [hb]; decide), M_pure_bind]
  refine ((Reads.readInto b 0 [cVersion, cmd, rsv, t, x] _ (by simp; omega)).bind ?_).out_eq (List.nil_append _).symm
  simp only [bgetM_bwrite0, M_pure_bind, List.length_cons, List.length_nil, Nat.zero_add, Nat.reduceAdd, Nat.reduceLT,
    List.getElem_cons_zero, ne_eq, not_true_eq_false, if_false]
  refine (Reads.bind (readAddrTailM_reads b hb _ _ _ t x tail rest w hsel hk hdec) ?_).out_eq (List.nil_append _).symm
  simp only [bgetM_bwrite0, M_pure_bind, List.length_cons, Nat.lt_add_left_iff_pos, Nat.zero_lt_succ,
    List.getElem_cons_zero, List.getElem_cons_succ, Bool.and_eq_true, decide_eq_true_eq]
  by_cases c1 : cmd = cmdConnect ∧ tcp = true
  · have c2 : ¬ (cmd = cmdUDP ∧ udp = true) := fun h => absurd (c1.1 ▸ h.1) (by decide)
    simp only [if_pos c1, if_neg c2]
    exact Reads.pure _ _
  · by_cases c2 : cmd = cmdUDP ∧ udp = true
    · simp only [if_neg c1, if_pos c2, bset1_bwrite0, bslice_bwrite0 b (cVersion :: repSucceeded :: rsv :: t :: x :: tail) 0 3 (by simp),
        List.take_succ_cons, List.take_zero, List.drop_zero]
      exact (Reads.bind (Reads.write _ _) (Reads.pure (ReqOutcome.udpDone w, _) _)).out_eq (List.append_nil _).symm
    · have h10 : 10 ≤ (bwrite b 0 (cVersion :: cmd :: rsv :: t :: x :: tail)).length := by rw [hB]; decide
      simp only [if_neg c1, if_neg c2, replyWithStatus_eq _ h10]
      exact Reads.bind (Reads.write _ _) (Reads.pure (ReqOutcome.unsupported w cmd, _) _)

theorem noneServer_reads (w : Addr) (rest : Bytes) (hw : w.wf = true) (hz : w ≠ .zero) :
    Reads noneServer (wireEnc w ++ rest) rest (.ok w) [] := by
  obtain ⟨t, x, tail, hsh, hsel, _, hdec⟩ := wire_shape w hw hz
  rw [hsh]
  unfold noneServer
  refine Reads.bind (Reads.readFull [t, x] _) ?_
  show Reads (if t = atypDom then _ else _) _ _ _ _
  rw [tailLen_select (fun k => readFullM k >>= fun d => liftE (decodeAddr (t :: x :: d))) _ hsel]
  refine Reads.bind (Reads.readFull tail rest) ?_
  rw [hdec, liftE_ok]
  exact Reads.pure _ _

theorem bind_ok_inv {m : M α} {f : α → M β} {s s' : St} {b : β} (h : (m >>= f) s = (.ok b, s')) :
    ∃ a s₁, m s = (.ok a, s₁) ∧ f a s₁ = (.ok b, s') := by
  rw [bind_def] at h
  split at h
  · exact ⟨_, _, ‹_›, h⟩
  · cases h

theorem liftE_ok_inv {x : Except Err α} {s s' : St} {a : α} (h : liftE x s = (.ok a, s')) : x = .ok a ∧ s = s' := by
  cases h; exact ⟨rfl, rfl⟩

theorem lookupUser_some {users : List (Bytes × Bytes)} {name : Bytes} {e : Bytes × Bytes}
    (h : lookupUser users name = some e) : e.1 = name ∧ e ∈ users := by
  unfold lookupUser at h
  exact ⟨by simpa using List.find?_some h, by simpa using List.mem_of_find?_eq_some h⟩

theorem newBuf_length : newBuf.length = 262 := List.length_replicate

theorem authMsg_append (U P X : Bytes) :
    authMsg U P ++ X = cAuthVersion :: u8 U.length :: (U ++ u8 P.length :: (P ++ X)) := by
  simp [authMsg]

end SSV.HS
