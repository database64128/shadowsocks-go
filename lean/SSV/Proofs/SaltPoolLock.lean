import SSV.Proofs.SaltPool
/-
C03: a body of `Add` that takes the mutex first, defers its release, holds no other lock statement and, run alone,
computes the atomic `add`, is linearizable when executed statement by statement: every interleaving yields the results
and the pool of running `add` over the calls that have returned, in the order in which they returned.
-/
namespace SSV.SaltPool

theorem seqAdds_snoc (P : Params) (p : Pool) (cs : List ACall) (c : ACall) :
    seqAdds P p (cs ++ [c]) =
      ((add P c.now c.salt (seqAdds P p cs).1).1, (seqAdds P p cs).2 ++ [(add P c.now c.salt (seqAdds P p cs).1).2]) := by
  induction cs generalizing p with
  | nil => simp [seqAdds]
  | cons d cs ih => simp [seqAdds, ih]

theorem execAdd_canonAdd (P : Params) (now : Nat) (s : Salt) (p : Pool) :
    execAdd P now s canonAdd p = some (add P now s p) := by
  simp only [canonAdd, execAdd, add]
  cases contains (pruneExpired now p) s <;> simp

theorem addBodyAtomic_shape {prog : List AddStep} (h : addBodyAtomic prog = true) :
    ∃ rest, prog = .lock :: .deferUnlock :: rest ∧ ∀ s ∈ rest, s ≠ .lock ∧ s ≠ .unlock ∧ s ≠ .deferUnlock := by
  unfold addBodyAtomic at h
  split at h
  · exact ⟨_, rfl, by simpa only [List.all_eq_true, Bool.and_eq_true, bne_iff_ne, and_assoc] using h⟩
  · cases h

theorem lockFirst_getElem? {rest : List AddStep} {pc : Nat} {step : AddStep}
    (h : (AddStep.lock :: .deferUnlock :: rest)[pc]? = some step) :
    (pc = 0 ∧ step = .lock) ∨ (pc = 1 ∧ step = .deferUnlock) ∨ (2 ≤ pc ∧ step ∈ rest) := by
  match pc with
  | 0 => cases h; exact Or.inl ⟨rfl, rfl⟩
  | 1 => cases h; exact Or.inr (Or.inl ⟨rfl, rfl⟩)
  | k + 2 => exact Or.inr (Or.inr ⟨by omega, List.mem_of_getElem? h⟩)

/-- not in the body: still before `Lock`, or returned -/
def Quiet (t : AThread) : Prop := t.pc = 0 ∨ t.result.isSome = true

/-- The holder of the mutex, which found the pool `abs` when it took it: running the rest of its body alone on the
present pool returns what the atomic `add` returns on `abs`. -/
def InCS (P : Params) (prog : List AddStep) (t : AThread) (pool abs : Pool) : Prop :=
  1 ≤ t.pc ∧ (2 ≤ t.pc → t.deferred = true) ∧
  execAdd P t.call.now t.call.salt (prog.drop t.pc) pool = some (add P t.call.now t.call.salt abs)

/-- `abs` is the pool of the sequential run over the calls that have returned; everybody but the holder is idle
(blocked on `Lock`) or has returned -/
def MInv (P : Params) (prog : List AddStep) (p₀ : Pool) (s : MState) : Prop :=
  ∃ abs, seqAdds P p₀ (s.hist.map (·.1)) = (abs, s.hist.map (·.2)) ∧
    (∀ (j : Nat) (t : AThread), s.threads[j]? = some t → some j ≠ s.holder → Quiet t) ∧
    match s.holder with
    | none => s.pool = abs
    | some h => ∃ t, s.threads[h]? = some t ∧ InCS P prog t s.pool abs

theorem forall_getElem?_set {α : Type} {p : Nat → α → Prop} {ts : List α} {i : Nat} {x : α}
    (h : ∀ (j : Nat) (t : α), ts[j]? = some t → j ≠ i → p j t) (hx : p i x) :
    ∀ (j : Nat) (t : α), (ts.set i x)[j]? = some t → p j t := by
  intro j t hj
  by_cases hij : i = j
  · subst hij
    obtain ⟨_, rfl⟩ := List.getElem?_eq_some_iff.mp hj
    rw [List.getElem_set_self]
    exact hx
  · exact h j t (List.getElem?_set_ne hij ▸ hj) (fun e => hij e.symm)

theorem minv_adv {P : Params} {prog : List AddStep} {p₀ abs pool' : Pool} {ts : List AThread} {hist : List (ACall × Bool)}
    {i : Nat} {t' : AThread} (hseq : seqAdds P p₀ (hist.map (·.1)) = (abs, hist.map (·.2)))
    (hq : ∀ (j : Nat) (t : AThread), ts[j]? = some t → j ≠ i → Quiet t) (hi : i < ts.length)
    (hcs : InCS P prog t' pool' abs) :
    MInv P prog p₀ { pool := pool', holder := some i, threads := ts.set i t', hist := hist } :=
  ⟨abs, hseq, forall_getElem?_set (fun j t hj hji _ => hq j t hj hji) (fun hne => absurd rfl hne), t',
    List.getElem?_set_self hi, hcs⟩

theorem minv_ret {P : Params} {prog : List AddStep} {p₀ abs pool : Pool} {ts : List AThread} {hist : List (ACall × Bool)}
    {i : Nat} {t : AThread} {b : Bool} (hseq : seqAdds P p₀ (hist.map (·.1)) = (abs, hist.map (·.2)))
    (hq : ∀ (j : Nat) (t : AThread), ts[j]? = some t → j ≠ i → Quiet t) (hd : t.deferred = true)
    (hadd : add P t.call.now t.call.salt abs = (pool, b)) :
    MInv P prog p₀ (mret { pool := pool, holder := some i, threads := ts, hist := hist } i t b) := by
  refine ⟨pool, ?_, ?_, ?_⟩
  · simp only [mret, List.map_append, List.map_cons, List.map_nil]
    rw [seqAdds_snoc, hseq, hadd]
  · exact forall_getElem?_set (fun j t hj hji _ => hq j t hj hji) (fun _ => Or.inr rfl)
  · simp [mret, hd]

theorem minv_step {P : Params} {prog rest : List AddStep} {p₀ : Pool} {s : MState}
    (hshape : prog = .lock :: .deferUnlock :: rest) (hrest : ∀ s ∈ rest, s ≠ .lock ∧ s ≠ .unlock ∧ s ≠ .deferUnlock)
    (hex : ∀ now s p, execAdd P now s prog p = some (add P now s p))
    (i : Nat) (hinv : MInv P prog p₀ s) : MInv P prog p₀ (microStep P prog s i) := by
  obtain ⟨pool, holder, ts, hist⟩ := s
  unfold microStep
  cases hti : ts[i]? with
  | none => exact hinv
  | some t =>
    dsimp only
    cases hres : t.result with
    | some b => exact hinv
    | none =>
    simp only [Option.isSome_none, Bool.false_eq_true, if_false]
    cases hstep : prog[t.pc]? with
    | none => exact hinv
    | some step =>
    obtain ⟨hlt, hget⟩ := List.getElem?_eq_some_iff.mp hstep
    have hi := (List.getElem?_eq_some_iff.mp hti).1
    have hdrop : prog.drop t.pc = step :: prog.drop (t.pc + 1) := hget ▸ List.drop_eq_getElem_cons hlt
    obtain ⟨abs, hseq, hq, hrel⟩ := hinv
    -- a thread that is not the holder and has not returned is idle: its next statement is `Lock`
    have hlock : some i ≠ holder → step = .lock ∧ t.pc = 0 := fun hne => by
      rcases hq i t hti hne with hpc | hdone
      · rw [hpc, hshape] at hstep; cases hstep; exact ⟨rfl, hpc⟩
      · rw [hres] at hdone; cases hdone
    cases holder with
    | none =>
      obtain ⟨rfl, hpc⟩ := hlock (by simp)
      refine minv_adv hseq (fun j t hj _ => hq j t hj (by simp)) hi ⟨by simp [hpc], by simp [hpc], ?_⟩
      -- from `pc = 1` the rest of the body is the whole body without `Lock`, and the pool is still `abs`
      have := hex t.call.now t.call.salt abs
      rw [hshape] at this ⊢
      rw [show pool = abs from hrel]
      rw [hpc]
      exact this
    | some h =>
      by_cases hih : i = h
      · subst hih
        obtain ⟨t0, ht0, hpc1, hdef, hrun⟩ := hrel
        rw [hti] at ht0; cases ht0
        rw [hdrop] at hrun
        have hq' : ∀ (j : Nat) (t : AThread), ts[j]? = some t → j ≠ i → Quiet t :=
          fun j t hj hji => hq j t hj (by simpa using hji)
        rcases lockFirst_getElem? (hshape ▸ hstep) with ⟨h0, _⟩ | ⟨_, rfl⟩ | ⟨h2, hmem⟩
        · omega
        · exact minv_adv hseq hq' hi ⟨by simp, fun _ => rfl, hrun⟩
        · have hd := hdef h2
          obtain ⟨hnl, hnu, hnd⟩ := hrest step hmem
          cases step with
          | lock | unlock | deferUnlock => simp at hnl hnu hnd
          | prune | insert => exact minv_adv hseq hq' hi ⟨by simp, fun _ => hd, hrun⟩
          | returnTrue => exact minv_ret hseq hq' hd (Option.some.inj hrun).symm
          | lookupReturnFalse =>
            simp only [execAdd] at hrun
            split at hrun
            · next hc => rw [if_pos hc]; exact minv_ret hseq hq' hd (Option.some.inj hrun).symm
            · next hc => rw [if_neg hc]; exact minv_adv hseq hq' hi ⟨by simp, fun _ => hd, hrun⟩
      · -- another thread: blocked on `Lock`
        obtain ⟨rfl, _⟩ := hlock (by simpa using hih)
        exact ⟨abs, hseq, hq, hrel⟩

theorem minv_init (P : Params) (prog : List AddStep) (p₀ : Pool) (calls : List ACall) :
    MInv P prog p₀ (minit p₀ calls) := by
  refine ⟨p₀, rfl, fun j t hj _ => ?_, rfl⟩
  simp only [minit, List.getElem?_map, Option.map_eq_some_iff] at hj
  obtain ⟨c, _, rfl⟩ := hj
  exact Or.inl rfl

theorem add_linearizable (P : Params) (prog : List AddStep) (hat : addBodyAtomic prog = true)
    (hex : ∀ now s p, execAdd P now s prog p = some (add P now s p))
    (p₀ : Pool) (calls : List ACall) (sched : List Nat) :
    let s := mrun P prog (minit p₀ calls) sched
    (seqAdds P p₀ (s.hist.map (·.1))).2 = s.hist.map (·.2) ∧
    (s.holder = none → s.pool = (seqAdds P p₀ (s.hist.map (·.1))).1) := by
  intro s
  obtain ⟨rest, hshape, hrest⟩ := addBodyAtomic_shape hat
  obtain ⟨abs, hseq, _, hrel⟩ : MInv P prog p₀ s :=
    List.foldlRecOn sched (microStep P prog) (minv_init P prog p₀ calls) fun _ h i _ => minv_step hshape hrest hex i h
  refine ⟨by rw [hseq], fun hn => ?_⟩
  rw [hn] at hrel
  rw [hseq]; exact hrel

end SSV.SaltPool
