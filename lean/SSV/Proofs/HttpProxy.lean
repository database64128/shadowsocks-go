import SSV.Model.HttpProxy
/-
C16: the hop-by-hop filter as the deletion of one list of names (`removed`), hence a `List.filter`; what `ServerHandle`
hands over; the invariants of the forwarding transition system (all interleavings of the two goroutines and the origin).
-/
namespace SSV.HttpProxy
open SSV.Gen.C16

theorem del_filter (h : Header) (p : Field → Bool) (k : Str) :
    del (h.filter p) k = h.filter (fun f => p f && (f.1 != k)) := by
  simp [del, List.filter_filter, Bool.and_comm]

theorem foldl_del (ks : List Str) (h : Header) :
    ks.foldl del h = h.filter (fun f => !ks.contains f.1) := by
  induction ks generalizing h with
  | nil => exact (List.filter_eq_self.mpr fun _ _ => rfl).symm
  | cons k ks ih =>
    rw [List.foldl_cons, ih, del, List.filter_filter]
    apply List.filter_congr
    intro f _
    by_cases hk : f.1 = k <;> simp [hk]

/-- the names `removeHopByHop` deletes, in the order in which it deletes them -/
def removed (conn : List Str) : List Str :=
  (options conn).filter (fun o => !keptOptions.contains o) ++ deletedFields

theorem delOptions_eq_foldl (h : Header) (opts : List Str) :
    delOptions h opts = (opts.filter (fun o => !keptOptions.contains o)).foldl del h := by
  rw [List.foldl_filter, delOptions]
  congr 1
  funext h o
  cases keptOptions.contains o <;> rfl

theorem removeHopByHop_eq_foldl (h : Header) (conn : List Str) :
    removeHopByHop h conn = (removed conn).foldl del h := by
  rw [removed, List.foldl_append, ← delOptions_eq_foldl, removeHopByHop]

/-- is `k` removed by the loop over the connection options? -/
def nominatedBy (opts : List Str) (k : Str) : Bool := opts.any (fun o => !keptOptions.contains o && o == k)

/-- the names the filter removes from a map, given the values of `Connection` -/
def forbidden (conn : List Str) (k : Str) : Bool := nominatedBy (options conn) k || deletedFields.contains k

theorem forbidden_eq (conn : List Str) (k : Str) : forbidden conn k = (removed conn).contains k := by
  simp only [forbidden, nominatedBy, removed, List.contains_eq_any_beq, List.any_filter, List.any_append, BEq.comm (a := k)]

theorem forbidden_eq_false_iff {conn : List Str} {k : Str} :
    forbidden conn k = false ↔
      deletedFields.contains k = false ∧ ∀ o ∈ options conn, keptOptions.contains o = false → k ≠ o := by
  rw [forbidden_eq, removed, List.contains_append, Bool.or_eq_false_iff, and_comm]
  refine and_congr_right fun _ => ?_
  rw [← Bool.not_eq_true, List.contains_iff_mem, List.mem_filter]
  exact ⟨fun h o ho hk e => h ⟨e ▸ ho, by rw [e, hk]; rfl⟩, fun h ⟨ho, hk⟩ => h k ho (by simpa using hk) rfl⟩

theorem removeHopByHop_filter (h : Header) (conn : List Str) :
    removeHopByHop h conn = h.filter (fun f => !forbidden conn f.1) := by
  simp only [removeHopByHop_eq_foldl, foldl_del, forbidden_eq]

theorem basicAuth_nil (h : Header) : basicAuth [] h = false := by
  unfold basicAuth
  split <;> simp

theorem serverHandle_forward {auth : Option (List Str)} {msgs : List ClientMsg} {n k : Nat} {first : Req} {rest : List ClientMsg}
    (h : serverHandle auth msgs n = .forward k first rest) :
    authOk auth first.header = true ∧ first.method ≠ connectLit ∧
    ∃ pre ok, msgs = pre ++ ClientMsg.req first ok :: rest ∧ k = n + pre.length ∧
      ∀ m ∈ pre, ∃ r ok', m = ClientMsg.req r ok' ∧ authOk auth r.header = false ∧ r.close = false := by
  fun_induction serverHandle auth msgs n with
  | case4 r ok ms n ha hc ih =>  -- refused, keep-alive
    obtain ⟨h1, h2, pre, ok', rfl, rfl, hp⟩ := ih h
    refine ⟨h1, h2, .req r ok :: pre, ok', rfl, Nat.add_right_comm .., ?_⟩
    exact List.forall_mem_cons.mpr ⟨⟨r, ok, rfl, by simpa using ha, by simpa using hc⟩, hp⟩
  | case7 r ms n ha hm =>  -- handed over (`ok` is `true`)
    obtain ⟨rfl, rfl, rfl⟩ := Handled.forward.inj h
    exact ⟨by simpa using ha, by simpa using hm, [], true, rfl, rfl, nofun⟩
  | _ => contradiction

theorem filterReq_host (r : Req) : (filterReq r).host = r.host := by rw [filterReq]
theorem filterReq_method (r : Req) : (filterReq r).method = r.method := by rw [filterReq]
theorem filterReq_close (r : Req) : (filterReq r).close = r.close := by rw [filterReq]

theorem accepts_some {fh : Str} {m : ClientMsg} {r : Req} (h : accepts fh m = some r) :
    r.host = fh ∧ r.method ≠ connectLit := by
  revert h
  fun_cases accepts fh m with
  | case4 q _ hc hh =>  -- neither test fires
    rintro ⟨⟩
    exact ⟨by simpa [filterReq_host] using hh, by simpa [filterReq_method] using hc⟩
  | _ => nofun

theorem forwardList_ok {fh : Str} {msgs : List ClientMsg} :
    ∀ r ∈ forwardList fh msgs, r.host = fh ∧ r.method ≠ connectLit := by
  fun_induction forwardList fh msgs with
  | case2 m ms r' ha ih =>  -- head accepted
    exact List.forall_mem_cons.mpr ⟨accepts_some ha, ih⟩
  | _ => nofun

theorem filterResp_status (p : Resp) (q : Req) : (filterResp p q).1.status = p.status := by
  simp only [filterResp, ingestResp]
  split <;> rfl

theorem filterResp_status_of {p p' : Resp} {q : Req} {c : Bool} (h : filterResp p q = (p', c)) : p'.status = p.status := by
  simpa [h] using filterResp_status p q

/-- the requests the final responses of a delivery list were paired with, in order -/
def finalsOf (l : List (Resp × Req)) : List Req := (l.filter (fun e => isFinal e.1.status)).map (·.2)

theorem finalsOf_cons (e : Resp × Req) (l : List (Resp × Req)) :
    finalsOf (e :: l) = if isFinal e.1.status then e.2 :: finalsOf l else finalsOf l := by
  rw [finalsOf, List.filter_cons]
  split <;> rfl

abbrev Entry := Resp × Req × Nat

def countFinals (l : List Entry) : Nat := (l.filter (fun e => isFinal e.1.status)).length

theorem countFinals_snoc (l : List Entry) (e : Entry) :
    countFinals (l ++ [e]) = countFinals l + (if isFinal e.1.status then 1 else 0) := by
  unfold countFinals
  rw [List.filter_append, List.length_append]
  by_cases h : isFinal e.1.status = true <;> simp [h]

/-- every delivery carries the number of final deliveries before it as its index, and the request at that position
    of `reqs` as its request -/
def Paired (reqs : List Req) (l : List Entry) : Prop :=
  ∀ (i : Nat) (h : i < l.length), (l[i]).2.2 = countFinals (l.take i) ∧ reqs[(l[i]).2.2]? = some (l[i]).2.1

theorem prefix_getElem? {α : Type} {l₁ l₂ : List α} {i : Nat} {a : α} (hp : l₁ <+: l₂) (h : l₁[i]? = some a) :
    l₂[i]? = some a := by
  obtain ⟨hi, rfl⟩ := List.getElem?_eq_some_iff.mp h
  exact List.prefix_iff_getElem?.mp hp i hi

theorem Paired.mono {reqs reqs' : List Req} {l : List Entry} (hp : Paired reqs l) (h : reqs <+: reqs') : Paired reqs' l :=
  fun i hi => ⟨(hp i hi).1, prefix_getElem? h (hp i hi).2⟩

theorem paired_snoc {reqs : List Req} {l : List Entry} {e : Entry} (hp : Paired reqs l)
    (h1 : e.2.2 = countFinals l) (h2 : reqs[e.2.2]? = some e.2.1) : Paired reqs (l ++ [e]) := by
  intro i h
  rw [List.length_append, List.length_singleton] at h
  rcases Nat.lt_or_ge i l.length with hlt | hge
  · rw [List.getElem_append_left hlt, List.take_append_of_le_length (Nat.le_of_lt hlt)]
    exact hp i hlt
  · obtain rfl : i = l.length := by omega
    rw [List.getElem_concat_length rfl, List.take_left' rfl]
    exact ⟨h1, h2⟩

/-- The logs of the two forwarders against each other. What was announced is what was taken plus the queue (`split`); as many
    requests were taken as final responses were written, plus the one being served, which is the last taken (`tlen`, `rlast`,
    `rnone`); every delivery sits at its request's position in `sent` (`paired`); `announced` (while the response forwarder runs)
    and `originIn` are `sent`, short of its last element until the announcement resp. the write (`annSent`, `origSent`). -/
structure PInv (s : St) : Prop where
  doneIff : s.rphase = .done ↔ s.respDone = true
  split : s.announced = s.taken ++ s.queue
  tlen : s.taken.length = countFinals s.clientOut + (if s.rcur.isSome then 1 else 0)
  rlast : ∀ q, s.rcur = some q → ∃ pre, s.taken = pre ++ [q]
  rnone : (s.rphase = .peek ∨ s.rphase = .take) → s.rcur = none
  paired : Paired s.sent s.clientOut
  annSent : s.respDone = false →
    (s.fphase = .announce → ∃ r, s.sent = s.announced ++ [r]) ∧ (s.fphase ≠ .announce → s.announced = s.sent)
  origSent : s.originIn <+: s.sent ∧
    ((s.fphase = .announce ∨ s.fphase = .write) → ∃ r, s.sent = s.originIn ++ [r]) ∧
    (s.fphase = .read → s.originIn = s.sent)

theorem PInv.live {s : St} (hi : PInv s) (h : s.rphase ≠ .done) : s.respDone = false :=
  Bool.eq_false_iff.mpr fun hd => h (hi.doneIff.mpr hd)

/-- The request being served sits in `sent` at the number of final responses written so far: it is the last one taken,
    `tlen` counts the taken ones, and what was announced was sent. -/
theorem PInv.cur_at {s : St} (hi : PInv s) {q : Req} (hc : s.rcur = some q) (hnd : s.respDone = false) :
    s.taken.length = countFinals s.clientOut + 1 ∧ s.sent[countFinals s.clientOut]? = some q := by
  obtain ⟨pre, hpre⟩ := hi.rlast q hc
  have hlen : s.taken.length = countFinals s.clientOut + 1 := by rw [hi.tlen, hc]; rfl
  have hpl : pre.length = countFinals s.clientOut := by simpa [hpre] using hlen
  have hann : s.announced[countFinals s.clientOut]? = some q := by
    rw [hi.split, hpre, ← hpl]; simp
  refine ⟨hlen, ?_⟩
  by_cases hf : s.fphase = .announce
  · obtain ⟨r', hr'⟩ := (hi.annSent hnd).1 hf
    rw [hr']; exact prefix_getElem? (List.prefix_append _ _) hann
  · rw [← (hi.annSent hnd).2 hf]; exact hann

theorem pinv_reachable {first : Req} {rest : List ClientMsg} {s : St} (hr : Reachable first rest s) : PInv s := by
  induction hr with
  | init =>
    exact {
      doneIff := by simp [St.init]
      split := rfl
      tlen := rfl
      rlast := nofun
      rnone := fun _ => rfl
      paired := nofun
      annSent := fun _ => ⟨fun _ => ⟨_, rfl⟩, fun h => absurd rfl h⟩
      origSent := ⟨List.nil_prefix, fun _ => ⟨_, rfl⟩, nofun⟩ }
  | @step s _ _ hs hi =>
    cases hs with
    | fAnnounce pre r hp hsent hq =>
      exact { hi with
        split := by simp only [hi.split, List.append_assoc]
        annSent := fun hd => ⟨fun h => by simp at h, fun _ => by
          obtain ⟨r', hr'⟩ := (hi.annSent hd).1 hp
          rw [hsent, ← (List.append_singleton_inj.mp (hsent.symm.trans hr')).1]⟩
        origSent := ⟨hi.origSent.1, fun _ => hi.origSent.2.1 (Or.inl hp), fun h => by simp at h⟩ }
    | fSkip hp hd =>
      exact { hi with
        annSent := fun hd' => by simp only at hd'; rw [hd] at hd'; cases hd'
        origSent := ⟨hi.origSent.1, fun _ => hi.origSent.2.1 (Or.inl hp), fun h => by simp at h⟩ }
    | fWrite pre r hp hsent =>
      obtain ⟨r', hr'⟩ := hi.origSent.2.1 (Or.inr hp)
      have hfin : s.originIn ++ [r] = s.sent := by rw [hsent, ← (List.append_singleton_inj.mp (hsent.symm.trans hr')).1]
      exact { hi with
        annSent := fun hd => ⟨fun h => by simp at h, fun _ => (hi.annSent hd).2 (by simp [hp])⟩
        origSent := ⟨hfin ▸ List.prefix_refl _, fun h => by simp at h, fun _ => hfin⟩ }
    | fReadOk m rest r hp hc ha =>
      exact { hi with
        paired := hi.paired.mono (List.prefix_append _ _)
        annSent := fun hd => ⟨fun _ => ⟨r, by rw [← (hi.annSent hd).2 (by simp [hp])]⟩, fun h => by simp at h⟩
        origSent := ⟨hi.origSent.1.trans (List.prefix_append _ _), fun _ => ⟨r, by rw [← hi.origSent.2.2 hp]⟩,
          fun h => by simp at h⟩ }
    | fWriteErr hp | fReadEnd hp _ =>
      exact { hi with
        annSent := fun hd => ⟨fun h => by simp at h, fun _ => (hi.annSent hd).2 (by simp [hp])⟩
        origSent := ⟨hi.origSent.1, fun h => by simp at h, fun h => by simp at h⟩ }
    | origin p => exact { hi with }
    | rPeek hp hne =>
      exact { hi with
        doneIff := by simp [hi.live (by simp [hp])]
        rnone := fun _ => hi.rnone (Or.inl hp) }
    | rTake r rest hp hq =>
      exact { hi with
        doneIff := by simp [hi.live (by simp [hp])]
        split := by simp [hi.split, hq]
        tlen := by simp only [List.length_append, hi.tlen, hi.rnone (Or.inr hp)]; rfl
        rlast := fun q hq' => ⟨s.taken, by rw [Option.some.inj hq']⟩
        rnone := fun h => by simp at h }
    | rRead p rest q hp hc ho =>
      have hnd := hi.live (by simp [hp])
      obtain ⟨hlen, hsent⟩ := hi.cur_at hc hnd
      have hidx : s.taken.length - 1 = countFinals s.clientOut := by omega
      exact { hi with
        -- the new phase is chosen by the same Boolean that `respDone` is set to
        doneIff := by cases (filterResp p q).2 <;> cases isFinal p.status <;> simp
        tlen := by
          rw [countFinals_snoc, filterResp_status, hlen]
          cases isFinal p.status <;> rfl
        rlast := fun q' hq' => by
          by_cases hf : isFinal p.status = true
          · simp [hf] at hq'
          · simp [hf] at hq'; exact hq' ▸ hi.rlast q hc
        rnone := by cases (filterResp p q).2 <;> cases isFinal p.status <;> simp
        paired := paired_snoc hi.paired hidx (by rw [hidx]; exact hsent)
        annSent := fun _ => hi.annSent hnd }
    | rPeekEnd | rTakeClosed | rErr =>
      exact { hi with doneIff := by simp, rnone := fun h => by simp at h, annSent := fun h => by simp at h }

theorem rphase_done_absorbing {s t : St} (hs : Step s t) (hd : s.rphase = .done) :
    t.rphase = .done ∧ t.clientOut = s.clientOut := by
  -- every step of the response forwarder starts in `peek`, `take` or `read`; no other step touches the two fields
  cases hs <;> simp_all

/-- What the request forwarder has accepted against the client's input: together with what it would still accept of the
    unread input, the first request followed by the forwardable ones (a forwarder that has returned reads no more, so this
    holds in `done` as well); and the bound of `reqCh`. -/
structure FInv (first : Req) (rest : List ClientMsg) (s : St) : Prop where
  host : s.fixedHost = first.host
  whole : s.sent ++ forwardList first.host s.clientIn = filterReq first :: forwardList first.host rest
  qcap : s.queue.length ≤ queueCap

theorem FInv.pre {first : Req} {rest : List ClientMsg} {s : St} (h : FInv first rest s) :
    s.sent <+: filterReq first :: forwardList first.host rest := ⟨_, h.whole⟩

theorem finv_reachable {first : Req} {rest : List ClientMsg} {s : St} (hr : Reachable first rest s) : FInv first rest s := by
  induction hr with
  | init => exact ⟨rfl, rfl, Nat.zero_le _⟩
  | step _ hs ih =>
    cases hs with
    | fAnnounce _ _ _ _ hq => exact { ih with qcap := by simp; omega }
    | fReadOk m rest' r _ hc ha =>
      have hl := ih.whole
      rw [ih.host] at ha
      rw [hc, forwardList, ha] at hl
      exact { ih with whole := (List.append_assoc ..).trans hl }
    | rTake r rest' _ hq => exact { ih with qcap := by have := ih.qcap; rw [hq] at this; exact Nat.le_of_succ_le this }
    | _ => exact { ih with }

theorem originIn_ok {first : Req} {rest : List ClientMsg} (hm : first.method ≠ connectLit) {s : St}
    (hr : Reachable first rest s) : ∀ r ∈ s.originIn, r.host = first.host ∧ r.method ≠ connectLit := by
  intro r h
  -- originIn <+: sent <+: the first request followed by the forwardable ones
  rcases List.mem_cons.mp ((finv_reachable hr).pre.subset ((pinv_reachable hr).origSent.1.subset h)) with rfl | h'
  · exact ⟨filterReq_host _, by rwa [filterReq_method]⟩
  · exact forwardList_ok r h'

end SSV.HttpProxy
