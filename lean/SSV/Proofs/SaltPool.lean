import SSV.Proofs.SaltPoolTs
/-
C03: the salt pool and the accept logic of `HandleStream`, on histories over a monotone clock.
-/
namespace SSV.SaltPool

theorem contains_iff (p : Pool) (s : Salt) : contains p s = true ↔ ∃ n ∈ p, n.salt = s := by
  simp only [contains, List.any_eq_true, beq_iff_eq]

theorem pruneExpired_suffix (now : Nat) (p : Pool) : pruneExpired now p <:+ p := by
  fun_induction pruneExpired now p with
  -- head expired: dropped
  | case3 n rest _ ih => exact ih.trans (List.suffix_cons n rest)
  | _ => exact List.suffix_refl _

theorem mem_of_mem_prune {now : Nat} {p : Pool} {n : Node} (h : n ∈ pruneExpired now p) : n ∈ p :=
  (pruneExpired_suffix now p).subset h

theorem mem_prune_of_live {now : Nat} {p : Pool} {n : Node} (h : n ∈ p) (hl : now < n.expiresAt) :
    n ∈ pruneExpired now p := by
  fun_induction pruneExpired now p with
  -- head expired: dropped
  | case3 m rest _ ih =>
    rcases List.mem_cons.mp h with rfl | h'
    · omega
    · exact ih h'
  | _ => exact h

theorem pruneExpired_eq_self {now : Nat} {p : Pool} (h : ∀ n ∈ p, now < n.expiresAt) : pruneExpired now p = p := by
  cases p with
  | nil => rfl
  | cons n rest => exact if_pos (h n List.mem_cons_self)

theorem add_cases (P : Params) (now : Nat) (s : Salt) (p : Pool) :
    ((add P now s p).2 = false ∧ (add P now s p).1 = pruneExpired now p ∧ contains (pruneExpired now p) s = true) ∨
    ((add P now s p).2 = true ∧ (add P now s p).1 = pruneExpired now p ++ [{ salt := s, expiresAt := now + P.window }]
      ∧ contains (pruneExpired now p) s = false) := by
  unfold add
  cases h : contains (pruneExpired now p) s <;> simp [h, insert]

theorem mem_add_of_live {P : Params} {now : Nat} {s : Salt} {p : Pool} {n : Node} (h : n ∈ p) (hl : now < n.expiresAt) :
    n ∈ (add P now s p).1 := by
  have hm := mem_prune_of_live h hl
  rcases add_cases P now s p with ⟨_, h1, _⟩ | ⟨_, h1, _⟩ <;> rw [h1]
  · exact hm
  · exact List.mem_append_left _ hm

theorem add_false_of_live {P : Params} {now : Nat} {p : Pool} {n : Node} (h : n ∈ p) (hl : now < n.expiresAt) :
    (add P now n.salt p).2 = false := by
  have hc : contains (pruneExpired now p) n.salt = true := (contains_iff _ _).mpr ⟨n, mem_prune_of_live h hl, rfl⟩
  simp [add, hc]

theorem add_true_mem {P : Params} {now : Nat} {s : Salt} {p : Pool} (h : (add P now s p).2 = true) :
    ({ salt := s, expiresAt := now + P.window } : Node) ∈ (add P now s p).1 := by
  rcases add_cases P now s p with ⟨h0, _, _⟩ | ⟨_, h1, _⟩
  · rw [h0] at h; cases h
  · rw [h1]; simp

theorem add_true_of_absent {P : Params} {now : Nat} {s : Salt} {p : Pool} (h : contains p s = false) :
    (add P now s p).2 = true := by
  rcases add_cases P now s p with ⟨_, _, hc⟩ | ⟨h1, _, _⟩
  · obtain ⟨n, hn, hs⟩ := (contains_iff _ _).mp hc
    rw [(contains_iff _ _).mpr ⟨n, mem_of_mem_prune hn, hs⟩] at h; cases h
  · exact h1

theorem tryContains_of_absent {c : Bool} {pool : Pool} {s : Salt} (h : contains pool s = false) :
    tryContains c pool s = false := by
  cases c <;> simp [tryContains, h]

section
-- In the three proofs below the flags a stage looks at are fixed one after the other; with them `simp` runs the
-- stages (`runStages`, `stageStep`) up to the first one that ends the handshake.
attribute [local simp] handle handleStages phase1 phase2 phase1Stages phase2Stages runStages stageStep Request.forged

theorem phase1_cases (P : Params) (c : Bool) (r : Request) (pool : Pool) :
    (phase1 P c r pool = none ∧ r.forged = false ∧ tryContains c pool r.salt = false) ∨
    (∃ v, phase1 P c r pool = some v ∧ v ≠ .accepted ∧
        (r.forged = true ∨ (tryContains c pool r.salt = true ∧ v = .repeatedSalt))) := by
  cases h1 : r.complete with
  | false => simp [*]
  | true =>
  cases h2 : tryContains c pool r.salt with
  | true => simp [*]
  | false =>
  cases h3 : r.prefixOk with
  | false => simp [*]
  | true =>
  cases h4 : r.userOk with
  | false => simp [*]
  | true => cases h5 : r.authOk <;> simp [*]

theorem phase2_cases (P : Params) (now : Nat) (r : Request) (pool : Pool) :
    ((phase2 P now r pool).1 = pool ∧ (phase2 P now r pool).2 ≠ .accepted ∧
      (r.typeOk = false ∨ tsValid P r.ts now = false)) ∨
    (r.typeOk = true ∧ tsValid P r.ts now = true ∧ (phase2 P now r pool).1 = (add P now r.salt pool).1 ∧
      (phase2 P now r pool).2 =
        (if (add P now r.salt pool).2 then (if r.bodyOk then Verdict.accepted else Verdict.lateError) else Verdict.repeatedSalt)) := by
  cases h6 : r.typeOk with
  | false => simp [*]
  | true =>
  cases h7 : tsValid P r.ts now with
  | false => simp [*]
  | true =>
  cases h8 : (add P now r.salt pool).2 with
  | false => simp [*]
  | true => cases h9 : r.bodyOk <;> simp [*]

theorem handle_eq_phases (P : Params) (c : Bool) (now : Nat) (r : Request) (pool : Pool) :
    handle P c now r pool =
      match phase1 P c r pool with
      | some v => (pool, v)
      | none => phase2 P now r pool := by
  cases h1 : r.complete with
  | false => simp [*]
  | true =>
  cases h2 : tryContains c pool r.salt with
  | true => simp [*]
  | false =>
  cases h3 : r.prefixOk with
  | false => simp [*]
  | true =>
  cases h4 : r.userOk with
  | false => simp [*]
  | true => cases h5 : r.authOk <;> simp [*]

end

theorem handle_cases (P : Params) (c : Bool) (now : Nat) (r : Request) (pool : Pool) :
    ((handle P c now r pool).1 = pool ∧ (handle P c now r pool).2 ≠ .accepted ∧
      (r.forged = true ∨ (tryContains c pool r.salt = true ∧ (handle P c now r pool).2 = .repeatedSalt) ∨
        r.typeOk = false ∨ tsValid P r.ts now = false)) ∨
    (r.forged = false ∧ tryContains c pool r.salt = false ∧ r.typeOk = true ∧ tsValid P r.ts now = true ∧
      (handle P c now r pool).1 = (add P now r.salt pool).1 ∧
      (handle P c now r pool).2 =
        (if (add P now r.salt pool).2 then (if r.bodyOk then Verdict.accepted else Verdict.lateError) else Verdict.repeatedSalt)) := by
  rw [handle_eq_phases]
  rcases phase1_cases P c r pool with ⟨h1, hf, htc⟩ | ⟨v, h1, hna, hwhy⟩ <;> rw [h1]
  · rcases phase2_cases P now r pool with ⟨hp, hna, hwhy⟩ | ⟨ht, hv, hp, hverd⟩
    · exact Or.inl ⟨hp, hna, Or.inr (Or.inr hwhy)⟩
    · exact Or.inr ⟨hf, htc, ht, hv, hp, hverd⟩
  · exact Or.inl ⟨rfl, hna, hwhy.imp_right Or.inl⟩

theorem handle_accepted {P : Params} {c : Bool} {now : Nat} {r : Request} {pool : Pool}
    (h : (handle P c now r pool).2 = .accepted) :
    r.forged = false ∧ tsValid P r.ts now = true ∧
    (add P now r.salt pool).2 = true ∧ (handle P c now r pool).1 = (add P now r.salt pool).1 := by
  rcases handle_cases P c now r pool with ⟨_, hna, _⟩ | ⟨hf, _, _, hv, hp, hverd⟩
  · exact absurd h hna
  · rw [hverd] at h
    split at h
    · exact ⟨hf, hv, ‹_›, hp⟩
    · cases h

theorem handle_pool (P : Params) (c : Bool) (now : Nat) (r : Request) (pool : Pool) :
    (handle P c now r pool).1 = pool ∨
    (r.forged = false ∧ (handle P c now r pool).1 = (add P now r.salt pool).1) := by
  rcases handle_cases P c now r pool with ⟨hp, _⟩ | ⟨hf, _, _, _, hp, _⟩
  · exact Or.inl hp
  · exact Or.inr ⟨hf, hp⟩

theorem handle_not_accepted_of_live {P : Params} {c : Bool} {now : Nat} {r : Request} {pool : Pool} {n : Node}
    (h : n ∈ pool) (hs : n.salt = r.salt) (hl : now < n.expiresAt) : (handle P c now r pool).2 ≠ .accepted := by
  intro ha
  have := (handle_accepted ha).2.2.1
  rw [← hs, add_false_of_live h hl] at this
  cases this

theorem outcome_of_refused {fb g : Bool} {v : Verdict} (h1 : v ≠ .accepted) (h2 : v ≠ .lateError) :
    outcome fb g v = if fb && g then .fallback v else .error v := by
  unfold outcome
  split
  · contradiction
  · contradiction
  · rfl

theorem outcome_accepted_iff (fb g : Bool) (v : Verdict) : outcome fb g v = .accepted ↔ v = .accepted := by
  refine ⟨fun h => Classical.byContradiction fun h1 => ?_, fun h => h ▸ rfl⟩
  by_cases h2 : v = .lateError
  · rw [h2] at h; cases h
  · rw [outcome_of_refused h1 h2] at h; split at h <;> cases h

theorem outcome_fallback {fb g : Bool} {v w : Verdict} (h : outcome fb g v = .fallback w) :
    v = w ∧ fb = true ∧ g = true ∧ v ≠ .accepted ∧ v ≠ .lateError := by
  have h1 : v ≠ .accepted := fun e => by rw [e] at h; cases h
  have h2 : v ≠ .lateError := fun e => by rw [e] at h; cases h
  rw [outcome_of_refused h1 h2] at h
  split at h
  · next hb =>
    cases h
    simp only [Bool.and_eq_true] at hb
    exact ⟨rfl, hb.1, hb.2, h1, h2⟩
  · cases h

theorem handleStream_fst (P : Params) (fb g c : Bool) (now : Nat) (r : Request) (pool : Pool) :
    (handleStream P fb g c now r pool).1 = (handle P c now r pool).1 := rfl

theorem handleStream_snd (P : Params) (fb g c : Bool) (now : Nat) (r : Request) (pool : Pool) :
    (handleStream P fb g c now r pool).2 = outcome fb g (handle P c now r pool).2 := rfl

/-- a genuine request: every check other than the timestamp and the salt lookup passes -/
def Good (r : Request) : Prop :=
  r.complete = true ∧ r.prefixOk = true ∧ r.userOk = true ∧ r.authOk = true ∧ r.typeOk = true ∧ r.bodyOk = true

theorem Good.not_forged {r : Request} (h : Good r) : r.forged = false := by
  obtain ⟨g1, g2, g3, g4, _⟩ := h
  simp [Request.forged, g1, g2, g3, g4]

theorem Good.typeOk {r : Request} (h : Good r) : r.typeOk = true := h.2.2.2.2.1

theorem Good.bodyOk {r : Request} (h : Good r) : r.bodyOk = true := h.2.2.2.2.2

theorem genuine_good (salt : Salt) (ts : BitVec 64) : Good (genuine salt ts) := ⟨rfl, rfl, rfl, rfl, rfl, rfl⟩

theorem handle_good_valid {P : Params} {c : Bool} {now : Nat} {r : Request} {pool : Pool} (hg : Good r)
    (hv : tsValid P r.ts now = true) :
    (tryContains c pool r.salt = true ∧ handle P c now r pool = (pool, .repeatedSalt)) ∨
    handle P c now r pool =
      ((add P now r.salt pool).1, if (add P now r.salt pool).2 then .accepted else .repeatedSalt) := by
  rcases handle_cases P c now r pool with ⟨hp, _, hf | ⟨htc, hr⟩ | ht | hv'⟩ | ⟨_, _, _, _, hp, hverd⟩
  · rw [hg.not_forged] at hf; cases hf
  · exact Or.inl ⟨htc, Prod.ext hp hr⟩
  · rw [hg.typeOk] at ht; cases ht
  · rw [hv] at hv'; cases hv'
  · simp only [hg.bodyOk, if_true] at hverd
    exact Or.inr (Prod.ext hp hverd)

theorem handle_good_fresh {P : Params} {c : Bool} {now : Nat} {r : Request} {pool : Pool} (hg : Good r)
    (hfresh : contains pool r.salt = false) (hv : tsValid P r.ts now = true) :
    handle P c now r pool = (pruneExpired now pool ++ [{ salt := r.salt, expiresAt := now + P.window }], .accepted) := by
  rcases handle_good_valid (c := c) (pool := pool) hg hv with ⟨htc, _⟩ | h
  · rw [tryContains_of_absent hfresh] at htc; cases htc
  · rcases add_cases P now r.salt pool with ⟨h0, _, _⟩ | ⟨h0, h1, _⟩
    · rw [add_true_of_absent hfresh] at h0; cases h0
    · rw [h, h0, h1]; rfl

theorem handle_repeated_of_live {P : Params} {c : Bool} {now : Nat} {r : Request} {pool : Pool} {n : Node}
    (hg : Good r) (hv : tsValid P r.ts now = true) (h : n ∈ pool) (hs : n.salt = r.salt) (hl : now < n.expiresAt) :
    (handle P c now r pool).2 = .repeatedSalt ∧
    ((handle P c now r pool).1 = pool ∨ (handle P c now r pool).1 = pruneExpired now pool) := by
  rcases handle_good_valid (c := c) (pool := pool) hg hv with ⟨_, e⟩ | e <;> rw [e]
  · exact ⟨rfl, Or.inl rfl⟩
  · rcases add_cases P now r.salt pool with ⟨h0, h1, _⟩ | ⟨h0, _, _⟩
    · exact ⟨by rw [h0]; rfl, Or.inr h1⟩
    · rw [← hs, add_false_of_live h hl] at h0; cases h0

theorem handle_refused_pool {P : Params} {c : Bool} {now : Nat} {r : Request} {pool : Pool}
    (h1 : (handle P c now r pool).2 ≠ .accepted) (h2 : (handle P c now r pool).2 ≠ .lateError) :
    (handle P c now r pool).1 = pool ∨
    ((handle P c now r pool).1 = pruneExpired now pool ∧ (handle P c now r pool).2 = .repeatedSalt) := by
  rcases handle_cases P c now r pool with ⟨hp, _⟩ | ⟨_, _, _, _, hp, hv⟩
  · exact Or.inl hp
  · right
    rcases add_cases P now r.salt pool with ⟨h0, hp1, _⟩ | ⟨h0, _, _⟩
    · exact ⟨hp.trans hp1, by rw [hv, h0]; rfl⟩
    · exfalso
      rw [hv, h0] at h1 h2
      cases hb : r.bodyOk <;> simp [hb] at h1 h2

theorem run_append (P : Params) (s : State) (a b : List Op) : run P s (a ++ b) = run P (run P s a) b := by
  induction a generalizing s with
  | nil => rfl
  | cons o a ih => simp [run, ih]

theorem run_inv {P : Params} {Inv : State → Prop} (hstep : ∀ st o, Inv st → Inv (step P st o).1) {st : State}
    (ops : List Op) (h : Inv st) : Inv (run P st ops) := by
  induction ops generalizing st with
  | nil => exact h
  | cons o ops ih => exact ih (hstep st o h)

def NotDroppedEarly (n : Node) (st : State) : Prop := n ∈ st.pool ∨ n.expiresAt ≤ st.now

theorem notDroppedEarly_step {P : Params} {n : Node} {st : State} (o : Op) (h : NotDroppedEarly n st) : NotDroppedEarly n (step P st o).1 := by
  cases o with
  | advance d => exact h.imp_right (fun h => Nat.le_trans h (Nat.le_add_right _ _))
  | present r c =>
    refine h.elim (fun hm => ?_) Or.inr
    by_cases hl : st.now < n.expiresAt
    · left
      show n ∈ (handle P c st.now r st.pool).1
      rcases handle_pool P c st.now r st.pool with hp | ⟨_, hp⟩ <;> rw [hp]
      · exact hm
      · exact mem_add_of_live hm hl
    · exact Or.inr (Nat.le_of_not_lt hl)

theorem mem_run_of_live {P : Params} {n : Node} {st : State} (ops : List Op) (h : n ∈ st.pool)
    (hl : (run P st ops).now < n.expiresAt) : n ∈ (run P st ops).pool :=
  (run_inv (Inv := NotDroppedEarly n) (fun _ o => notDroppedEarly_step o) ops (Or.inl h)).resolve_right
    (Nat.not_le_of_lt hl)

/-- `hside` is the side condition "salts are retained at least as long as a timestamp validates". -/
theorem accepted_stays_live {P : Params} (hside : (2 * P.maxEpochDiff + 1) * nsPerSec ≤ P.window)
    {s₁ : State} {r : Request} {c : Bool} (ops : List Op) (hacc : (handle P c s₁.now r s₁.pool).2 = .accepted)
    (hc1 : ClockOk P s₁.now) :
    let s₂ := run P (step P s₁ (.present r c)).1 ops
    ClockOk P s₂.now → tsValid P r.ts s₂.now = true → ∃ n ∈ s₂.pool, n.salt = r.salt ∧ s₂.now < n.expiresAt := by
  intro s₂ hc2 hv2
  obtain ⟨_, hv1, hadd, hpool⟩ := handle_accepted hacc
  have hn : ({ salt := r.salt, expiresAt := s₁.now + P.window } : Node) ∈ (step P s₁ (.present r c)).1.pool := by
    show _ ∈ (handle P c s₁.now r s₁.pool).1
    rw [hpool]; exact add_true_mem hadd
  have hspan := valid_span P r.ts s₁.now _ hc1 hc2 hv1 hv2
  have hlt : s₂.now < s₁.now + P.window := by omega
  exact ⟨_, mem_run_of_live ops hn hlt, rfl, hlt⟩

def SaltsNodup (p : Pool) : Prop := (p.map (·.salt)).Nodup

theorem SaltsNodup.sublist {p q : Pool} (h : SaltsNodup p) (hs : q.Sublist p) : SaltsNodup q :=
  List.Nodup.sublist (List.Sublist.map _ hs) h

theorem nodup_add (P : Params) (now : Nat) (s : Salt) (p : Pool) (h : SaltsNodup p) : SaltsNodup (add P now s p).1 := by
  have hN : SaltsNodup (pruneExpired now p) := h.sublist (pruneExpired_suffix now p).sublist
  rcases add_cases P now s p with ⟨_, h1, _⟩ | ⟨_, h1, hc⟩ <;> rw [h1]
  · exact hN
  · unfold SaltsNodup
    rw [List.map_append, List.map_singleton]
    refine List.nodup_append.mpr ⟨hN, by simp, ?_⟩
    intro a ha b hb
    rw [List.mem_singleton.mp hb]
    rintro rfl
    obtain ⟨n, hn, hns⟩ := List.mem_map.mp ha
    rw [(contains_iff _ _).mpr ⟨n, hn, hns⟩] at hc; cases hc

/-- expiry order = insertion order -/
def Sorted (p : Pool) : Prop := p.Pairwise (fun a b => a.expiresAt ≤ b.expiresAt)

/-- `nodup`: the code's map `nodeBySalt` and its linked list hold the same nodes. -/
structure WF (P : Params) (st : State) : Prop where
  sorted : Sorted st.pool
  bound : ∀ n ∈ st.pool, n.expiresAt ≤ st.now + P.window
  nodup : (st.pool.map (·.salt)).Nodup

theorem wf_empty (P : Params) (t : Nat) : WF P { now := t, pool := [] } :=
  ⟨List.Pairwise.nil, nofun, List.nodup_nil⟩

theorem prune_complete {now : Nat} {p : Pool} (hs : Sorted p) : ∀ n ∈ pruneExpired now p, now < n.expiresAt := by
  fun_induction pruneExpired now p with
  | case1 => simp
  -- head live: kept
  | case2 m rest hm =>
    intro n hn
    rcases List.mem_cons.mp hn with rfl | hn
    · exact hm
    · have := (List.pairwise_cons.mp hs).1 n hn; omega
  -- head expired: dropped
  | case3 m rest _ ih => exact ih (List.pairwise_cons.mp hs).2

theorem wf_add {P : Params} {now : Nat} {s : Salt} {p : Pool} (h : WF P { now := now, pool := p }) :
    WF P { now := now, pool := (add P now s p).1 } := by
  have hsuf := pruneExpired_suffix now p
  have hS : Sorted (pruneExpired now p) := List.Pairwise.sublist hsuf.sublist h.sorted
  have hB : ∀ n ∈ pruneExpired now p, n.expiresAt ≤ now + P.window := fun n hn => h.bound n (hsuf.subset hn)
  rcases add_cases P now s p with ⟨_, h1, _⟩ | ⟨_, h1, _⟩ <;>
    refine ⟨?_, ?_, nodup_add P now s p h.nodup⟩ <;> simp only [h1]
  · exact hS
  · exact hB
  · refine List.pairwise_append.mpr ⟨hS, List.pairwise_singleton _ _, fun a ha b hb => ?_⟩
    rw [List.mem_singleton.mp hb]
    exact hB a ha
  · intro n hn
    rcases List.mem_append.mp hn with hn | hn
    · exact hB n hn
    · rw [List.mem_singleton.mp hn]; exact Nat.le_refl _

theorem wf_step {P : Params} {st : State} (o : Op) (h : WF P st) : WF P (step P st o).1 := by
  cases o with
  | advance d => exact ⟨h.sorted, fun n hn => Nat.le_trans (h.bound n hn) (by simp [step]), h.nodup⟩
  | present r c =>
    show WF P { now := st.now, pool := (handle P c st.now r st.pool).1 }
    rcases handle_pool P c st.now r st.pool with hp | ⟨_, hp⟩ <;> rw [hp]
    · exact h
    · exact wf_add h

theorem step_forged {P : Params} {st : State} {r : Request} {c : Bool} (h : r.forged = true) :
    (step P st (.present r c)).1 = st := by
  rcases handle_pool P c st.now r st.pool with hp | ⟨hf, _⟩
  · simp [step, hp]
  · rw [h] at hf; cases hf

theorem isForged_advance (d : Nat) : (Op.advance d).isForged = false := rfl
theorem isForged_present (r : Request) (c : Bool) : (Op.present r c).isForged = r.forged := rfl

end SSV.SaltPool
