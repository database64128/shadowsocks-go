import SSV.Proofs.SaltPool
/-
C03: k concurrent presentations of one request. Two independent invariants of `cstep`: `AtMostInv` (never two
winners; needs the side condition on the window) and `ExactInv` (a genuine request with valid clock readings is
refused only as a repeat, and only after somebody has won).
-/
namespace SSV.SaltPool

def isAcc : TState → Bool
  | .done .accepted => true
  | _ => false

theorem isAcc_done (v : Verdict) : isAcc (.done v) = decide (v = .accepted) := by
  cases v <;> rfl

theorem setAt_eq_set {α : Type} (ts : List α) (i : Nat) (x : α) : setAt ts i x = ts.set i x := by
  induction ts generalizing i with
  | nil => rfl
  | cons a ts ih => cases i <;> simp [setAt, ih]

theorem countAccepted_eq_countP (ts : List TState) : countAccepted ts = ts.countP isAcc := by
  induction ts with
  | nil => rfl
  | cons t ts ih =>
    rw [List.countP_cons, ← ih]
    cases t with
    | done v => cases v <;> rfl
    | _ => rfl

theorem countAccepted_set {ts : List TState} {i : Nat} {y x : TState} (h : ts[i]? = some y) (hy : isAcc y = false) :
    countAccepted (ts.set i x) = countAccepted ts + (if isAcc x then 1 else 0) := by
  obtain ⟨hi, rfl⟩ := List.getElem?_eq_some_iff.mp h
  rw [countAccepted_eq_countP, countAccepted_eq_countP, List.countP_set hi, hy]
  rfl

theorem forall_mem_set {α : Type} {p : α → Prop} {ts : List α} {i : Nat} {x : α} (h : ∀ t ∈ ts, p t) (hx : p x) :
    ∀ t ∈ ts.set i x, p t :=
  fun t ht => (List.mem_or_eq_of_mem_set ht).elim (h t) (· ▸ hx)

theorem allDone_mem {ts : List TState} (h : allDone ts = true) : ∀ t ∈ ts, ∃ v, t = .done v := by
  induction ts with
  | nil => simp
  | cons t ts ih =>
    cases t with
    | done v => exact List.forall_mem_cons.mpr ⟨⟨v, rfl⟩, ih h⟩
    | _ => cases h

theorem cstep_cases (P : Params) (r : Request) (s : CState) (a : Act) :
    cstep P r s a = s ∨
    (∃ i c, a = .check i c ∧ s.threads[i]? = some .idle ∧
      cstep P r s a = { s with threads := s.threads.set i ((phase1 P c r s.pool).elim .checked .done) }) ∨
    (∃ i now, a = .add i now ∧ s.threads[i]? = some .checked ∧
      cstep P r s a = { pool := (phase2 P now r s.pool).1, threads := s.threads.set i (.done (phase2 P now r s.pool).2) }) := by
  fun_cases cstep P r s a
  -- `check`, thread idle: refused or passed
  case case1 i c hi _ hv | case2 i c hi hv => exact Or.inr (Or.inl ⟨i, c, rfl, hi, by rw [hv, setAt_eq_set]; rfl⟩)
  -- `add`, thread checked
  case case4 i now hi _ => exact Or.inr (Or.inr ⟨i, now, rfl, hi, by rw [setAt_eq_set]⟩)
  -- thread in another state
  all_goals exact Or.inl rfl

theorem crun_length (P : Params) (r : Request) (s : CState) (sched : List Act) :
    (crun P r s sched).threads.length = s.threads.length := by
  induction sched generalizing s with
  | nil => rfl
  | cons a sched ih =>
    refine (ih _).trans ?_
    rcases cstep_cases P r s a with e | ⟨_, _, _, _, e⟩ | ⟨_, _, _, _, e⟩ <;> rw [e] <;> simp

/-- the winner's node: in the pool, carrying the request's salt, inserted at an instant at which the timestamp validated -/
def WinnerNode (P : Params) (r : Request) (pool : Pool) : Prop :=
  ∃ n ∈ pool, n.salt = r.salt ∧ ∃ t, tsValid P r.ts t = true ∧ ClockOk P t ∧ n.expiresAt = t + P.window

def AtMostInv (P : Params) (r : Request) (s : CState) : Prop :=
  countAccepted s.threads = 0 ∨ (countAccepted s.threads = 1 ∧ WinnerNode P r s.pool)

theorem atMostInv_step {P : Params} {r : Request} {s : CState} (a : Act)
    (hside : (2 * P.maxEpochDiff + 1) * nsPerSec ≤ P.window)
    (hclk : ∀ i now, a = .add i now → ClockOk P now)
    (h : AtMostInv P r s) : AtMostInv P r (cstep P r s a) := by
  unfold AtMostInv at h ⊢
  rcases cstep_cases P r s a with e | ⟨i, c, rfl, hi, e⟩ | ⟨i, now, rfl, hi, e⟩ <;> rw [e]
  · exact h
  · -- the first half never accepts
    have : isAcc ((phase1 P c r s.pool).elim .checked .done) = false := by
      rcases phase1_cases P c r s.pool with ⟨hn, _⟩ | ⟨v, hv, hna, _⟩
      · rw [hn]; rfl
      · rw [hv]; simpa [isAcc_done] using hna
    simpa [countAccepted_set hi rfl, this] using h
  · have hcount := countAccepted_set (x := .done (phase2 P now r s.pool).2) hi rfl
    rw [isAcc_done] at hcount
    simp only [hcount]
    rcases phase2_cases P now r s.pool with ⟨hp, hna, _⟩ | ⟨_, hv, hp, hverd⟩
    · simpa [hna, hp] using h
    · rw [hp]
      rcases h with h0 | ⟨h1, n, hn, hns, t, ht, hct, hne⟩
      · -- nobody has won yet: this thread wins iff `Add` inserts (and the body is read)
        by_cases hacc : (phase2 P now r s.pool).2 = .accepted
        · have hadd : (add P now r.salt s.pool).2 = true := Bool.of_not_eq_false fun hf => by
            rw [hverd, hf] at hacc
            cases hacc
          exact Or.inr ⟨by simp [hacc, h0], _, add_true_mem hadd, rfl, now, hv, hclk i now rfl, rfl⟩
        · exact Or.inl (by simp [hacc, h0])
      · -- somebody has won: the node is live at `now`, `Add` answers false
        have hlive : now < n.expiresAt := by
          have := valid_span P r.ts t now hct (hclk i now rfl) ht hv
          omega
        have hfalse : (add P now r.salt s.pool).2 = false := by rw [← hns]; exact add_false_of_live hn hlive
        rw [hverd, hfalse]
        exact Or.inr ⟨by simpa using h1, n, mem_add_of_live hn hlive, hns, t, ht, hct, hne⟩

/-- a thread that is not refused for any other reason than a repeated salt -/
def RepeatOnly (t : TState) : Prop := t = .idle ∨ t = .checked ∨ t = .done .accepted ∨ t = .done .repeatedSalt

def ExactInv (r : Request) (s : CState) : Prop :=
  (∀ t ∈ s.threads, RepeatOnly t) ∧
  (countAccepted s.threads = 0 → contains s.pool r.salt = false ∧ ∀ t ∈ s.threads, t = .idle ∨ t = .checked)

theorem exactInv_step {P : Params} {r : Request} {s : CState} (a : Act) (hg : Good r)
    (hvalid : ∀ i now, a = .add i now → tsValid P r.ts now = true)
    (h : ExactInv r s) : ExactInv r (cstep P r s a) := by
  obtain ⟨hok, h0⟩ := h
  rcases cstep_cases P r s a with e | ⟨i, c, rfl, hi, e⟩ | ⟨i, now, rfl, hi, e⟩ <;> rw [e]
  · exact ⟨hok, h0⟩
  · rcases phase1_cases P c r s.pool with ⟨hn, _⟩ | ⟨v, hv, _, hf | ⟨htc, rfl⟩⟩
    · rw [hn]
      refine ⟨forall_mem_set hok (Or.inr (Or.inl rfl)), fun hz => ?_⟩
      rw [countAccepted_set hi rfl] at hz
      exact ⟨(h0 hz).1, forall_mem_set (h0 hz).2 (Or.inr rfl)⟩
    · rw [hg.not_forged] at hf; cases hf
    · -- `TryContains` found the salt, so somebody has won
      rw [hv]
      refine ⟨forall_mem_set hok (Or.inr (Or.inr (Or.inr rfl))), fun hz => ?_⟩
      rw [countAccepted_set hi rfl] at hz
      rw [tryContains_of_absent (h0 hz).1] at htc; cases htc
  · rcases phase2_cases P now r s.pool with ⟨_, _, ht | hv⟩ | ⟨_, _, _, hverd⟩
    · rw [hg.typeOk] at ht; cases ht
    · rw [hvalid i now rfl] at hv; cases hv
    · simp only [hg.bodyOk, if_true] at hverd
      refine ⟨forall_mem_set hok ?_, fun hz => ?_⟩
      · rw [hverd]; split
        · exact Or.inr (Or.inr (Or.inl rfl))
        · exact Or.inr (Or.inr (Or.inr rfl))
      · -- the first `Add` finds the salt absent and inserts it: that thread wins
        rw [countAccepted_set hi rfl, isAcc_done] at hz
        rw [hverd, add_true_of_absent (h0 (by omega)).1] at hz
        simp at hz

theorem one_winner {P : Params} (hside : (2 * P.maxEpochDiff + 1) * nsPerSec ≤ P.window) (r : Request) (p₀ : Pool)
    (k : Nat) (sched : List Act)
    (hclk : ∀ a ∈ sched, ∀ i now, a = .add i now → ClockOk P now) :
    let fin := crun P r { pool := p₀, threads := List.replicate k .idle } sched
    countAccepted fin.threads ≤ 1 ∧
    (Good r → contains p₀ r.salt = false → 0 < k →
      (∀ a ∈ sched, ∀ i now, a = .add i now → tsValid P r.ts now = true) → allDone fin.threads = true →
      countAccepted fin.threads = 1 ∧ ∀ t ∈ fin.threads, t = .done .accepted ∨ t = .done .repeatedSalt) := by
  intro fin
  have hzero : countAccepted (List.replicate k TState.idle) = 0 := by
    rw [countAccepted_eq_countP, List.countP_replicate]; rfl
  have hidle : ∀ t ∈ List.replicate k TState.idle, t = .idle ∨ t = .checked :=
    fun t ht => Or.inl (List.mem_replicate.mp ht).2
  have hle : countAccepted fin.threads ≤ 1 := by
    have : AtMostInv P r fin :=
      List.foldlRecOn sched (cstep P r) (Or.inl hzero) fun _ h a ha => atMostInv_step a hside (hclk a ha) h
    rcases this with h | ⟨h, _⟩ <;> omega
  refine ⟨hle, fun hg hfresh hk hvalid hdone => ?_⟩
  obtain ⟨hok, h0⟩ : ExactInv r fin :=
    List.foldlRecOn sched (cstep P r) ⟨fun t ht => (hidle t ht).imp_right Or.inl, fun _ => ⟨hfresh, hidle⟩⟩
      (fun _ h a ha => exactInv_step a hg (hvalid a ha) h)
  have hfin : ∀ t ∈ fin.threads, t = .done .accepted ∨ t = .done .repeatedSalt := by
    intro t ht
    obtain ⟨v, rfl⟩ := allDone_mem hdone t ht
    rcases hok _ ht with h | h | h | h
    · cases h
    · cases h
    · exact Or.inl h
    · exact Or.inr h
  refine ⟨Nat.le_antisymm hle (Nat.pos_of_ne_zero fun hz => ?_), hfin⟩
  -- nobody accepted: then nobody has finished, yet all `k > 0` threads have
  obtain ⟨t, ht⟩ := List.exists_mem_of_length_pos (l := fin.threads) (by rw [crun_length]; simpa using hk)
  rcases hfin t ht with rfl | rfl <;> rcases (h0 hz).2 _ ht with h | h <;> cases h

end SSV.SaltPool
