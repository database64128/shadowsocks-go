import SSV.Proofs.StreamSticky
/-
Read deadlines of the transport (C01 scenario `transient-timeout-at-chunk-boundary`): a deadline that
fires when nothing of the next chunk has been consumed leaves the conn usable; the stream is still
delivered exactly once, in order. Depends on the regenerated facts `readErrorsSticky` and
`boundaryTimeoutRetryable` (finding F22b).
-/
namespace SSV.Stream
open SSV.Gen.C01

/-- the stretches of a stream that read deadlines cut at chunk boundaries: one per group of chunks -/
def encodeGroups (C : Crypto) (k : Bytes) : Nat → List (List Bytes) → List Bytes
  | _, [] => []
  | n, g :: gs => encodeChunks C k n g :: encodeGroups C k (n + 2 * g.length) gs

/-- the conn is usable, in sync with the chunks of the current stretch, and the later stretches are
the encodings of the later chunk groups -/
structure TSync (C : Crypto) (s : SReader) (g0 : List Bytes) (gs : List (List Bytes)) : Prop where
  noErr : s.err = none
  sync : Sync C s.r g0
  later : s.later = encodeGroups C s.r.key (s.r.nonce + 2 * g0.length) gs
  valid : ∀ g ∈ gs, ValidChunks g

def pendingT (s : SReader) (g0 : List Bytes) (gs : List (List Bytes)) : Bytes :=
  pending s.r g0 ++ (gs.map List.flatten).flatten

theorem hitEnd_eq_sawEnd (o : ROut) (h : o.err = none ∨ o.err = some .eof) : o.hitEnd = o.sawEnd := by
  cases o with
  | data bs => rfl
  | fail e => rcases h with h | h <;> cases h; rfl
  | copied ps e =>
    cases e with
    | none => rfl
    | some e => rcases h with h | h <;> cases h; rfl

theorem asTimeout_bytes (o : ROut) : o.asTimeout.bytes = o.bytes := by cases o <;> rfl

theorem asTimeout_of_hitEnd (o : ROut) (h : o.hitEnd = true) :
    o.asTimeout.err = some .timeout ∧ o.asTimeout.sawEnd = false := by
  cases o with
  | data bs => simp [ROut.hitEnd] at h
  | fail e => exact ⟨rfl, rfl⟩
  | copied ps e => exact ⟨rfl, rfl⟩

/-- what one call guarantees on a transport whose deadlines fall on chunk boundaries -/
structure TStepOK (C : Crypto) (s : SReader) (g0 : List Bytes) (gs : List (List Bytes)) (op : ROp)
    (g0' : List Bytes) (gs' : List (List Bytes)) : Prop where
  sync : TSync C (s.step C op).2 g0' gs'
  /-- the only errors are end of stream and the transport's deadline -/
  errs : (s.step C op).1.err = none ∨ (s.step C op).1.err = some .eof ∨ (s.step C op).1.err = some .timeout
  /-- the call hands over the next bytes and keeps the rest pending: nothing lost, nothing repeated -/
  split : pendingT s g0 gs = (s.step C op).1.bytes ++ pendingT (s.step C op).2 g0' gs'
  /-- end of stream is only reported when nothing is pending -/
  atEnd : (s.step C op).1.sawEnd = true → pendingT (s.step C op).2 g0' gs' = []
  /-- each reported deadline uses up one of the transport's deadlines; other calls use none -/
  deadlines : ((s.step C op).1.err = some .timeout → gs'.length + 1 = gs.length) ∧
         ((s.step C op).1.err ≠ some .timeout → gs' = gs)
  /-- a copy call runs until the end of the stream or the next deadline -/
  copy : (∀ n, op ≠ .read n) → (s.step C op).1.sawEnd = true ∨ (s.step C op).1.err = some .timeout

theorem tstep_ok {C : Crypto} (hC : AeadOK C) (s : SReader) (g0 : List Bytes) (gs : List (List Bytes))
    (hs : TSync C s g0 gs) (op : ROp) : ∃ g0' gs', TStepOK C s g0 gs op g0' gs' := by
  obtain ⟨cs', h⟩ := step_ok hC s.r g0 hs.sync op
  have hhard : (s.r.step C op).1.hardErr = none := (hardErr_none_iff _).mpr h.noErr
  have hother : ∀ e, e ≠ .eof → (s.r.step C op).1.err ≠ some e := by
    intro e he
    rcases h.noErr with x | x <;> rw [x] <;> simp [Ne.symm he]
  have herrs : (s.r.step C op).1.err = none ∨ (s.r.step C op).1.err = some .eof ∨ (s.r.step C op).1.err = some .timeout :=
    h.noErr.imp_right Or.inl
  -- no deadline is due: the call is the plain reader's, the later stretches stay
  have stay : (s.later = [] ∨ (s.r.step C op).1.hitEnd = false) →
      ((s.r.step C op).1.sawEnd = true → gs = []) → TStepOK C s g0 gs op cs' gs := by
    intro hd hq
    constructor <;> rw [SReader.step_plain C s op hs.noErr hd, hhard]
    case sync => exact ⟨rfl, h.sync, by rw [hs.later, h.key, h.nonce], hs.valid⟩
    case errs => exact herrs
    case split => simp only [pendingT]; rw [h.split, List.append_assoc]
    case atEnd => intro x; simp only [pendingT, h.atEnd x, hq x, List.map_nil, List.flatten_nil, List.append_nil]
    case deadlines => exact ⟨fun x => absurd x (hother .timeout nofun), fun _ => rfl⟩
    case copy => intro hn; exact Or.inl (h.copyEnds (hn 0) hn)
  cases hgs : gs with
  | nil =>
    have hl : s.later = [] := by rw [hs.later, hgs]; rfl
    exact ⟨cs', [], hgs ▸ stay (Or.inl hl) fun _ => hgs⟩
  | cons g1 rest =>
    have hl : s.later = encodeChunks C s.r.key (s.r.nonce + 2 * g0.length) g1 ::
        encodeGroups C s.r.key (s.r.nonce + 2 * g0.length + 2 * g1.length) rest := by
      rw [hs.later, hgs]; rfl
    by_cases hend : (s.r.step C op).1.hitEnd = true
    · -- the call reached the end of the stretch: a deadline, at a chunk boundary
      obtain ⟨rfl, hleft, hw, hn⟩ := h.drained (by rw [← hitEnd_eq_sawEnd _ h.noErr]; exact hend)
      have hpar : (s.r.step C op).2.nonce % 2 = s.r.nonce % 2 := by
        rw [hn, Nat.add_mul_mod_self_left]
      have e := SReader.step_deadline C s op _ _ hs.noErr hl hend
      rw [if_neg (by simp [hother .unexpectedEOF nofun, hpar])] at e
      obtain ⟨hte, hts⟩ := asTimeout_of_hitEnd _ hend
      refine ⟨g1, rest, ?_⟩
      constructor <;> rw [e]
      case sync =>
        refine ⟨rfl, ⟨?_, hs.valid g1 (by rw [hgs]; exact List.mem_cons_self)⟩, ?_,
          fun g hg => hs.valid g (by rw [hgs]; exact List.mem_cons_of_mem _ hg)⟩
        · simp only [hw, List.nil_append, h.key, hn]
        · simp only [h.key, hn]
      case errs => exact Or.inr (Or.inr hte)
      case split =>
        have := h.split
        simp only [pending, hleft, List.flatten_nil, List.append_nil] at this
        simp only [pendingT, pending, asTimeout_bytes, hleft, List.nil_append, List.map_cons, List.flatten_cons, this]
      case atEnd => intro x; rw [hts] at x; cases x
      case deadlines => exact ⟨fun _ => by simp, fun x => absurd hte x⟩
      case copy => intro _; exact Or.inr hte
    · refine ⟨cs', g1 :: rest, hgs ▸ stay (Or.inr (by simpa using hend)) fun x => ?_⟩
      rw [← hitEnd_eq_sawEnd _ h.noErr] at x
      exact absurd x hend

/-- `DeliversT stream outs`: like `Delivers`, on a transport with read deadlines: the outcomes hand
over consecutive pieces of `stream`; the only errors are end of stream and the transport's deadline;
an outcome that reports the end of the stream has exhausted it. -/
def DeliversT : Bytes → List ROut → Prop
  | _, [] => True
  | stream, o :: os =>
    (o.err = none ∨ o.err = some .eof ∨ o.err = some .timeout) ∧
    ∃ rest, stream = o.bytes ++ rest ∧ (o.sawEnd = true → rest = []) ∧ DeliversT rest os

def SReader.after (C : Crypto) : SReader → List ROp → SReader
  | s, [] => s
  | s, op :: ops => SReader.after C (s.step C op).2 ops

theorem trun_ok {C : Crypto} (hC : AeadOK C) (ops : List ROp) :
    ∀ (s : SReader) (g0 : List Bytes) (gs : List (List Bytes)), TSync C s g0 gs →
      DeliversT (pendingT s g0 gs) (s.run C ops) ∧ (s.after C ops).err = none := by
  induction ops with
  | nil => intro s g0 gs hs; exact ⟨trivial, hs.noErr⟩
  | cons op ops ih =>
    intro s g0 gs hs
    obtain ⟨g0', gs', h⟩ := tstep_ok hC s g0 gs hs op
    obtain ⟨ih1, ih2⟩ := ih _ g0' gs' h.sync
    exact ⟨⟨h.errs, _, h.split, h.atEnd, ih1⟩, ih2⟩

end SSV.Stream
