import SSV.Model.SaltPool
/-
C03, C04: the 64-bit word arithmetic of `ValidateUnixEpochTimestamp`, which the TCP header and the UDP packets share.
-/
namespace SSV.SaltPool

theorem toInt_ofNat_small (n : Nat) (h : n < 2 ^ 63) : (BitVec.ofNat 64 n).toInt = (n : Int) := by
  rw [BitVec.toInt_ofNat', Int.bmod_eq_of_le_mul_two] <;> omega

theorem tsValidWord_iff_diff (P : Params) (hM : P.maxEpochDiff < 2 ^ 63) (ts ne : BitVec 64) :
    tsValidWord P ts ne = true ↔
      (-(P.maxEpochDiff : Int) ≤ (ts - ne).toInt ∧ (ts - ne).toInt ≤ P.maxEpochDiff) := by
  have hm := toInt_ofNat_small _ hM
  have hn : (-BitVec.ofNat 64 P.maxEpochDiff).toInt = -(P.maxEpochDiff : Int) := by
    rw [BitVec.toInt_neg, hm, Int.bmod_eq_of_le_mul_two] <;> omega
  simp only [tsValidWord, BitVec.slt_eq_decide, hm, hn, Bool.not_eq_true', Bool.or_eq_false_iff,
    decide_eq_false_iff_not, Int.not_lt]

theorem tsValidWord_iff (P : Params) (ts ne : BitVec 64)
    (hlo : -(2 ^ 63 : Int) + P.maxEpochDiff ≤ ne.toInt) (hhi : ne.toInt + P.maxEpochDiff < 2 ^ 63) :
    tsValidWord P ts ne = true ↔
      (ts.toInt - ne.toInt ≤ P.maxEpochDiff ∧ ne.toInt - ts.toInt ≤ P.maxEpochDiff) := by
  have h1 := BitVec.toInt_lt (x := ts)
  have h2 := BitVec.le_toInt ts
  have h3 := BitVec.toInt_lt (x := ts - ne)
  have h4 := BitVec.le_toInt (ts - ne)
  have h5 := Int.bdiv_add_bmod (ts.toInt - ne.toInt) (2 ^ 64)
  rw [← BitVec.toInt_sub] at h5
  rw [tsValidWord_iff_diff P (by omega)]
  omega

theorem tsValidWord_iff_wrap (P : Params) (hM : P.maxEpochDiff < 2 ^ 63) (ts ne : BitVec 64) :
    tsValidWord P ts ne = true ↔
      ∃ d : Int, -(P.maxEpochDiff : Int) ≤ d ∧ d ≤ P.maxEpochDiff ∧ ts = ne + BitVec.ofInt 64 d := by
  rw [tsValidWord_iff_diff P hM]
  constructor
  · intro ⟨h1, h2⟩
    exact ⟨(ts - ne).toInt, h1, h2, by rw [BitVec.ofInt_toInt, BitVec.add_comm, BitVec.sub_add_cancel]⟩
  · rintro ⟨d, h1, h2, rfl⟩
    rw [BitVec.add_comm, BitVec.add_sub_cancel, BitVec.toInt_ofInt, Int.bmod_eq_of_le_mul_two] <;> omega

/-- Side condition on every clock reading of a history at which a timestamp is compared. -/
def ClockOk (P : Params) (t : Nat) : Prop := unixSec t + P.maxEpochDiff < 2 ^ 63

instance (P : Params) (t : Nat) : Decidable (ClockOk P t) := by unfold ClockOk; infer_instance

theorem tsValid_iff (P : Params) (ts : BitVec 64) (now : Nat) (h : ClockOk P now) :
    tsValid P ts now = true ↔
      (ts.toInt - (unixSec now : Int) ≤ P.maxEpochDiff ∧ (unixSec now : Int) - ts.toInt ≤ P.maxEpochDiff) := by
  unfold ClockOk at h
  have hn : (nowEpoch now).toInt = (unixSec now : Int) := toInt_ofNat_small _ (by omega)
  unfold tsValid
  rw [tsValidWord_iff P ts (nowEpoch now) (by rw [hn]; omega) (by rw [hn]; omega), hn]

theorem tsValid_ofNat (P : Params) {n t : Nat} (hc : ClockOk P t)
    (h1 : n ≤ unixSec t + P.maxEpochDiff) (h2 : unixSec t ≤ n + P.maxEpochDiff) :
    tsValid P (BitVec.ofNat 64 n) t = true := by
  rw [tsValid_iff P _ t hc, toInt_ofNat_small n (Nat.lt_of_le_of_lt h1 hc)]
  omega

/-- The validity span of a timestamp, in nanoseconds of server time: the left side of the side condition on `window`. -/
theorem valid_span (P : Params) (ts : BitVec 64) (t1 t2 : Nat)
    (hr1 : ClockOk P t1) (hr2 : ClockOk P t2)
    (h1 : tsValid P ts t1 = true) (h2 : tsValid P ts t2 = true) :
    t2 < t1 + (2 * P.maxEpochDiff + 1) * nsPerSec := by
  rw [tsValid_iff P ts t1 hr1] at h1
  rw [tsValid_iff P ts t2 hr2] at h2
  -- both whole-second readings are within `MaxEpochDiff` of the same word
  have key : unixSec t2 ≤ unixSec t1 + 2 * P.maxEpochDiff := by omega
  simp only [unixSec, nsPerSec] at key ⊢
  omega

end SSV.SaltPool
