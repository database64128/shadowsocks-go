import SSV.Proofs.StreamCodec
/-
C01, layer 2, client → server: `DialStream`'s request is parsed back by `HandleStream`
(`request_observed`).
-/
namespace SSV.Stream
open SSV.Gen.C01

theorem norm_valid (a : Addr) (h : a.Valid = true) : a.norm.Valid = true := by
  cases a with
  | v4 ip p => exact h
  | domain d p => exact h
  | v6 ip p =>
    simp only [Addr.norm]
    split
    · simp only [Addr.Valid, Bool.and_eq_true, beq_iff_eq, decide_eq_true_eq] at h ⊢
      exact ⟨by simp [h.1], h.2⟩
    · exact h

/-- `ConnAddrFromSlice ∘ WriteAddrFromConnAddr`: the address comes back with an IPv4-mapped IPv6 address unmapped -/
theorem parseAddr_encode (a : Addr) (hv : a.Valid = true) (rest : Bytes) :
    parseAddr (encodeAddr a ++ rest) = .ok (a.norm, (encodeAddr a).length) := by
  have hv' := norm_valid a hv
  rw [encodeAddr]
  generalize a.norm = b at hv'
  cases b with
  | v4 ip p | v6 ip p =>
    simp only [Addr.Valid, Bool.and_eq_true, beq_iff_eq, decide_eq_true_eq] at hv'
    simp [parseAddr, AtypIPv4, AtypDomainName, AtypIPv6, IPv4AddrLen, IPv6AddrLen, be16_length, hv'.1,
      List.take_left' hv'.1, List.drop_left' hv'.1, unbe16_be16 p hv'.2 rest]
    rw [if_neg (by omega), if_neg (by omega)]
  | domain d p =>
    simp only [Addr.Valid, Bool.and_eq_true, decide_eq_true_eq] at hv'
    have hd : (UInt8.ofNat d.length).toNat = d.length := UInt8.toNat_ofNat_of_lt' (by show _ < 256; omega)
    have hdr : List.drop (1 + d.length) (UInt8.ofNat d.length :: (d ++ (be16 p ++ rest))) = be16 p ++ rest := by
      rw [Nat.add_comm, List.drop_succ_cons, List.drop_left]
    have hd0 : d ≠ [] := fun h => by rw [h] at hv'; exact absurd hv'.1.1 (by decide)
    simp [parseAddr, AtypDomainName, be16_length, hd, hdr, hd0, unbe16_be16 p hv'.2 rest]
    rw [if_neg (by omega), if_neg (by omega)]
    congr 2
    omega

theorem encodeAddr_length_le (a : Addr) (hv : a.Valid = true) : (encodeAddr a).length ≤ MaxAddrLen := by
  have hv' := norm_valid a hv
  have hm : MaxAddrLen = 259 := rfl
  rw [encodeAddr]
  generalize a.norm = b at hv'
  cases b with
  | v4 ip p | v6 ip p =>
    simp only [Addr.Valid, Bool.and_eq_true, beq_iff_eq, decide_eq_true_eq] at hv'
    simp only [List.length_cons, List.length_append, be16_length, hv'.1]; omega
  | domain d p =>
    simp only [Addr.Valid, Bool.and_eq_true, decide_eq_true_eq] at hv'
    simp only [List.length_cons, List.length_append, be16_length]; omega

/-- `ParseTCPRequestVariableLengthHeader ∘ PutTCPRequestVariableLengthHeader` -/
theorem parseVarHeader_varHeader (t : Addr) (hv : t.Valid = true) (padLen : Nat) (payload : Bytes)
    (hpad : padLen < 65536) (hne : 1 ≤ padLen + payload.length) :
    parseVarHeader (varHeader t padLen payload) = .ok (t.norm, payload) := by
  unfold parseVarHeader varHeader
  rw [List.append_assoc, List.append_assoc, parseAddr_encode t hv]
  simp only [List.drop_left]
  have hlen : (be16 padLen ++ (zeros padLen ++ payload)).length = 2 + padLen + payload.length := by
    simp [be16_length, zeros]; omega
  rw [if_neg (by rw [hlen]; omega), unbe16_be16 padLen hpad, if_neg (by rw [hlen]; omega)]
  have : (be16 padLen ++ (zeros padLen ++ payload)).drop (2 + padLen) = payload := by
    rw [← List.append_assoc]
    have : (be16 padLen ++ zeros padLen).length = 2 + padLen := by simp [be16_length, zeros]
    rw [← this, List.drop_left]
  rw [this]

/-- `HandleStream` on a genuine request: the transport handed the first read the fixed-length
part `prefix ++ salt ++ identity header ++ seal(fixed header)`; the identity header (if the server
uses one) names user `u`; the rest of the wire starts with `seal(variable header)`. -/
theorem handle_genuine {C : Crypto} (hC : AeadOK C) (sc : ServerCfg) (now : Int) (segs : List Bytes)
    (u : User) (salt idh vh later : Bytes) (ts : Nat) (a : Addr) (pl : Bytes)
    (hsl : salt.length = if sc.psk.length = 0 then sc.ipsk.length else sc.psk.length)
    (hidl : idh.length = if sc.psk.length = 0 then IdentityHeaderLength else 0)
    (hu : (if sc.psk.length = 0 then lookupUser C sc.users (C.eihDec sc.ipsk salt idh) else some ⟨"", sc.psk⟩) = some u)
    (hts : ClockOK ts now) (hvl : vh.length < 65536) (hpv : parseVarHeader vh = .ok (a, pl))
    (hfr : firstRead sc.allowSeg
        (sc.reqPrefix.length + (if sc.psk.length = 0 then sc.ipsk.length else sc.psk.length) +
          (if sc.psk.length = 0 then IdentityHeaderLength else 0) + TCPRequestFixedLengthHeaderLength + tagSize) segs =
      .ok (sc.reqPrefix ++ salt ++ idh ++ C.enc (C.kdf u.psk salt) 0 (fixedHeader ts vh.length))
          (C.enc (C.kdf u.psk salt) 1 vh ++ later)) :
    handle C sc now segs = .request ⟨a, pl, u.name⟩ ⟨C.kdf u.psk salt, 2, [], later⟩ salt u.psk := by
  obtain ⟨f1, f2, f3⟩ := hdr_fields (UInt8.ofNat HeaderTypeClientStream) ts (be16 vh.length)
  have hu16 := unbe16_be16_self hvl
  have hts' : tsOk (unbeN (be64 ts)) now = true := by
    rw [unbeN_be64 ts (by have := hts.1; omega)]; exact hts.2
  have hrf : readFull (vh.length + tagSize) (C.enc (C.kdf u.psk salt) 1 vh ++ later) = .ok (C.enc (C.kdf u.psk salt) 1 vh, later) :=
    readFull_ok _ _ _ (hC.enc_len _ _ _) (by have : tagSize = 16 := rfl; omega)
  simp only [handle, hfr]
  -- the offsets into the first read are the lengths of its parts: the prefix matches, the user is found
  simp only [← hsl, ← hidl, List.append_assoc, Nat.add_assoc, List.take_left, List.drop_left, List.drop_length_add_append,
    ne_eq, not_true_eq_false, ↓reduceIte, hu]
  -- the fixed-length header opens under the user's key; type and timestamp are accepted
  simp only [hC.dec_enc, fixedHeader, List.cons_append, f1, f2, hts', Bool.not_true, Bool.false_eq_true, ↓reduceIte]
  rw [if_neg (by decide)]
  -- authenticated: the variable-length header is read, opened and parsed
  simp only [f3, hu16, hrf, hC.dec_enc, hpv]

/-- laws of the identity-header block cipher and the PSK hash -/
structure EihOK (C : Crypto) : Prop where
  dec_enc : ∀ k s b, C.eihDec k s (C.eihEnc k s b) = b
  enc_len : ∀ k s b, (C.eihEnc k s b).length = b.length
  hash_len : ∀ p, (C.pskHash p).length = IdentityHeaderLength

/-- client and server are configured for each other (after the relays have stripped their identity
headers): either both use the same PSK and no identity header, or the client's single iPSK is the
server's and the server's user table maps the client's PSK hash to the client's key, owned by `user` -/
def Paired (C : Crypto) (cc : ClientCfg) (sc : ServerCfg) (user : String) : Prop :=
  sc.reqPrefix = cc.reqPrefix ∧
  ((cc.ipsks = [] ∧ sc.psk = cc.psk ∧ cc.psk.length ≠ 0 ∧ user = "") ∨
   (cc.ipsks = [sc.ipsk] ∧ sc.psk.length = 0 ∧ sc.ipsk.length = cc.psk.length ∧
    lookupUser C sc.users (C.pskHash cc.psk) = some ⟨user, cc.psk⟩))

theorem paddingPayloadLen_bounds (t : Addr) (ht : t.Valid = true) (len rnd : Nat) (hr : RndOk len rnd = true) :
    (min (roomForPayload t) len ≤ paddingPayloadLen (roomForPayload t) len rnd ∧
      paddingPayloadLen (roomForPayload t) len rnd ≤ roomForPayload t ∧ 1 ≤ paddingPayloadLen (roomForPayload t) len rnd) ∧
    (encodeAddr t).length + 2 + roomForPayload t = streamMaxPayloadSize := by
  have hmp : MaxPaddingLength = 900 := rfl
  -- the room is what the longest address leaves of a chunk: more than any padding
  have ⟨hroom, h9⟩ : (encodeAddr t).length + 2 + roomForPayload t = streamMaxPayloadSize ∧ MaxPaddingLength ≤ roomForPayload t := by
    have hal := encodeAddr_length_le t ht
    have hm : MaxAddrLen = 259 := rfl
    have hs : streamMaxPayloadSize = 65535 := rfl
    have : roomForPayload t = 65535 - (encodeAddr t).length - 2 := rfl
    omega
  refine ⟨?_, hroom⟩
  generalize roomForPayload t = room at h9 ⊢
  fun_cases paddingPayloadLen room len rnd
  -- the payload fills the room or is too long to be padded
  case case1 | case2 => omega
  -- a short or empty payload, padded by `rnd`
  case case3 h2 h3 | case4 h2 h3 =>
    simp only [RndOk, h2, h3, ↓reduceIte, decide_eq_true_eq] at hr
    omega

theorem fixedHeader_length (ts n : Nat) : (fixedHeader ts n).length = TCPRequestFixedLengthHeaderLength := by
  simp [fixedHeader, be64_length, be16_length, TCPRequestFixedLengthHeaderLength]

theorem dial_inReq (C : Crypto) (cc : ClientCfg) (ch : DialChoice) (t : Addr) (P : Bytes) :
    (dial C cc ch t P).inReq = P.take (roomForPayload t) := by
  show (if P.length > roomForPayload t then P.take (roomForPayload t) else P) = _
  split
  · rfl
  · exact (List.take_of_length_le (by omega)).symm

theorem dial_excess (C : Crypto) (cc : ClientCfg) (ch : DialChoice) (t : Addr) (P : Bytes) :
    (dial C cc ch t P).excess = P.drop (roomForPayload t) := by
  show (if P.length > roomForPayload t then P.drop (roomForPayload t) else []) = _
  split
  · rfl
  · exact (List.drop_of_length_le (by omega)).symm

theorem dial_request (C : Crypto) (cc : ClientCfg) (ch : DialChoice) (t : Addr) (ht : t.Valid = true) (P : Bytes)
    (hr : RndOk P.length ch.rnd = true) :
    ∃ vh tail, vh.length < 65536 ∧ parseVarHeader vh = .ok (t.norm, P.take (roomForPayload t)) ∧
      (dial C cc ch t P).segs =
        (cc.reqPrefix ++ ch.salt ++ (identityHeaders C cc ch.salt).flatten ++
          C.enc (C.kdf cc.psk ch.salt) 0 (fixedHeader ch.ts vh.length) ++ C.enc (C.kdf cc.psk ch.salt) 1 vh) :: tail := by
  obtain ⟨⟨hb1, hb2, hb3⟩, hb4⟩ := paddingPayloadLen_bounds t ht P.length ch.rnd hr
  have hs : streamMaxPayloadSize = 65535 := rfl
  refine ⟨varHeader t (paddingPayloadLen (roomForPayload t) P.length ch.rnd - (P.take (roomForPayload t)).length)
    (P.take (roomForPayload t)), (dial C cc ch t P).segs.drop 1, ?_,
    parseVarHeader_varHeader t ht _ _ (by omega) (by simp only [List.length_take]; omega), ?_⟩
  · simp only [varHeader, List.length_append, be16_length, zeros, List.length_replicate, List.length_take]
    omega
  · rw [← dial_inReq C cc ch t P]
    rfl

theorem dial_segs_ipsks (C : Crypto) (cc : ClientCfg) (ch : DialChoice) (t : Addr) (P : Bytes) :
    ∃ body tl, ∀ ipsks, (dial C { cc with ipsks := ipsks } ch t P).segs =
      (cc.reqPrefix ++ ch.salt ++ (identityHeaders C { cc with ipsks := ipsks } ch.salt).flatten ++ body) :: tl :=
  ⟨_, _, fun _ => by simp only [dial, List.append_assoc]; rfl⟩

theorem dial_head_hdrs (C : Crypto) (cc : ClientCfg) (ch : DialChoice) (t : Addr) (P : Bytes) :
    ∃ body tail, (∀ ipsks, ∃ tail', (dial C { cc with ipsks := ipsks } ch t P).segs =
        (cc.reqPrefix ++ ch.salt ++ (identityHeaders C { cc with ipsks := ipsks } ch.salt).flatten ++ body) :: tail') ∧
      (dial C cc ch t P).segs = (cc.reqPrefix ++ ch.salt ++ (identityHeaders C cc ch.salt).flatten ++ body) :: tail :=
  let ⟨body, tl, h⟩ := dial_segs_ipsks C cc ch t P
  ⟨body, tl, fun ipsks => ⟨tl, h ipsks⟩, h cc.ipsks⟩

theorem relayStrip_request {C : Crypto} (hE : EihOK C) (cc : ClientCfg) (pre salt body later i0 i1 : Bytes) (rest : List Bytes) :
    relayStrip C pre.length salt.length i0 i1
        (pre ++ salt ++ (identityHeaders C { cc with ipsks := i0 :: i1 :: rest } salt).flatten ++ body ++ later) =
      some (pre ++ salt ++ (identityHeaders C { cc with ipsks := i1 :: rest } salt).flatten ++ body ++ later) := by
  have hh : identityHeaders C { cc with ipsks := i0 :: i1 :: rest } salt =
      C.eihEnc i0 salt (C.pskHash i1) :: identityHeaders C { cc with ipsks := i1 :: rest } salt := by
    simp [identityHeaders, eihHashes]
  have hl : (C.eihEnc i0 salt (C.pskHash i1)).length = IdentityHeaderLength := by rw [hE.enc_len, hE.hash_len]
  rw [hh, List.flatten_cons, relayStrip, ← hl]
  simp only [List.append_assoc, Nat.add_assoc, List.take_left, List.drop_left, List.drop_length_add_append,
    List.take_length_add_append, hE.dec_enc, ↓reduceIte]

theorem relayAll_request {C : Crypto} (hE : EihOK C) (cc : ClientCfg) (pre salt body later : Bytes) :
    ∀ (front : List Bytes) (last : Bytes),
      relayAll C pre.length salt.length (front ++ [last])
        (pre ++ salt ++ (identityHeaders C { cc with ipsks := front ++ [last] } salt).flatten ++ body ++ later) =
      some (pre ++ salt ++ (identityHeaders C { cc with ipsks := [last] } salt).flatten ++ body ++ later) := by
  intro front
  induction front with
  | nil => intro last; rfl
  | cons i0 f ih =>
    intro last
    cases f with
    | nil =>
      have := relayStrip_request hE cc pre salt body later i0 last []
      simp only [List.cons_append, List.nil_append, relayAll] at this ⊢
      rw [this]
    | cons i1 f' =>
      have h1 := relayStrip_request hE cc pre salt body later i0 i1 (f' ++ [last])
      have h2 := ih last
      simp only [List.cons_append, relayAll] at h1 h2 ⊢
      rw [h1]
      exact h2

theorem relay_chain_request {C : Crypto} (hE : EihOK C) (cc : ClientCfg) (front : List Bytes) (last : Bytes)
    (hip : cc.ipsks = front ++ [last]) (ch : DialChoice) (t : Addr) (P later : Bytes) :
    ∃ req req1 tl, (dial C cc ch t P).segs = req :: tl ∧
      (dial C { cc with ipsks := [last] } ch t P).segs = req1 :: tl ∧
      relayAll C cc.reqPrefix.length ch.salt.length cc.ipsks (req ++ later) = some (req1 ++ later) := by
  obtain ⟨body, tl, h⟩ := dial_segs_ipsks C cc ch t P
  refine ⟨_, _, tl, h cc.ipsks, h [last], ?_⟩
  have := relayAll_request hE cc cc.reqPrefix ch.salt body later front last
  rw [← hip] at this
  exact this

end SSV.Stream
