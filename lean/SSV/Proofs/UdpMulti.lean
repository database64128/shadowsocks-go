import SSV.Model.UdpMulti
import SSV.Proofs.UdpSession
/-
Multi-user server (C04, identity headers): the no-op of a refused packet, the step specification and at-most-once of
Proofs/UdpSession.lean hold per client session id behind the session table; other sessions are not touched.
-/
namespace SSV.UdpMulti
open SSV.SWF SSV.UdpSession

/-- packet ids delivered in client session `c` -/
def proj (c : Nat) (d : List (Nat × Nat)) : List Nat := (d.filter (fun x => x.1 == c)).map (·.2)

theorem proj_cons_same (c p : Nat) (d : List (Nat × Nat)) : proj c ((c, p) :: d) = p :: proj c d := by
  simp [proj]

theorem proj_cons_other {c c' : Nat} (p : Nat) (d : List (Nat × Nat)) (h : c' ≠ c) : proj c ((c', p) :: d) = proj c d := by
  simp [proj, h]

theorem mem_proj {c p : Nat} {d : List (Nat × Nat)} (h : (c, p) ∈ d) : p ∈ proj c d := by
  simp only [proj, List.mem_map, List.mem_filter]
  exact ⟨(c, p), ⟨h, by simp⟩, rfl⟩

/-- the unpacker a datagram of a session meets: the stored one, or (no entry) a new one -/
def stOf (n : Nat) (o : Option Entry) : ServerState :=
  match o with
  | some ent => ent.st
  | none => serverInit n

/-- every session's unpacker describes exactly the packet ids delivered in that session -/
def MInv (n : Nat) (t : Table) (d : List (Nat × Nat)) : Prop := ∀ c, SInv n (stOf n (t c)) (proj c d)

/-- the user whose key a datagram must be sealed under to be delivered: the session's user, or (first packet of a
session) the user named by the identity header -/
def sessionUser (t : Table) (e : EPacket) : Option Nat :=
  match t e.pkt.sid with
  | some ent => some ent.user
  | none => if e.eih then e.eihUser else none

theorem parse_forUser (now : Nat) (e : EPacket) (u : Nat) :
    parseClientHeader now (forUser e u) = parseClientHeader now e.pkt := rfl

theorem Table.set_same (t : Table) (c : Nat) (ent : Entry) (h : t c = some ent) : t.set c ent = t := by
  funext x
  simp only [Table.set]
  split
  · next hx => rw [hx, h]
  · rfl

theorem multiStep_cases (n : Nat) (t : Table) (now : Nat) (e : EPacket) :
    ((multiStep n t now e).2 ≠ .res .ok ∧ (multiStep n t now e).1 = t ∧ (e.sep = false ∨ sessionUser t e = none)) ∨
    (∃ u, e.sep = true ∧ sessionUser t e = some u ∧
      multiStep n t now e =
        (if (serverStep (stOf n (t e.pkt.sid)) now (forUser e u)).2 = .ok
          then t.set e.pkt.sid ⟨u, (serverStep (stOf n (t e.pkt.sid)) now (forUser e u)).1⟩ else t,
          .res (serverStep (stOf n (t e.pkt.sid)) now (forUser e u)).2)) := by
  unfold multiStep sessionUser
  cases hs : e.sep
  · exact Or.inl ⟨by simp, rfl, Or.inl rfl⟩
  · cases ht : t e.pkt.sid with
    | some ent =>
      refine Or.inr ⟨ent.user, rfl, rfl, ?_⟩
      by_cases hk : (serverStep ent.st now (forUser e ent.user)).2 = .ok
      · simp [stOf, hk]
      · -- refused: the same entry is written back
        simp [stOf, hk, serverStep_noop _ _ _ hk, Table.set_same t _ ent ht]
    | none =>
      cases he : e.eih
      · exact Or.inl ⟨by simp, rfl, Or.inr rfl⟩
      · cases hu : e.eihUser with
        | none => exact Or.inl ⟨by simp, rfl, Or.inr rfl⟩
        | some u =>
          refine Or.inr ⟨u, rfl, rfl, ?_⟩
          by_cases hk : (serverStep (serverInit n) now (forUser e u)).2 = .ok <;> simp [stOf, hk]

theorem multiStep_noop (n : Nat) (t : Table) (now : Nat) (e : EPacket)
    (h : (multiStep n t now e).2 ≠ .res .ok) : (multiStep n t now e).1 = t := by
  rcases multiStep_cases n t now e with ⟨_, ht, _⟩ | ⟨u, _, _, heq⟩
  · exact ht
  · rw [heq] at h ⊢
    exact if_neg fun hk => h (congrArg MRes.res hk)

theorem MInv.set {n : Nat} {t : Table} {d : List (Nat × Nat)} {sid pid : Nat} {ent : Entry} (hinv : MInv n t d)
    (hE : SInv n ent.st (pid :: proj sid d)) : MInv n (t.set sid ent) ((sid, pid) :: d) := by
  intro c
  by_cases hc : c = sid
  · subst hc; simpa [Table.set, stOf, proj_cons_same] using hE
  · simpa [Table.set, hc, proj_cons_other _ _ (fun h => hc h.symm)] using hinv c

theorem multiStep_spec {n : Nat} (hnew : Sim n (new n) []) {t : Table} {d : List (Nat × Nat)}
    (hinv : MInv n t d) (now : Nat) (e : EPacket) :
    ((multiStep n t now e).2 = .res .ok ↔
      (e.sep = true ∧ (∃ u, sessionUser t e = some u ∧ e.keyUser = some u) ∧ e.pkt.long = true ∧
        parseClientHeader now e.pkt = none ∧ Fresh n (proj e.pkt.sid d) e.pkt.pid)) ∧
    MInv n (multiStep n t now e).1
      (if (multiStep n t now e).2 = .res .ok then (e.pkt.sid, e.pkt.pid) :: d else d) := by
  rcases multiStep_cases n t now e with ⟨hne, ht, hwhy⟩ | ⟨u, hsep, hu, heq⟩
  · refine ⟨⟨fun h => absurd h hne, fun ⟨hs, ⟨u, hu, _⟩, _⟩ => ?_⟩, by rw [ht, if_neg hne]; exact hinv⟩
    rcases hwhy with h | h
    · rw [hs] at h; cases h
    · rw [hu] at h; cases h
  · obtain ⟨hiff, hI⟩ := serverStep_spec hnew (hinv e.pkt.sid) now (forUser e u)
    rw [heq]
    refine ⟨?_, ?_⟩
    · simp only [MRes.res.injEq, hiff, parse_forUser, hsep, hu, Option.some.injEq, exists_eq_left', true_and]
      -- what is left is the unpacker's own condition, its `authentic` being `keyUser == some u` (`forUser`)
      show (e.pkt.long = true ∧ (e.keyUser == some u) = true ∧ _) ↔ _
      rw [beq_iff_eq]
      exact ⟨fun ⟨x, y, z⟩ => ⟨y, x, z⟩, fun ⟨y, x, z⟩ => ⟨x, y, z⟩⟩
    · simp only [MRes.res.injEq]
      split
      · next hk => rw [if_pos hk] at hI; exact hinv.set hI
      · exact hinv

theorem emptyTable_inv (n : Nat) : MInv n emptyTable [] := fun _ => serverInit_inv n

theorem multiRun_inv {n : Nat} (hnew : Sim n (new n) []) {t : Table} {d : List (Nat × Nat)}
    (hinv : MInv n t d) (hd : d.Nodup) (evs : List MEvent) :
    MInv n (multiAfter n t evs) (multiDelivered n t d evs) ∧ (multiDelivered n t d evs).Nodup := by
  induction evs generalizing t d with
  | nil => exact ⟨hinv, hd⟩
  | cons ev r ih =>
    obtain ⟨now, e⟩ := ev
    obtain ⟨hiff, hI⟩ := multiStep_spec hnew hinv now e
    simp only [multiAfter, multiDelivered]
    apply ih hI
    by_cases hk : (multiStep n t now e).2 = .res .ok
    · simp only [hk, if_true]
      refine List.nodup_cons.mpr ⟨fun hm => ?_, hd⟩
      exact (hiff.mp hk).2.2.2.2.1 (mem_proj hm)
    · simp only [hk, if_false]; exact hd

end SSV.UdpMulti
