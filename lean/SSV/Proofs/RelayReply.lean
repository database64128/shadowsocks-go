import SSV.Proofs.Relay
/-
The invariant `RInv` behind `replies_to_owner` and `ss2022_follows_address`: what each arm does to its session's key and
published client address (`Arm.addr`, `Arm.byAddr`, `Arm.addr_new`, `Arm.replies`), and the frame (`rinv_of_Arm`).
-/
namespace SSV.Relay

variable {cfg : Config}

theorem lastAddr_append_single (l : List (Nat × Addr × Pkt)) (sid : Nat) (a : Addr) (q : Pkt) (sid' : Nat) :
    lastAddr (l ++ [(sid, a, q)]) sid' = if sid = sid' then some a else lastAddr l sid' := by
  simp [lastAddr, List.foldl_append]

theorem lastAddr_append_other (l : List (Nat × Addr × Pkt)) {sid i : Nat} (h : i ≠ sid) (x : List (Addr × Pkt)) :
    lastAddr (l ++ x.map (fun e => (sid, e))) i = lastAddr l i := by
  simp only [lastAddr, List.foldl_append]
  generalize List.foldl _ none l = acc
  induction x generalizing acc with
  | nil => rfl
  | cons e t ih => simp [Ne.symm h, ih]

def ReplyOK (cfg : Config) (st : State) (r : Reply) : Prop :=
  r.stamp ≤ st.recvd.length ∧
  lastAddr (st.recvd.take r.stamp) r.sid = some r.to ∧
  r.src = (if cfg.carriesSource then some r.fromSrc else none) ∧
  ∃ s, st.sess r.sid = some s ∧ (cfg.byAddr = true → r.to = s.key)

structure RInv (cfg : Config) (st : State) : Prop where
  fresh : ∀ sid s, st.sess sid = some s → sid < st.next
  addr : ∀ sid s, st.sess sid = some s → lastAddr st.recvd sid = some s.clientAddr
  key : ∀ sid s, st.sess sid = some s → cfg.byAddr = true → s.clientAddr = s.key
  tab : ∀ k sid, st.table k = some sid → ∃ s, st.sess sid = some s ∧ s.key = k
  rep : ∀ r ∈ st.replies, ReplyOK cfg st r

theorem rinv_init (cfg : Config) : RInv cfg State.init := by
  refine ⟨?_, ?_, ?_, ?_, ?_⟩ <;> simp [State.init]

section
variable {st : State} {a : Act} {sid : Nat} {os : Option Sess} {s s' : Sess} {c' : Cache} {o : Out}

theorem Arm.addr (ha : Arm cfg st sid (some s) a s' c' o) : s'.key = s.key ∧
    ((∃ q, o.recvd = [(s'.clientAddr, q)]) ∨ (o.recvd = [] ∧ s'.clientAddr = s.clientAddr)) := by
  cases ha <;> simp

theorem Arm.byAddr (hb : cfg.byAddr = true) (ha : Arm cfg st sid (some s) a s' c' o)
    (hold : s.clientAddr = s.key) (htab : ∀ k, st.table k = some sid → s.key = k) : s'.clientAddr = s'.key := by
  cases ha with
  | @recvOld k src _ _ hg ht =>
    -- the guard makes the source the key looked up, and the table entry of `sid` sits under the session's key
    have hk : k = src := by simpa [hb] using hg
    exact hk ▸ (htab _ ht).symm
  | _ => exact hold

/-- `insertFirst = false`: garbage never creates a session -/
theorem Arm.addr_new (hif : cfg.insertFirst = false) (ha : Arm cfg st sid none a s' c' o) :
    (∃ q, o.recvd = [(s'.clientAddr, q)]) ∧ (cfg.byAddr = true → s'.clientAddr = s'.key) := by
  cases ha <;> simp_all [newSess]

theorem Arm.replies (ha : Arm cfg st sid os a s' c' o) {r : Reply} (h : r ∈ o.replies) : o.recvd = [] ∧ os = some s' ∧
    r.sid = sid ∧ r.to = s'.clientAddr ∧ r.stamp = st.recvd.length ∧
    r.src = (if cfg.carriesSource then some r.fromSrc else none) := by
  cases ha <;> simp at h
  simp [h]

end

theorem rinv_of_Arm (hif : cfg.insertFirst = false) {st st' : State} {a : Act} {sid : Nat} {os : Option Sess}
    {s' : Sess} {c' : Cache} {o : Out} (hI : RInv cfg st) (ha : Arm cfg st sid os a s' c' o)
    (ht : Touch cfg st st' sid os s' c' o) : RInv cfg st' := by
  have hold := ht.sess_before hI.fresh
  have hkey : ∀ s, os = some s → s'.key = s.key := fun s h => by subst h; exact ha.addr.1
  have hkeep : ∀ i s, st.sess i = some s → ∃ s1, st'.sess i = some s1 ∧ s1.key = s.key := fun i s hs => by
    by_cases he : i = sid
    · subst he; exact ⟨s', ht.sess_at, hkey s (hold ▸ hs)⟩
    · exact ⟨s, by rw [ht.sess_other he]; exact hs, rfl⟩
  have haddr : lastAddr st'.recvd sid = some s'.clientAddr := by
    rw [ht.recvd]
    cases os with
    | none =>
      obtain ⟨q, h⟩ := (ha.addr_new hif).1
      simp [h, lastAddr_append_single]
    | some s =>
      rcases ha.addr.2 with ⟨q, h⟩ | ⟨h, h2⟩
      · simp [h, lastAddr_append_single]
      · simp [h, h2, hI.addr _ _ hold]
  refine ⟨ht.fresh hI.fresh, ?_, ?_, ?_, ?_⟩
  · intro i s hs
    rcases ht.sess_cases hs with ⟨rfl, rfl⟩ | ⟨he, hs⟩
    · exact haddr
    · rw [ht.recvd, lastAddr_append_other _ he]; exact hI.addr _ _ hs
  · intro i s hs hb
    rcases ht.sess_cases hs with ⟨rfl, rfl⟩ | ⟨_, hs⟩
    · cases os with
      | none => exact (ha.addr_new hif).2 hb
      | some s =>
        refine ha.byAddr hb (hI.key _ _ hold hb) fun k hk => ?_
        obtain ⟨s0, hs0, hk0⟩ := hI.tab k _ hk
        rw [hold] at hs0; cases hs0; exact hk0
    · exact hI.key _ _ hs hb
  · intro k i hti
    rcases ht.table k i hti with h | ⟨rfl, h2⟩
    · obtain ⟨s, hs, hk⟩ := hI.tab k i h
      obtain ⟨s1, hs1, hk1⟩ := hkeep _ _ hs
      exact ⟨s1, hs1, hk1.trans hk⟩
    · exact ⟨s', ht.sess_at, h2⟩
  · intro r hr
    rw [ht.replies] at hr
    rcases List.mem_append.mp hr with h | h
    · obtain ⟨h1, h2, h3, s, hs, h4⟩ := hI.rep r h
      refine ⟨by rw [ht.recvd, List.length_append]; exact Nat.le_trans h1 (Nat.le_add_right _ _), ?_, h3, ?_⟩
      · rw [ht.recvd, List.take_append_of_le_length h1]; exact h2
      · obtain ⟨s1, hs1, hk1⟩ := hkeep _ _ hs
        exact ⟨s1, hs1, fun hb => by rw [hk1]; exact h4 hb⟩
    · obtain ⟨h0, hos, h1, h2, h3, h4⟩ := ha.replies h
      have hs' : st'.sess sid = some s' := ht.sess_at
      refine ⟨by rw [h3, ht.recvd, h0]; simp, ?_, h4, s', h1 ▸ hs', fun hb => ?_⟩
      · rw [h3, ht.recvd, h0, h1, h2]; simpa using hI.addr _ _ (hold.trans hos)
      · rw [h2]; exact hI.key _ _ (hold.trans hos) hb

theorem rinv_run (hif : cfg.insertFirst = false) (acts : List Act) {st : State} (hI : RInv cfg st) :
    RInv cfg (run cfg st acts) :=
  run_preserves (fun _ _ _ _ _ _ _ _ hI ha ht => rinv_of_Arm hif hI ha ht) acts hI

end SSV.Relay
