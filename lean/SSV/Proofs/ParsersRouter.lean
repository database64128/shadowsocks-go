import SSV.Proofs.Parsers
/-
Router criteria on the wire-derived address never panic once the two
`*PortSetCriterion.Meet` methods answer port 0 themselves (finding F3), and `Router.match` always
reaches the default route.
-/
namespace SSV.Parsers.Proofs
open SSV SSV.Go SSV.Outcome SSV.Parsers

theorem np_portSetMeet_guarded (mem : Nat → Bool) (port : Nat) : NoPanic (portSetMeet true mem port) := by
  unfold portSetMeet portSetContains
  by_cases h : port = 0 <;> simp [h]

mutual
theorem np_meet (g : Guards) (hs : g.src = true) (hd : g.dst = true) (q : Req) (hv : q.target.isValid = true) :
    (c : Crit) → NoPanic (c.meet g q)
  | .networkTCP | .networkUDP | .srcPort _ | .srcPortRanges _ | .dstPort _ | .dstPortRanges _ => noPanic_ok _
  | .srcPortSet mem => by simp only [Crit.meet, hs]; exact np_portSetMeet_guarded _ _
  | .dstPortSet mem => by simp only [Crit.meet, hd]; exact np_portSetMeet_guarded _ _
  | .dstDomain m => by
      simp only [Crit.meet]
      exact np_ifIP_else_domain hv (fun _ => noPanic_ok _) fun _ => noPanic_ok _
  | .dstIP ps => by
      simp only [Crit.meet]
      split
      · simp
      · rename_i h
        exact noPanic_bind (np_ip_of_isIP (by simpa using h)) fun _ => noPanic_ok _
  | .dstResolvedIP ps resolve => by
      simp only [Crit.meet]
      refine np_ifIP_else_domain hv (fun h => noPanic_bind (np_ip_of_isIP h) fun _ => noPanic_ok _) fun d => ?_
      split <;> simp
  | .dstDomainExpectedIP m inner => by
      simp only [Crit.meet]
      exact noPanic_bind (np_ifIP_else_domain hv (fun _ => noPanic_ok _) fun _ => noPanic_ok _) fun met =>
        noPanic_ite (noPanic_ok _) (np_meet g hs hd q hv inner)
  | .inverted c => by
      simp only [Crit.meet]
      exact noPanic_bind (np_meet g hs hd q hv c) fun _ => noPanic_ok _
  | .groupOr cs => by
      simp only [Crit.meet]
      exact np_meetAny g hs hd q hv cs
theorem np_meetAny (g : Guards) (hs : g.src = true) (hd : g.dst = true) (q : Req) (hv : q.target.isValid = true) :
    (cs : List Crit) → NoPanic (Crit.meet.meetAny g q cs)
  | [] => noPanic_ok _
  | c :: cs => by
      simp only [Crit.meet.meetAny]
      exact noPanic_bind (np_meet g hs hd q hv c) fun _ => noPanic_ite (noPanic_ok _) (np_meetAny g hs hd q hv cs)
end

theorem np_routeMatch (g : Guards) (hs : g.src = true) (hd : g.dst = true) (q : Req) (hv : q.target.isValid = true) :
    (cs : List Crit) → NoPanic (routeMatch g q cs)
  | [] => noPanic_ok _
  | c :: cs => by
      simp only [routeMatch]
      exact noPanic_bind (np_meet g hs hd q hv c) fun _ => noPanic_ite (noPanic_ok _) (np_routeMatch g hs hd q hv cs)

/-- the search always ends at the default route (no criteria), so `panic("did not match default route")` is unreachable -/
theorem np_routerMatchFrom (g : Guards) (hs : g.src = true) (hd : g.dst = true) (q : Req) (hv : q.target.isValid = true) :
    (i : Nat) → (rs : List (List Crit)) → NoPanic (routerMatchFrom g q i (rs ++ [[]]))
  | i, [] => noPanic_ok _
  | i, r :: rs => by
      simp only [List.cons_append, routerMatchFrom]
      exact noPanic_bind (np_routeMatch g hs hd q hv r) fun _ =>
        noPanic_ite (noPanic_ok _) (np_routerMatchFrom g hs hd q hv (i + 1) rs)

end SSV.Parsers.Proofs
