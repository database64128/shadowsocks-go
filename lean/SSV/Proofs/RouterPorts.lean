import SSV.Model.Router
import SSV.Proofs.PortSetRanges
/-
C09: the port-set table and the three port representations. `Count` and `First` are the length and the head of the list
of the set bits (`scan_eq_filter`), so what the single-port criterion needs is read off core's `List` lemmas; the run scan
is specified in PortBits for both models; the binary search is C10's, on the same ranges. `onePort` is the witness of the
`example`s of Props/C09.
-/
namespace SSV.Router

def PortSet.WF (s : PortSet) : Prop := s.bits.size = portSpace

theorem PortSet.bits_empty : PortSet.empty.bits = Array.replicate portSpace false := rfl

theorem PortSet.wf_empty : PortSet.empty.WF := by
  rw [PortSet.WF, PortSet.bits_empty, Array.size_replicate]

/- Rewriting with `bits_empty` keeps the 65536-entry table folded: unfolding `PortSet.empty` under `mem` instead
makes the kernel evaluate `Array.replicate portSpace false`. -/
theorem PortSet.mem_empty (q : Nat) : PortSet.empty.mem q = false := by
  rw [PortSet.mem, PortSet.bits_empty, Array.getD_eq_getD_getElem?, Array.getElem?_replicate]
  split <;> rfl

theorem PortSet.wf_add (s : PortSet) (hs : s.WF) (p : Nat) : (s.add p).WF := by
  rw [PortSet.WF, PortSet.add, Array.size_setIfInBounds]
  exact hs

theorem PortSet.mem_add (s : PortSet) (hs : s.WF) (p q : Nat) (hp : p < portSpace) :
    (s.add p).mem q = (p == q || s.mem q) := by
  rw [← hs] at hp
  simp only [PortSet.add, PortSet.mem, Array.getD_eq_getD_getElem?, Array.getElem?_setIfInBounds]
  by_cases h : p = q
  · subst h; simp [hp]
  · simp [h]

theorem PortSet.wf_addRun (s : PortSet) (hs : s.WF) : ∀ a n, (s.addRun a n).WF
  | _, 0 => hs
  | a, n + 1 => PortSet.wf_addRun (s.add a) (PortSet.wf_add s hs a) (a + 1) n

theorem PortSet.mem_addRun (s : PortSet) (hs : s.WF) (a n q : Nat) (h : a + n ≤ portSpace) :
    (s.addRun a n).mem q = (decide (a ≤ q) && decide (q < a + n) || s.mem q) := by
  induction n generalizing s a with
  | zero =>
    have : (decide (a ≤ q) && decide (q < a + 0)) = false := by
      rw [← Bool.decide_and]; exact decide_eq_false (by omega)
    rw [PortSet.addRun, this, Bool.false_or]
  | succ n ih =>
    rw [PortSet.addRun, ih (s.add a) (PortSet.wf_add s hs a) (a + 1) (by omega), PortSet.mem_add s hs a q (by omega),
      ← Bool.or_assoc]
    congr 1
    rw [Bool.eq_iff_iff]
    simp only [Bool.or_eq_true, Bool.and_eq_true, decide_eq_true_eq, beq_iff_eq]
    omega

theorem scan_eq_filter (mem : Nat → Bool) : ∀ n p,
    countFrom mem n p = ((List.range' p n).filter mem).length ∧
    firstFrom mem n p = ((List.range' p n).filter mem).head?.getD 0
  | 0, _ => ⟨rfl, rfl⟩
  | n + 1, p => by
    rw [countFrom, firstFrom, (scan_eq_filter mem n (p + 1)).1, (scan_eq_filter mem n (p + 1)).2, List.range'_succ,
      List.filter_cons]
    split <;> exact ⟨rfl, rfl⟩

theorem PortSet.mem_filter (s : PortSet) (q : Nat) (hq : q < portSpace) :
    q ∈ (List.range' 0 portSpace).filter s.mem ↔ s.mem q = true := by
  rw [List.mem_filter, List.mem_range'_1]
  exact and_iff_right ⟨Nat.zero_le _, by omega⟩

theorem rangesContain_eq_covered (rs : List (Nat × Nat))
    (hp : rs.Pairwise (fun a b => a.2 < b.1)) (hw : ∀ r ∈ rs, r.1 ≤ r.2) (port : Nat) :
    rangesContain rs port = covered rs port := by
  have hs : SSV.PortSet.SortedRanges (rs.map toRange) :=
    ⟨List.pairwise_map.mpr hp, fun r hr => by obtain ⟨x, hx, rfl⟩ := List.mem_map.mp hr; exact hw x hx⟩
  rw [rangesContain_map_toRange, Bool.eq_iff_iff, SSV.PortSet.rangesContain_spec _ _ hs, covered_map_toRange]

theorem rangeSet_contains (s : PortSet) (q : Nat) (hq : q < portSpace) :
    rangesContain s.rangeSet q = s.mem q := by
  have hinv := (runs_inv s.mem portSpace 0).1
  rw [PortSet.rangeSet, rangesContain_eq_covered _ hinv.2.1 (fun r hr => (hinv.1 r hr).2), Bool.eq_iff_iff,
    hinv.covered_iff]
  exact and_iff_right hq

theorem PortSet.first_of_count_one (s : PortSet) (h : s.count = 1) (q : Nat) (hq : q < portSpace) :
    (s.first == q) = s.mem q := by
  -- one set bit: the list of the set bits is `[x]`, so `First` is `x` and a port is in the set iff it is `x`
  rw [PortSet.count, (scan_eq_filter _ _ _).1, List.length_eq_one_iff] at h
  obtain ⟨x, hx⟩ := h
  have := s.mem_filter q hq
  rw [hx, List.mem_singleton] at this
  rw [PortSet.first, (scan_eq_filter _ _ _).2, hx, Bool.eq_iff_iff, ← this, beq_iff_eq]
  exact eq_comm

theorem PortSet.count_ne_zero (s : PortSet) (q : Nat) (hq : q < portSpace) (h : s.mem q = true) : s.count ≠ 0 := by
  rw [PortSet.count, (scan_eq_filter _ _ _).1]
  exact fun h0 => List.ne_nil_of_mem ((s.mem_filter q hq).mpr h) (List.length_eq_zero_iff.mp h0)

def onePort : PortSet := PortSet.empty.add 80

theorem onePort_mem : onePort.mem = (· == 80) := by
  funext q
  rw [onePort, PortSet.mem_add _ PortSet.wf_empty 80 q (by decide), PortSet.mem_empty, Bool.or_false, BEq.comm]

theorem onePort_count : onePort.count = 1 := by
  rw [PortSet.count, onePort_mem, (scan_eq_filter _ _ _).1, ← List.count_eq_length_filter, List.count_range_1']
  decide

theorem onePort_zero : onePort.mem 0 = false := by
  rw [onePort_mem]; decide

end SSV.Router
