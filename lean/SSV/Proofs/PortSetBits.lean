import SSV.Model.PortSet
import SSV.Proofs.Bits
/-
What the port-set proofs share: the bits of a word as a list (`bitsOf`), `TrailingZeros` / trailing ones as runs of
that list, and the bit-by-bit scan `scanBits` with which PortSetScan compares the word-level loops.
-/
namespace SSV.PortSet

/-- well-formed port set: the array type of the source (`[1024]uint`) -/
def WF (ws : Words) : Prop := ws.length = 1024 ∧ ∀ w ∈ ws, w < 2 ^ 64

/-- the `n` low bits of `x`, least significant first -/
def bitsOf : Nat → Nat → List Bool
  | _, 0 => []
  | x, n + 1 => (x % 2 == 1) :: bitsOf (x / 2) n

/-- number of trailing one bits (at most `f`) -/
def trailingOnes : Nat → Nat → Nat
  | 0, _ => 0
  | f + 1, x => if x % 2 = 1 then 1 + trailingOnes f (x / 2) else 0

/-- a clear bit at position `p`: an open range ends at `p - 1` -/
def closeAt (st : Scan) (p : Nat) : Scan :=
  if st.inRange then ⟨false, st.start, ⟨st.start, p - 1⟩ :: st.acc⟩ else st

/-- a set bit at position `p`: it opens a range unless one is open -/
def openAt (st : Scan) (p : Nat) : Scan :=
  if st.inRange then st else ⟨true, p, st.acc⟩

def stepBit (st : Scan) (p : Nat) (b : Bool) : Scan := if b then openAt st p else closeAt st p

def scanBits : Scan → Nat → List Bool → Scan
  | st, _, [] => st
  | st, p, b :: bs => scanBits (stepBit st p b) (p + 1) bs

theorem length_bitsOf : ∀ x n, (bitsOf x n).length = n
  | _, 0 => rfl
  | x, n + 1 => by simp [bitsOf, length_bitsOf]

theorem bitsOf_shiftRight : ∀ (n x s : Nat), bitsOf (x >>> s) n = (List.range' s n).map x.testBit
  | 0, _, _ => rfl
  | n + 1, x, s => by
    rw [bitsOf, ← Nat.shiftRight_succ, bitsOf_shiftRight n x (s + 1), List.range'_succ, List.map_cons,
      Nat.testBit_eq_decide_div_mod_eq, ← Nat.shiftRight_eq_div_pow]
    congr 1

theorem shiftRight_one_add (x k : Nat) : x >>> (1 + k) = (x / 2) >>> k := by
  rw [Nat.add_comm, Nat.shiftRight_succ_inside]

theorem tz_le : ∀ f x, trailingZeros f x ≤ f
  | 0, _ => by simp [trailingZeros]
  | f + 1, x => by
    unfold trailingZeros
    split
    · omega
    · have := tz_le f (x / 2); omega

theorem bitsOf_zeros : ∀ f x n k, k ≤ trailingZeros f x → k ≤ n →
    bitsOf x n = List.replicate k false ++ bitsOf (x >>> k) (n - k)
  | _, _, _, 0, _, _ => rfl
  | 0, _, _, k + 1, h, _ => by simp [trailingZeros] at h
  | f + 1, x, n, k + 1, h, hn => by
    unfold trailingZeros at h
    split at h
    · omega
    · next hx =>
      obtain ⟨m, rfl⟩ : ∃ m, n = m + 1 := ⟨n - 1, by omega⟩
      have hb : (x % 2 == 1) = false := beq_false_of_ne hx
      rw [bitsOf, hb, bitsOf_zeros f (x / 2) m k (by omega) (by omega), Nat.shiftRight_succ_inside, Nat.add_sub_add_right,
        List.replicate_succ, List.cons_append]

theorem bitsOf_all_zero (f x n : Nat) (h : n ≤ trailingZeros f x) : bitsOf x n = List.replicate n false := by
  rw [bitsOf_zeros f x n n h (Nat.le_refl n), Nat.sub_self, bitsOf, List.append_nil]

theorem tz_bit : ∀ f x, trailingZeros f x < f → (x >>> trailingZeros f x) % 2 = 1
  | 0, _, h => by simp [trailingZeros] at h
  | f + 1, x, h => by
    unfold trailingZeros at h ⊢
    split
    · simpa using ‹x % 2 = 1›
    · rename_i hx
      simp only [hx, ↓reduceIte] at h
      rw [shiftRight_one_add]
      exact tz_bit f (x / 2) (by omega)

theorem tz_eq_zero_iff (f x : Nat) : trailingZeros (f + 1) x = 0 ↔ x % 2 = 1 := by
  unfold trailingZeros
  by_cases h : x % 2 = 1
  · rw [if_pos h]; exact iff_of_true rfl h
  · rw [if_neg h]; exact iff_of_false (by omega) h

theorem tz_lt_of_ne_zero : ∀ (f x : Nat), x ≠ 0 → x < 2 ^ f → trailingZeros f x < f
  | 0, x, h0, h => by simp at h; omega
  | f + 1, x, h0, h => by
    unfold trailingZeros
    split
    · omega
    · have hp : 2 ^ (f + 1) = 2 * 2 ^ f := Nat.pow_succ'
      have := tz_lt_of_ne_zero f (x / 2) (by omega) (Nat.div_lt_of_lt_mul (hp ▸ h))
      omega

theorem tz_not : ∀ f x, x < 2 ^ f → trailingZeros f (2 ^ f - 1 - x) = trailingOnes f x
  | 0, _, _ => rfl
  | f + 1, x, hx => by
    have hp : 2 ^ (f + 1) = 2 * 2 ^ f := Nat.pow_succ'
    by_cases hodd : x % 2 = 1
    · have key : 2 ^ (f + 1) - 1 - x = 2 * (2 ^ f - 1 - x / 2) := by omega
      rw [trailingZeros, trailingOnes, key, Nat.mul_mod_right, Nat.mul_div_cancel_left _ (by decide), if_neg (by decide),
        if_pos hodd, tz_not f (x / 2) (Nat.div_lt_of_lt_mul (hp ▸ hx))]
    · rw [trailingZeros, trailingOnes, if_pos (by omega), if_neg hodd]

theorem bitsOf_ones : ∀ f x n, trailingOnes f x ≤ n →
    bitsOf x n = List.replicate (trailingOnes f x) true ++ bitsOf (x >>> trailingOnes f x) (n - trailingOnes f x)
  | 0, x, n, _ => by simp [trailingOnes]
  | f + 1, x, n, h => by
    unfold trailingOnes at h ⊢
    split
    · rename_i hx
      simp only [hx, ↓reduceIte] at h
      obtain ⟨m, rfl⟩ : ∃ m, n = m + 1 := ⟨n - 1, by omega⟩
      have ih := bitsOf_ones f (x / 2) m (by omega)
      have hb : (x % 2 == 1) = true := by simp [hx]
      rw [bitsOf, hb, ih, shiftRight_one_add]
      have : m + 1 - (1 + trailingOnes f (x / 2)) = m - trailingOnes f (x / 2) := by omega
      rw [this, Nat.add_comm 1, List.replicate_succ]
      rfl
    · simp

theorem ones_le_of_lt : ∀ f x n, x < 2 ^ n → trailingOnes f x ≤ n
  | 0, _, _, _ => by simp [trailingOnes]
  | f + 1, x, n, hx => by
    unfold trailingOnes
    split
    · rename_i hodd
      cases n with
      | zero => omega
      | succ m =>
        have hp : 2 ^ (m + 1) = 2 * 2 ^ m := Nat.pow_succ'
        have := ones_le_of_lt f (x / 2) m (Nat.div_lt_of_lt_mul (hp ▸ hx))
        omega
    · omega

theorem ones_bit : ∀ f x, trailingOnes f x < f → (x >>> trailingOnes f x) % 2 = 0
  | 0, _, h => by simp [trailingOnes] at h
  | f + 1, x, h => by
    unfold trailingOnes at h ⊢
    split
    · rename_i hx
      simp only [hx, ↓reduceIte] at h
      rw [shiftRight_one_add]
      exact ones_bit f (x / 2) (by omega)
    · simp; omega

theorem ones_pos (f x : Nat) (h : x % 2 = 1) : 1 ≤ trailingOnes (f + 1) x := by
  unfold trailingOnes; simp [h]

theorem shiftRight_lt {x n k : Nat} (hx : x < 2 ^ n) (hk : k ≤ n) : x >>> k < 2 ^ (n - k) := by
  rw [Nat.shiftRight_eq_div_pow]
  apply Nat.div_lt_of_lt_mul
  rw [← Nat.pow_add]
  have : k + (n - k) = n := by omega
  rwa [this]

theorem stepBit_inRange (st : Scan) (p : Nat) (b : Bool) : (stepBit st p b).inRange = b := by
  cases b <;> cases h : st.inRange <;> simp [stepBit, openAt, closeAt, h]

theorem scanBits_run_same (b : Bool) : ∀ k st p rest, st.inRange = b →
    scanBits st p (List.replicate k b ++ rest) = scanBits st (p + k) rest
  | 0, st, p, rest, _ => by simp
  | k + 1, st, p, rest, h => by
    have hs : stepBit st p b = st := by cases b <;> simp [stepBit, openAt, closeAt, h]
    rw [List.replicate_succ, List.cons_append, scanBits, hs, scanBits_run_same b k st (p + 1) rest h]
    congr 1; omega

theorem scanBits_run (b : Bool) (k : Nat) (st : Scan) (p : Nat) (rest : List Bool) (hk : 1 ≤ k) :
    scanBits st p (List.replicate k b ++ rest) = scanBits (stepBit st p b) (p + k) rest := by
  obtain ⟨m, rfl⟩ : ∃ m, k = m + 1 := ⟨k - 1, by omega⟩
  rw [List.replicate_succ, List.cons_append, scanBits, scanBits_run_same b m _ (p + 1) rest (stepBit_inRange st p b)]
  congr 1; omega

theorem not64_eq {x : Nat} (hx : x < 2 ^ 64) : not64 x = 2 ^ 64 - 1 - x := by
  simp only [not64, allOnes, W]
  rw [Nat.mod_eq_of_lt hx]

theorem shl64_lt (x k : Nat) : shl64 x k < 2 ^ 64 := by
  unfold shl64 W
  exact Nat.mod_lt _ (by decide)

theorem not64_lt (x : Nat) : not64 x < 2 ^ 64 := by
  unfold not64 allOnes
  omega

theorem shl64_one {k : Nat} (hk : k < 64) : shl64 1 k = 2 ^ k := by
  simp only [shl64, W, Nat.one_shiftLeft]
  exact Nat.mod_eq_of_lt (Nat.pow_lt_pow_right (by decide) hk)

theorem bitAt_eq_testBit (ws : Words) (q : Nat) : bitAt ws q = (word ws (q / 64)).testBit (q % 64) := by
  show (word ws (q / 64) &&& shl64 1 (q % 64) != 0) = _
  rw [shl64_one (Nat.mod_lt _ (by decide)), and_two_pow_bne_zero]

theorem words_ext {ws ws' : Words} (h : WF ws) (h' : WF ws')
    (hb : ∀ q, q < 65536 → bitAt ws q = bitAt ws' q) : ws = ws' := by
  apply List.ext_getElem (by rw [h.1, h'.1])
  intro i hi hi'
  have hi1 : i < 1024 := by rw [← h.1]; exact hi
  apply Nat.eq_of_testBit_eq
  intro j
  by_cases hj : j < 64
  · have := hb (64 * i + j) (by omega)
    rw [bitAt_eq_testBit, bitAt_eq_testBit, Nat.mul_add_div (by decide), Nat.div_eq_of_lt hj, Nat.add_zero, Nat.mul_add_mod,
      Nat.mod_eq_of_lt hj] at this
    simpa [word, List.getD_eq_getElem?_getD, hi, hi'] using this
  · have hw : ws[i] < 2 ^ 64 := h.2 _ (List.getElem_mem hi)
    have hw' : ws'[i] < 2 ^ 64 := h'.2 _ (List.getElem_mem hi')
    have hp : 2 ^ 64 ≤ 2 ^ j := Nat.pow_le_pow_right (by omega) (by omega)
    rw [Nat.testBit_lt_two_pow (Nat.lt_of_lt_of_le hw hp), Nat.testBit_lt_two_pow (Nat.lt_of_lt_of_le hw' hp)]

/-- what a range list of `portset.PortRangeSet` covers -/
def covered (rs : List Range) (q : Nat) : Prop := ∃ r ∈ rs, r.lo ≤ q ∧ q ≤ r.hi

end SSV.PortSet
