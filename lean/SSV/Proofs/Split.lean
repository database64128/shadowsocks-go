import SSV.Base.Split
/- `splitOn` always yields at least one piece (the `[]` arm in its definition is never taken); it undoes `joinWith` on
pieces without the separator and is undone by it. -/
namespace SSV

theorem joinWith_cons_cons (c : UInt8) (a b : List UInt8) (rest : List (List UInt8)) :
    joinWith c (a :: b :: rest) = a ++ c :: joinWith c (b :: rest) := rfl

theorem joinWith_cons_head (c x : UInt8) (h : List UInt8) (t : List (List UInt8)) :
    joinWith c ((x :: h) :: t) = x :: joinWith c (h :: t) := by cases t <;> rfl

theorem splitOn_spec (c : UInt8) (s : List UInt8) :
    splitOn c s ≠ [] ∧ (∀ l ∈ splitOn c s, c ∉ l) ∧ joinWith c (splitOn c s) = s := by
  fun_induction splitOn c s
  case case1 => simp [joinWith]
  -- the separator opens a new, empty piece
  case case2 xs ih =>
    obtain ⟨hd, tl, e⟩ := List.exists_cons_of_ne_nil ih.1
    rw [e] at ih ⊢
    exact ⟨nofun, List.forall_mem_cons.mpr ⟨List.not_mem_nil, ih.2.1⟩, by rw [joinWith_cons_cons, ih.2.2]; rfl⟩
  case case3 e ih => exact absurd e ih.1
  -- any other byte joins the first piece
  case case4 x xs hx hd tl e ih =>
    rw [e] at ih
    obtain ⟨h1, h2⟩ := List.forall_mem_cons.mp ih.2.1
    exact ⟨nofun, List.forall_mem_cons.mpr ⟨fun hm => (List.mem_cons.mp hm).elim (Ne.symm hx) h1, h2⟩,
      by rw [joinWith_cons_head, ih.2.2]⟩

theorem splitOn_ne_nil (c : UInt8) (s : List UInt8) : splitOn c s ≠ [] := (splitOn_spec c s).1

theorem mem_splitOn_no_sep (c : UInt8) (s : List UInt8) : ∀ l ∈ splitOn c s, c ∉ l := (splitOn_spec c s).2.1

theorem joinWith_splitOn (c : UInt8) (s : List UInt8) : joinWith c (splitOn c s) = s := (splitOn_spec c s).2.2

theorem splitOn_eq_cons (c : UInt8) (s : List UInt8) : ∃ hd tl, splitOn c s = hd :: tl :=
  List.exists_cons_of_ne_nil (splitOn_ne_nil c s)

theorem splitOn_cons_shape (c x : UInt8) (xs : List UInt8) :
    ∃ a t, splitOn c (x :: xs) = a :: t ∧ (t = [] → a ≠ []) := by
  obtain ⟨h, t, e⟩ := splitOn_eq_cons c xs
  simp only [splitOn]
  rw [e]
  by_cases hx : x = c
  · rw [if_pos hx]; exact ⟨[], h :: t, rfl, nofun⟩
  · rw [if_neg hx]; exact ⟨x :: h, t, rfl, fun _ => nofun⟩

theorem splitOn_no_sep_append (c : UInt8) {rest hd : List UInt8} {tl : List (List UInt8)} (e : splitOn c rest = hd :: tl) :
    ∀ a, c ∉ a → splitOn c (a ++ rest) = (a ++ hd) :: tl
  | [], _ => e
  | x :: a, h => by
    have hx : x ≠ c := fun h' => h (h' ▸ List.mem_cons_self)
    simp [splitOn, hx, splitOn_no_sep_append c e a fun h' => h (List.mem_cons_of_mem _ h')]

theorem splitOn_no_sep (c : UInt8) (s : List UInt8) (h : c ∉ s) : splitOn c s = [s] := by
  simpa using splitOn_no_sep_append c (rest := []) rfl s h

theorem joinWith_append (c : UInt8) : ∀ a b, a ≠ [] → b ≠ [] →
    joinWith c (a ++ b) = joinWith c a ++ c :: joinWith c b
  | [], _, h, _ => absurd rfl h
  | [x], b, _, hb => by
    cases b with
    | nil => exact absurd rfl hb
    | cons y ys => simp [joinWith]
  | x :: y :: rest, b, _, hb => by
    rw [List.cons_append, List.cons_append, joinWith_cons_cons, ← List.cons_append,
      joinWith_append c (y :: rest) b (by simp) hb, joinWith_cons_cons]
    simp

/-- `splitOn` is the only non-empty list of pieces without the separator that `joinWith` takes back to the input -/
theorem splitOn_joinWith (c : UInt8) : ∀ ls, ls ≠ [] → (∀ l ∈ ls, c ∉ l) →
    splitOn c (joinWith c ls) = ls
  | [], h, _ => absurd rfl h
  | [a], _, h => splitOn_no_sep c a (h a (by simp))
  | a :: b :: rest, _, h => by
    have ih := splitOn_joinWith c (b :: rest) (by simp) (fun l hl => h l (by simp [hl]))
    rw [joinWith_cons_cons]
    simpa using splitOn_no_sep_append c (rest := c :: joinWith c (b :: rest)) (hd := []) (by simp [splitOn, ih]) a (h a (by simp))

theorem splitOn_append_sep (c : UInt8) (a b : List UInt8) : splitOn c (a ++ c :: b) = splitOn c a ++ splitOn c b := by
  have h := splitOn_joinWith c (splitOn c a ++ splitOn c b) (by simp [splitOn_ne_nil]) fun l hl =>
    (List.mem_append.mp hl).elim (mem_splitOn_no_sep c a l) (mem_splitOn_no_sep c b l)
  rwa [joinWith_append c _ _ (splitOn_ne_nil c a) (splitOn_ne_nil c b), joinWith_splitOn, joinWith_splitOn] at h

theorem splitOn_unlines (c : UInt8) : ∀ ls, (∀ l ∈ ls, c ∉ l) →
    splitOn c (ls.flatMap (fun l => l ++ [c])) = ls ++ [[]]
  | [], _ => rfl
  | l :: ls, h => by
    rw [List.flatMap_cons, List.append_assoc, List.singleton_append, splitOn_append_sep, splitOn_no_sep c l (h l (by simp)),
      splitOn_unlines c ls fun x hx => h x (List.mem_cons_of_mem _ hx)]
    rfl

theorem cutAt_no_sep_append (c : UInt8) : ∀ (s rest : List UInt8), c ∉ s →
    cutAt c (s ++ rest) = (s ++ (cutAt c rest).1, (cutAt c rest).2)
  | [], rest, _ => by simp
  | x :: xs, rest, h => by
    have hx : x ≠ c := by intro h'; subst h'; simp at h
    have ih := cutAt_no_sep_append c xs rest (by intro h'; exact h (by simp [h']))
    rw [List.cons_append, cutAt]
    simp [hx, ih]

end SSV
