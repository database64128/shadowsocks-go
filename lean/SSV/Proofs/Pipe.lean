import SSV.Model.Pipe
/-
C15 — the steps of the pipe direction in rule form, the inductive invariant and its preservation.

`localSteps`, `data`, `count`, `fire`, `finish` are functions written for the driver.  `Loc` says the same as
`localSteps` in explicit rules `old pc ⟶ new pc, new shared fields` (`loc_cases`, `Loc.mem`); `Rule` lists the internal
steps out of a state that satisfies the invariant (`IStep.rule`; no converse is proved), and the proofs about arbitrary
steps are case analyses over the rules.

Six clauses of `Inv` speak of every thread; `Good s x p` is their conjunction for one thread `x` at pc `p`, and
`Inv.of_good` builds `Inv` from it.  Most pcs are `Good` in every state (`PC.plain`), so a rule argues only about the
clause it touches (`inv_plain` does the rest), and a change of the ghost log concerns the others only through entries
that are final (`wOk_frame`).
-/
namespace SSV.Pipe

def PC.isAck : PC → Bool
  | .rAck .. => true
  | _ => false

def PC.isAwait : PC → Bool
  | .wAwait .. => true
  | _ => false

/-- a returned call waiting to be collected -/
def PC.returned : PC → Bool
  | .rRet .. | .wRet .. | .uRet .. => true
  | _ => false

/-- a select waits on a cancel channel that existed -/
def PC.gensOk (rg wg : Nat) : PC → Prop
  | .rSel _ _ g => g ≤ rg
  | .wSel _ _ _ g => g ≤ wg
  | _ => True

/-- the writer's locals agree with its ghost log entry: a writer inside its loop owns the LAST entry; a returned
writer's entry is final and, while somebody else holds the lock (`held`), no longer the last one -/
def PC.wOk (wlog : List (Bytes × Nat)) (held : Bool) : PC → Prop
  | .wEnter b n ci | .wSel b n ci _ | .wAwait b n ci =>
      ci + 1 = wlog.length ∧ ∃ o, wlog[ci]? = some (o, n) ∧ b = o.drop n ∧ n ≤ o.length
  | .wRet n _ (some ci) => (∃ o, wlog[ci]? = some (o, n) ∧ n ≤ o.length) ∧ (held = true → ci + 1 < wlog.length)
  | .wRet n _ none => n = 0
  | _ => True

structure Inv (s : State) : Prop where
  noPanic : s.panicked = false
  errSet : s.done = true → s.err ≠ none
  closeOk : ∀ i, s.thr i = .cClose → s.err ≠ none
  rdlOk : s.rdl.armed = true → s.rdl.closed = false
  wdlOk : s.wdl.armed = true → s.wdl.closed = false
  muHold : ∀ i, (s.thr i).holds = true → s.mu = some i
  muLive : ∀ i, s.mu = some i → (s.thr i).holds = true
  ackHs : ∀ i, (s.thr i).isAck = true → ∃ j, s.hs = some (i, j)
  awaitHs : ∀ j, (s.thr j).isAwait = true → ∃ i, s.hs = some (i, j)
  hsOk : ∀ i j, s.hs = some (i, j) → ∃ k acc nr fail b n ci,
    s.thr i = .rAck k acc nr fail (b.take nr) ∧ s.thr j = .wAwait b n ci ∧ nr ≤ b.length
  gens : ∀ i, (s.thr i).gensOk s.rdl.gen s.wdl.gen
  wOk : ∀ i, (s.thr i).wOk s.wlog s.mu.isSome
  fid : s.rret = consumed s.wlog


/-- `Loc s i p p' g`: thread `i` at pc `p` can move alone to `p'`, leaving the shared fields as in `g`
(the resulting state is `g.setT i p'`).  A `Load` of an unset once-error is the one move that is not listed. -/
inductive Loc (s : State) (i : Nat) : PC → PC → State → Prop
  | rChk1Done {k acc e} : s.done = true → s.err = some e → Loc s i (.rChk1 k acc) (.rRet acc (k.closeErr e)) s
  | rChk1 {k acc} : s.done = false → Loc s i (.rChk1 k acc) (.rChk2 k acc) s
  | rChk2Exp {k acc} : s.rdl.closed = true → Loc s i (.rChk2 k acc) (.rRet acc .timeout) s
  | rChk2 {k acc} : s.rdl.closed = false → Loc s i (.rChk2 k acc) (.rEnter k acc) s
  | rEnter {k acc} : Loc s i (.rEnter k acc) (.rSel k acc s.rdl.gen) s
  | rSelDone {k acc g e} : s.done = true → s.err = some e → Loc s i (.rSel k acc g) (.rRet acc (k.closeErr e)) s
  | rSelExp {k acc g} : s.rdl.chanClosed g = true → Loc s i (.rSel k acc g) (.rRet acc .timeout) s
  | wChk1Done {b e} : s.done = true → s.err = some e → Loc s i (.wChk1 b) (.wRet 0 (writeCloseErr e) none) s
  | wChk1 {b} : s.done = false → Loc s i (.wChk1 b) (.wChk2 b) s
  | wChk2Exp {b} : s.wdl.closed = true → Loc s i (.wChk2 b) (.wRet 0 .timeout none) s
  | wChk2 {b} : s.wdl.closed = false → Loc s i (.wChk2 b) (.wLock b) s
  | wLock {b} : s.mu = none →
      Loc s i (.wLock b) (.wEnter b 0 s.wlog.length) { s with mu := some i, wlog := s.wlog ++ [(b, 0)] }
  | wEnter {b n ci} : Loc s i (.wEnter b n ci) (.wSel b n ci s.wdl.gen) s
  | wSelDone {b n ci g e} : s.done = true → s.err = some e →
      Loc s i (.wSel b n ci g) (.wRet n (writeCloseErr e) (some ci)) { s with mu := none }
  | wSelExp {b n ci g} : s.wdl.chanClosed g = true →
      Loc s i (.wSel b n ci g) (.wRet n .timeout (some ci)) { s with mu := none }
  | cStore {e} : Loc s i (.cStore e) .cClose { s with err := s.err.orElse fun _ => some e }
  | cClose : Loc s i .cClose (.uRet .nil) { s with done := true }
  | dChkRefuse {w k} : s.done = true → s.err = some (if w then Err.eof else Err.closedPipe) →
      Loc s i (.dChk w k) (.uRet .closedPipe) s
  | dChk {w k} : (s.done = true → ∃ e, s.err = some e ∧ e ≠ if w then Err.eof else Err.closedPipe) →
      Loc s i (.dChk w k) (.dSet w k) s
  | dSetR {k} : Loc s i (.dSet false k) (.uRet .nil) { s with rdl := s.rdl.set k }
  | dSetW {k} : Loc s i (.dSet true k) (.uRet .nil) { s with wdl := s.wdl.set k }

theorem withErr_some {s : State} {e : Err} (f : Err → State) (h : s.err = some e) : withErr s f = f e := by
  simp [withErr, h]

theorem mem_selSteps {alts : List Alt} {c t : Prop} [Decidable c] [Decidable t] {x y s' : State}
    (h : s' ∈ selSteps alts (if c then some x else none) (if t then some y else none)) :
    c ∧ s' = x ∨ t ∧ s' = y := by
  unfold selSteps at h
  simp only [List.mem_filterMap] at h
  obtain ⟨a, _, ha⟩ := h
  cases a
  · cases ha
  · exact .inl (by simpa [eq_comm] using ha)
  · exact .inr (by simpa [eq_comm] using ha)

theorem loc_cases {s s' : State} {i : Nat} (hs : s' ∈ localSteps s i) :
    (s.done = true ∧ s.err = none ∧ s' = s.panic) ∨ ∃ p' g, Loc s i (s.thr i) p' g ∧ s' = g.setT i p' := by
  have load : ∀ {p : PC} {f : Err → State}, s.done = true → s' = withErr s f →
      (∀ e, s.err = some e → ∃ p' g, Loc s i p p' g ∧ f e = g.setT i p') →
      (s.done = true ∧ s.err = none ∧ s' = s.panic) ∨ ∃ p' g, Loc s i p p' g ∧ s' = g.setT i p' := by
    intro p f hd hs hf
    rcases Option.eq_none_or_eq_some s.err with he | ⟨e, he⟩
    · exact .inl ⟨hd, he, by simp [hs, withErr, he]⟩
    · obtain ⟨p', g, hl, hg⟩ := hf e he
      exact .inr ⟨p', g, hl, by rw [hs, withErr_some f he, hg]⟩
  revert hs
  fun_cases localSteps s i <;> intro hs <;> try rw [‹s.thr i = _›]
  next hd => exact load hd (List.mem_singleton.1 hs) fun e he => ⟨_, _, .rChk1Done hd he, rfl⟩
  next hd => exact .inr ⟨_, _, .rChk1 (by simpa using hd), List.mem_singleton.1 hs⟩
  next hc => exact .inr ⟨_, _, .rChk2Exp hc, List.mem_singleton.1 hs⟩
  next hc => exact .inr ⟨_, _, .rChk2 (by simpa using hc), List.mem_singleton.1 hs⟩
  next => exact .inr ⟨_, _, .rEnter, List.mem_singleton.1 hs⟩
  next =>
    rcases mem_selSteps hs with ⟨hd, hs⟩ | ⟨hc, hs⟩
    · exact load hd hs fun e he => ⟨_, _, .rSelDone hd he, rfl⟩
    · exact .inr ⟨_, _, .rSelExp hc, hs⟩
  next hd => exact load hd (List.mem_singleton.1 hs) fun e he => ⟨_, _, .wChk1Done hd he, rfl⟩
  next hd => exact .inr ⟨_, _, .wChk1 (by simpa using hd), List.mem_singleton.1 hs⟩
  next hc => exact .inr ⟨_, _, .wChk2Exp hc, List.mem_singleton.1 hs⟩
  next hc => exact .inr ⟨_, _, .wChk2 (by simpa using hc), List.mem_singleton.1 hs⟩
  next hm => exact .inr ⟨_, _, .wLock hm, List.mem_singleton.1 hs⟩
  next => cases hs  -- lock is taken
  next => exact .inr ⟨_, _, .wEnter, List.mem_singleton.1 hs⟩
  next =>
    rcases mem_selSteps hs with ⟨hd, hs⟩ | ⟨hc, hs⟩
    · exact load hd hs fun e he => ⟨_, _, .wSelDone hd he, rfl⟩
    · exact .inr ⟨_, _, .wSelExp hc, hs⟩
  next => exact .inr ⟨_, _, .cStore, List.mem_singleton.1 hs⟩
  next => exact .inr ⟨_, _, .cClose, List.mem_singleton.1 hs⟩
  next w k _ hd =>
    refine load hd (List.mem_singleton.1 hs) fun e he => ?_
    by_cases hw : e = if w then Err.eof else Err.closedPipe
    · exact ⟨_, _, .dChkRefuse hd (hw ▸ he), if_pos hw⟩
    · exact ⟨_, _, .dChk fun _ => ⟨e, he, hw⟩, if_neg hw⟩
  next hd => exact .inr ⟨_, _, .dChk fun h => absurd h hd, List.mem_singleton.1 hs⟩
  next w k _ => cases w <;> exact .inr ⟨_, _, by constructor, List.mem_singleton.1 hs⟩
  next => cases hs  -- no local step

theorem mem_selSteps_of {alts : List Alt} {d t : Option State} {x : State} (a : Alt) (ha : a ∈ alts)
    (h : (match (generalizing := false) a with | .data => none | .done => d | .deadline => t) = some x) : x ∈ selSteps alts d t :=
  List.mem_filterMap.2 ⟨a, ha, h⟩

theorem sel_has (k : RKind) : Alt.data ∈ k.sel ∧ Alt.done ∈ k.sel ∧ Alt.deadline ∈ k.sel := by
  cases k <;> simp [RKind.sel, readSelect, writeToSelect]

theorem wsel_has : Alt.data ∈ writeSelect ∧ Alt.done ∈ writeSelect ∧ Alt.deadline ∈ writeSelect := by
  simp [writeSelect]

theorem Loc.mem {s g : State} {i : Nat} {p p' : PC} (hp : s.thr i = p) (l : Loc s i p p' g) :
    g.setT i p' ∈ localSteps s i := by
  unfold localSteps
  cases l <;> simp only [hp]
  case rSelDone k _ _ e hd he => exact mem_selSteps_of .done (sel_has k).2.1 (by simp [hd, withErr, he])
  case rSelExp k _ _ hc => exact mem_selSteps_of .deadline (sel_has k).2.2 (by simp [hc])
  case wSelDone hd he => exact mem_selSteps_of .done wsel_has.2.1 (by simp [hd, withErr, he])
  case wSelExp hc => exact mem_selSteps_of .deadline wsel_has.2.2 (by simp [hc])
  case dChk hc =>
    split <;> rename_i hd
    · obtain ⟨e, he, hne⟩ := hc hd
      simp [withErr, he, hne]
    · exact List.mem_singleton_self _
  all_goals simp [withErr, *]

theorem localSteps_idle {s : State} {i : Nat} (h : s.thr i = .idle) : localSteps s i = [] := by
  unfold localSteps; simp [h]

/-- internal steps: everything but the start of a new call -/
inductive IStep (s : State) : State → Prop where
  | finish (i : Nat) {s'} : finish s i = some s' → IStep s s'
  | fire (w : Bool) {s'} : fire s w = some s' → IStep s s'
  | loc (i : Nat) {s'} : s' ∈ localSteps s i → IStep s s'
  | data (i j : Nat) {s'} : data s i j = some s' → IStep s s'
  | count (i j : Nat) {s'} : count s i j = some s' → IStep s s'

theorem IStep.toStep {s s' : State} (h : IStep s s') : Step s s' := by
  cases h with
  | finish i h => exact .finish i h
  | fire w h => exact .fire w h
  | loc i h => exact .loc i h
  | data i j h => exact .data i j h
  | count i j h => exact .count i j h

theorem start_cases {s s' : State} {i : Nat} {op : Op} (h : start s i op = some s') :
    s.thr i = .idle ∧ s' = s.setT i op.entry := by
  unfold start at h; split at h
  · exact ⟨‹_›, (Option.some.inj h).symm⟩
  · cases h

theorem Step.start_or_internal {s s' : State} (st : Step s s') :
    (∃ i op, s.thr i = .idle ∧ s' = s.setT i (Op.entry op)) ∨ IStep s s' := by
  cases st with
  | start i op h => exact .inl ⟨i, op, start_cases h⟩
  | finish i h => exact .inr (.finish i h)
  | fire w h => exact .inr (.fire w h)
  | loc i h => exact .inr (.loc i h)
  | data i j h => exact .inr (.data i j h)
  | count i j h => exact .inr (.count i j h)

/-- the internal steps out of a state that satisfies the invariant (no rule panics there).  In `count` the
writer `j` goes round its loop keeping the lock (`m = s.mu`) or returns releasing it (`m = none`). -/
inductive Rule (s : State) : State → Prop
  | finish {i} : (s.thr i).returned = true → Rule s (s.setT i .idle)
  | fireR : s.rdl.armed = true → Rule s { s with rdl := { s.rdl with closed := true, armed := false } }
  | fireW : s.wdl.armed = true → Rule s { s with wdl := { s.wdl with closed := true, armed := false } }
  | loc {i p p' g} : s.thr i = p → Loc s i p p' g → Rule s (g.setT i p')
  | data {i j k acc g b n ci gw} : s.thr i = .rSel k acc g → s.thr j = .wSel b n ci gw → i ≠ j →
      Rule s (({ s with hs := some (i, j) }.setT i
        (.rAck (k.consume b.length).2.2 acc (k.consume b.length).1 (k.consume b.length).2.1
          (b.take (k.consume b.length).1))).setT j (.wAwait b n ci))
  | count {i j k acc nr fail b n ci m q} : s.thr i = .rAck k acc nr fail (b.take nr) → s.thr j = .wAwait b n ci →
      nr ≤ b.length → i ≠ j →
      (0 < (b.drop nr).length ∧ m = s.mu ∧ q = .wEnter (b.drop nr) (n + nr) ci ∨
        (b.drop nr).length = 0 ∧ m = none ∧ q = .wRet (n + nr) .nil (some ci)) →
      Rule s (({ s with hs := none, rret := s.rret ++ b.take nr, wlog := setCount s.wlog ci (n + nr),
                        mu := m }.setT j q).setT i (k.after acc nr fail))

theorem data_cases {s s' : State} {i j : Nat} (h : data s i j = some s') :
    ∃ k acc g b n ci gw, s.thr i = .rSel k acc g ∧ s.thr j = .wSel b n ci gw ∧ i ≠ j ∧
      s' = ({ s with hs := some (i, j) }.setT i
        (.rAck (k.consume b.length).2.2 acc (k.consume b.length).1 (k.consume b.length).2.1
          (b.take (k.consume b.length).1))).setT j (.wAwait b n ci) := by
  revert h
  fun_cases data s i j <;> intro h
  next k acc g b n ci gw hj hi _ _ =>
    exact ⟨k, acc, g, b, n, ci, gw, hi, hj, (fun e => by subst e; rw [hi] at hj; cases hj), (Option.some.inj h).symm⟩
  all_goals cases h

theorem count_some_pcs {s s' : State} {i j : Nat} (h : count s i j = some s') :
    (∃ k acc nr fail chunk, s.thr i = .rAck k acc nr fail chunk) ∧ (∃ b n ci, s.thr j = .wAwait b n ci) := by
  unfold count at h; split at h
  · rename_i k acc nr fail chunk b n ci hi hj; exact ⟨⟨k, acc, nr, fail, chunk, hi⟩, ⟨b, n, ci, hj⟩⟩
  · cases h

theorem Inv.ack_unique {s : State} (h : Inv s) {i j x : Nat} (hhs : s.hs = some (i, j))
    (hx : (s.thr x).isAck = true) : x = i := by
  obtain ⟨y, hy⟩ := h.ackHs x hx; rw [hhs] at hy; cases hy; rfl

theorem Inv.await_unique {s : State} (h : Inv s) {i j x : Nat} (hhs : s.hs = some (i, j))
    (hx : (s.thr x).isAwait = true) : x = j := by
  obtain ⟨y, hy⟩ := h.awaitHs x hx; rw [hhs] at hy; cases hy; rfl

theorem Inv.holder_unique {s : State} (h : Inv s) {j x : Nat} (hmu : s.mu = some j)
    (hx : (s.thr x).holds = true) : x = j := by
  have := h.muHold x hx; rw [hmu] at this; cases this; rfl

theorem Inv.ack_partner {s : State} (h : Inv s) {i : Nat} {k : RKind} {acc nr : Nat} {fail : Bool} {chunk : Bytes}
    (hp : s.thr i = .rAck k acc nr fail chunk) :
    ∃ j b n ci, s.hs = some (i, j) ∧ s.thr j = .wAwait b n ci ∧ chunk = b.take nr ∧ nr ≤ b.length := by
  obtain ⟨j, hj⟩ := h.ackHs i (by rw [hp]; rfl)
  obtain ⟨_, _, _, _, b, n, ci, e1, e2, hle⟩ := h.hsOk i j hj
  rw [hp] at e1; cases e1
  exact ⟨j, b, n, ci, hj, e2, rfl, hle⟩

theorem Inv.await_partner {s : State} (h : Inv s) {j : Nat} {b : Bytes} {n ci : Nat} (hp : s.thr j = .wAwait b n ci) :
    ∃ i k acc nr fail, s.hs = some (i, j) ∧ s.thr i = .rAck k acc nr fail (b.take nr) ∧ nr ≤ b.length := by
  obtain ⟨i, hi⟩ := h.awaitHs j (by rw [hp]; rfl)
  obtain ⟨k, acc, nr, fail, _, _, _, e1, e2, hle⟩ := h.hsOk i j hi
  rw [hp] at e2; cases e2
  exact ⟨i, k, acc, nr, fail, hi, e1, hle⟩

theorem Inv.hs_pair {s : State} (h : Inv s) {i j : Nat} {k : RKind} {acc nr : Nat} {fail : Bool} {chunk b : Bytes}
    {n ci : Nat} (hi : s.thr i = .rAck k acc nr fail chunk) (hj : s.thr j = .wAwait b n ci) :
    s.hs = some (i, j) ∧ chunk = b.take nr ∧ nr ≤ b.length := by
  obtain ⟨j', _, _, _, hh, hj', e, hle⟩ := h.ack_partner hi
  obtain rfl := h.await_unique hh (x := j) (by rw [hj]; rfl)
  rw [hj] at hj'; cases hj'
  exact ⟨hh, e, hle⟩

theorem IStep.rule {s s' : State} (h : Inv s) (st : IStep s s') : Rule s s' := by
  cases st with
  | finish i hs =>
    unfold Pipe.finish at hs
    split at hs <;> cases hs <;> exact .finish (by simp [*, PC.returned])
  | fire w hs =>
    unfold Pipe.fire at hs
    cases w <;> simp only [Bool.false_eq_true, if_false, if_true] at hs <;> split at hs <;> rename_i ha
    · rw [if_neg (by simp [h.rdlOk ha])] at hs; exact Option.some.inj hs ▸ .fireR ha
    · cases hs
    · rw [if_neg (by simp [h.wdlOk ha])] at hs; exact Option.some.inj hs ▸ .fireW ha
    · cases hs
  | loc i hs =>
    rcases loc_cases hs with ⟨hd, he, _⟩ | ⟨p', g, hl, rfl⟩
    · exact absurd he (h.errSet hd)
    · exact .loc rfl hl
  | data i j hs =>
    obtain ⟨k, acc, g, b, n, ci, gw, hi, hj, hij, rfl⟩ := data_cases hs
    exact .data hi hj hij
  | count i j hs =>
    unfold Pipe.count at hs; split at hs
    next k acc nr fail chunk b n ci hi hj =>
      obtain ⟨_, rfl, hle⟩ := h.hs_pair hi hj
      have hij : i ≠ j := fun e => by subst e; rw [hi] at hj; cases hj
      rw [if_neg (by omega)] at hs
      obtain rfl := Option.some.inj hs
      split <;> rename_i hl
      · exact .count (m := s.mu) hi hj hle hij (.inl ⟨hl, rfl, rfl⟩)
      · exact .count hi hj hle hij (.inr ⟨by omega, rfl, rfl⟩)
    next => cases hs


theorem inv_init : Inv init := by
  constructor <;> simp [init, DL.init, PC.holds, PC.isAck, PC.isAwait, PC.gensOk, PC.wOk, consumed]

def Good (s : State) (x : Nat) (p : PC) : Prop :=
  (p = .cClose → s.err ≠ none) ∧ (p.holds = true → s.mu = some x) ∧ (p.isAck = true → ∃ j, s.hs = some (x, j)) ∧
  (p.isAwait = true → ∃ i, s.hs = some (i, x)) ∧ p.gensOk s.rdl.gen s.wdl.gen ∧ p.wOk s.wlog s.mu.isSome

theorem Inv.of_good {s : State} (h1 : s.panicked = false) (h2 : s.done = true → s.err ≠ none)
    (h3 : s.rdl.armed = true → s.rdl.closed = false) (h4 : s.wdl.armed = true → s.wdl.closed = false)
    (hg : ∀ x, Good s x (s.thr x)) (h5 : ∀ i, s.mu = some i → (s.thr i).holds = true)
    (h6 : ∀ i j, s.hs = some (i, j) → ∃ k acc nr fail b n ci,
      s.thr i = .rAck k acc nr fail (b.take nr) ∧ s.thr j = .wAwait b n ci ∧ nr ≤ b.length)
    (h7 : s.rret = consumed s.wlog) : Inv s :=
  ⟨h1, h2, fun x => (hg x).1, h3, h4, fun x => (hg x).2.1, h5, fun x => (hg x).2.2.1, fun x => (hg x).2.2.2.1, h6,
    fun x => (hg x).2.2.2.2.1, fun x => (hg x).2.2.2.2.2, h7⟩

theorem forall_setT {P : Nat → PC → Prop} {g : State} {i : Nat} {p : PC} (hi : P i p)
    (ho : ∀ x, x ≠ i → P x (g.thr x)) : ∀ x, P x ((g.setT i p).thr x) := by
  intro x; simp only [State.setT]; split
  · subst_vars; exact hi
  · exact ho x ‹_›

theorem forall_setT_setT {P : Nat → PC → Prop} {g : State} {i j : Nat} {p q : PC} (hi : P i p) (hj : P j q)
    (ho : ∀ x, x ≠ i → x ≠ j → P x (g.thr x)) : ∀ x, P x (((g.setT i p).setT j q).thr x) :=
  forall_setT hj fun x hx => forall_setT (P := fun x p => x ≠ j → P x p) (fun _ => hi) (fun x hi hj => ho x hi hj) x hx

/-- `others`, `holder`, `fid` are the clauses of the invariant that read the lock and the ghost log -/
theorem inv_upd {s : State} (h : Inv s) {i : Nat} {p₀ : PC} (hp₀ : s.thr i = p₀) (p : PC) (mu' : Option Nat)
    (wlog' : List (Bytes × Nat)) (hack : p₀.isAck = false) (hawait : p₀.isAwait = false)
    (gp : Good { s with mu := mu', wlog := wlog' } i p)
    (others : ∀ x, x ≠ i → ((s.thr x).holds = true → mu' = some x) ∧ (s.thr x).wOk wlog' mu'.isSome)
    (holder : ∀ k, mu' = some k → (if k = i then p else s.thr k).holds = true) (fid : s.rret = consumed wlog') :
    Inv ({ s with mu := mu', wlog := wlog' }.setT i p) := by
  subst hp₀
  refine .of_good h.noPanic h.errSet h.rdlOk h.wdlOk
    (forall_setT gp fun x hx => ⟨h.closeOk x, (others x hx).1, h.ackHs x, h.awaitHs x, h.gens x, (others x hx).2⟩)
    holder ?_ fid
  -- the pair in the hand-shake is not `i`
  intro a b hab
  obtain ⟨k, acc, nr, fail, bb, n, ci, h1, h2, h3⟩ := h.hsOk a b hab
  refine ⟨k, acc, nr, fail, bb, n, ci, ?_, ?_, h3⟩ <;> simp only [State.setT] <;> split
  · subst_vars; rw [h1] at hack; cases hack
  · exact h1
  · subst_vars; rw [h2] at hawait; cases hawait
  · exact h2

theorem inv_setT {s : State} (h : Inv s) {i : Nat} {p₀ : PC} (hp₀ : s.thr i = p₀) (p : PC)
    (hack : p₀.isAck = false) (hawait : p₀.isAwait = false) (hholds : p.holds = p₀.holds) (gp : Good s i p) :
    Inv (s.setT i p) := by
  refine inv_upd h hp₀ p s.mu s.wlog hack hawait gp (fun x _ => ⟨h.muHold x, h.wOk x⟩) ?_ h.fid
  intro k hk; split
  · subst_vars; rw [hholds]; exact h.muLive k hk
  · exact h.muLive k hk

theorem PC.gensOk_mono {p : PC} {rg wg rg' wg' : Nat} (h : p.gensOk rg wg) (h1 : rg ≤ rg') (h2 : wg ≤ wg') :
    p.gensOk rg' wg' := by
  cases p <;> simp_all [PC.gensOk] <;> omega

theorem inv_globals {s : State} (h : Inv s) {done' : Bool} {err' : Option Err} {rdl' wdl' : DL}
    (e1 : s.err ≠ none → err' ≠ none) (e2 : done' = true → err' ≠ none)
    (r1 : rdl'.armed = true → rdl'.closed = false) (r2 : s.rdl.gen ≤ rdl'.gen)
    (w1 : wdl'.armed = true → wdl'.closed = false) (w2 : s.wdl.gen ≤ wdl'.gen) :
    Inv { s with done := done', err := err', rdl := rdl', wdl := wdl' } :=
  { h with
    errSet := e2
    closeOk := fun k hk => e1 (h.closeOk k hk)
    rdlOk := r1
    wdlOk := w1
    gens := fun k => PC.gensOk_mono (h.gens k) r2 w2 }

theorem DL.set_ok (d : DL) (k : DKind) :
    ((d.set k).armed = true → (d.set k).closed = false) ∧ d.gen ≤ (d.set k).gen := by
  cases k <;> simp [DL.set] <;> split <;> simp_all

theorem Inv.err_of_done {s : State} (h : Inv s) (hd : s.done = true) : ∃ e, s.err = some e :=
  Option.ne_none_iff_exists'.mp (h.errSet hd)

theorem wOk_frame {p : PC} {l l' : List (Bytes × Nat)} {b b' : Bool} (hw : p.wOk l b) (hh : p.holds = false)
    (hl : ∀ ci e, l[ci]? = some e → (b = true → ci + 1 < l.length) →
      l'[ci]? = some e ∧ (b' = true → ci + 1 < l'.length)) : p.wOk l' b' := by
  cases p <;> try first | exact hw | cases hh
  rename_i n e ci
  cases ci with
  | none => exact hw
  | some ci =>
    obtain ⟨⟨o, h1, h2⟩, h3⟩ := hw
    exact ⟨⟨o, (hl ci _ h1 h3).1, h2⟩, (hl ci _ h1 h3).2⟩

/-- pcs of which the invariant says nothing, whatever the shared state: outside the lock, the hand-shake and the
selects, before the `close`, without a log entry -/
def PC.plain : PC → Bool
  | .wEnter .. | .wSel .. | .wAwait .. | .rAck .. | .rSel .. | .cClose | .wRet _ _ (some _) | .wRet (_ + 1) _ none => false
  | _ => true

theorem good_of_plain {p : PC} (h : p.plain = true) (s : State) (x : Nat) : Good s x p := by
  cases p
  case wRet n e ci =>
    cases ci <;> cases n <;> first | (cases h; done) | exact ⟨nofun, nofun, nofun, nofun, trivial, rfl⟩
  all_goals first | (cases h; done) | exact ⟨nofun, nofun, nofun, nofun, trivial, trivial⟩

theorem plain_holds {p : PC} (h : p.plain = true) : p.holds = false := by
  cases p <;> first | (cases h; done) | rfl

theorem inv_plain {s : State} (h : Inv s) {i : Nat} {p₀ p : PC} (hp₀ : s.thr i = p₀)
    (ho : p₀.holds = false ∧ p₀.isAck = false ∧ p₀.isAwait = false) (hp : p.plain = true) : Inv (s.setT i p) :=
  inv_setT h hp₀ p ho.2.1 ho.2.2 ((plain_holds hp).trans ho.1.symm) (good_of_plain hp s i)

/-- the lock holder leaves the loop: deferred `Unlock` + return -/
theorem inv_unlock {s : State} (h : Inv s) {i n ci g : Nat} {b : Bytes} (e : RErr) (hp : s.thr i = .wSel b n ci g) :
    Inv ({ s with mu := none }.setT i (.wRet n e (some ci))) := by
  have hmu : s.mu = some i := h.muHold i (by rw [hp]; rfl)
  have hw := h.wOk i
  simp only [hp, PC.wOk] at hw
  obtain ⟨_, o, h1, _, h3⟩ := hw
  refine inv_upd h hp _ none s.wlog rfl rfl
    ⟨nofun, nofun, nofun, nofun, trivial, ⟨o, h1, h3⟩, nofun⟩ (fun x hx => ⟨fun hk => ?_, ?_⟩) nofun h.fid
  · exact absurd (h.holder_unique hmu hk) hx
  · exact wOk_frame (h.wOk x) (Bool.eq_false_iff.2 fun hk => hx (h.holder_unique hmu hk)) fun _ _ h1 _ => ⟨h1, nofun⟩

theorem getElem?_append_new {α : Type} (l : List α) (x : α) : (l ++ [x])[l.length]? = some x := by
  simp

theorem consumed_snoc (pre : List (Bytes × Nat)) (o : Bytes) (m : Nat) :
    consumed (pre ++ [(o, m)]) = consumed pre ++ o.take m := by
  simp [consumed]

/-- `p.wrMu.Lock()` succeeds: a new entry of the ghost log -/
theorem inv_lock {s : State} (h : Inv s) (i : Nat) (b : Bytes) (hp : s.thr i = .wLock b) (hm : s.mu = none) :
    Inv ({ s with mu := some i, wlog := s.wlog ++ [(b, 0)] }.setT i (.wEnter b 0 s.wlog.length)) := by
  have nohold : ∀ k, (s.thr k).holds = false := fun k =>
    Bool.eq_false_iff.2 fun hk => by have := h.muHold k hk; simp [hm] at this
  refine inv_upd h hp _ (some i) _ rfl rfl
    ⟨nofun, fun _ => rfl, nofun, nofun, trivial, by simp [PC.wOk]⟩
    (fun x _ => ⟨fun hk => by simp [nohold x] at hk, wOk_frame (h.wOk x) (nohold x) fun ci _ h1 _ => by
      have hlt := (List.getElem?_eq_some_iff.mp h1).1
      exact ⟨List.getElem?_append_left hlt ▸ h1, fun _ => by simpa using hlt⟩⟩) ?_
    (by rw [consumed_snoc, List.take_zero, List.append_nil]; exact h.fid)
  intro k hk; cases hk; simp [PC.holds]

theorem inv_loc {s : State} (h : Inv s) {i : Nat} {p p' : PC} {g : State} (hp : s.thr i = p) (l : Loc s i p p' g) :
    Inv (g.setT i p') := by
  cases l
  case wLock b hm => exact inv_lock h i b hp hm
  case wEnter =>
    have hw := h.wOk i
    rw [hp] at hw
    exact inv_setT h hp _ rfl rfl rfl
      ⟨nofun, fun _ => h.muHold i (by rw [hp]; rfl), nofun, nofun, Nat.le_refl _, hw⟩
  case wSelDone | wSelExp => exact inv_unlock h _ hp
  case cStore e =>
    have hg : Inv { s with err := s.err.orElse fun _ => some e } :=
      inv_globals h
        (by intro h1; cases he : s.err <;> simp_all)
        (by intro h1; have := h.errSet h1; cases he : s.err <;> simp_all)
        h.rdlOk (Nat.le_refl _) h.wdlOk (Nat.le_refl _)
    exact inv_setT hg hp _ rfl rfl rfl
      ⟨fun _ => by cases he : s.err <;> simp, nofun, nofun, nofun, trivial, trivial⟩
  case cClose =>
    exact inv_plain (inv_globals h id (fun _ => h.closeOk i hp) h.rdlOk (Nat.le_refl _) h.wdlOk (Nat.le_refl _))
      hp ⟨rfl, rfl, rfl⟩ rfl
  case dSetR k =>
    exact inv_plain (inv_globals h id h.errSet (DL.set_ok s.rdl k).1 (DL.set_ok s.rdl k).2 h.wdlOk (Nat.le_refl _))
      hp ⟨rfl, rfl, rfl⟩ rfl
  case dSetW k =>
    exact inv_plain (inv_globals h id h.errSet h.rdlOk (Nat.le_refl _) (DL.set_ok s.wdl k).1 (DL.set_ok s.wdl k).2)
      hp ⟨rfl, rfl, rfl⟩ rfl
  case rEnter =>
    exact inv_setT h hp _ rfl rfl rfl
      ⟨nofun, nofun, nofun, nofun, Nat.le_refl _, trivial⟩
  -- the other moves leave the shared fields alone and end at a pc of which the invariant says nothing
  all_goals exact inv_plain h hp ⟨rfl, rfl, rfl⟩ rfl

theorem Inv.hs_none_of_wSel {s : State} (h : Inv s) {j : Nat} {b : Bytes} {n ci g : Nat}
    (hj : s.thr j = .wSel b n ci g) : s.hs = none := by
  cases hh : s.hs with
  | none => rfl
  | some p =>
    -- the writer of the pair would hold the lock, as `j` does
    obtain ⟨_, _, _, _, _, _, _, _, h2, _⟩ := h.hsOk p.1 p.2 hh
    obtain rfl := h.holder_unique (h.muHold j (by rw [hj]; rfl)) (x := p.2) (by rw [h2]; rfl)
    rw [hj] at h2; cases h2

theorem RKind.consume_le (k : RKind) (len : Nat) : (k.consume len).1 ≤ len := by
  unfold RKind.consume; split <;> simp <;> omega

theorem log_last {l : List (Bytes × Nat)} {ci : Nat} {o : Bytes} {n : Nat} (h : l[ci]? = some (o, n))
    (hl : ci + 1 = l.length) (m : Nat) :
    ∃ pre, l = pre ++ [(o, n)] ∧ pre.length = ci ∧ setCount l ci m = pre ++ [(o, m)] := by
  induction l generalizing ci with
  | nil => simp at h
  | cons x rest ih =>
    cases ci with
    | zero =>
      obtain rfl : rest = [] := List.eq_nil_of_length_eq_zero (by simpa using hl.symm)
      obtain rfl : x = (o, n) := by simpa using h
      exact ⟨[], rfl, rfl, rfl⟩
    | succ c =>
      obtain ⟨pre, rfl, rfl, hs⟩ := ih (by simpa using h) (by simpa using hl)
      exact ⟨x :: pre, rfl, rfl, by simp [setCount, hs]⟩

theorem Inv.count_log {s : State} (h : Inv s) {j : Nat} {b : Bytes} {n ci nr : Nat} (hj : s.thr j = .wAwait b n ci)
    (hle : nr ≤ b.length) :
    ∃ pre o, s.wlog = pre ++ [(o, n)] ∧ pre.length = ci ∧ setCount s.wlog ci (n + nr) = pre ++ [(o, n + nr)] ∧
      b = o.drop n ∧ n + nr ≤ o.length := by
  have hwj := h.wOk j
  simp only [hj, PC.wOk] at hwj
  obtain ⟨hci, o, hget, hb, hno⟩ := hwj
  obtain ⟨pre, hpre, hlen, hsc⟩ := log_last hget hci (n + nr)
  have : b.length = o.length - n := by rw [hb]; simp
  exact ⟨pre, o, hpre, hlen, hsc, hb, by omega⟩

theorem inv_data {s : State} (h : Inv s) {i j : Nat} {k : RKind} {acc g : Nat} {b : Bytes} {n ci gw : Nat}
    (hi : s.thr i = .rSel k acc g) (hj : s.thr j = .wSel b n ci gw) (hij : i ≠ j) :
    Inv (({ s with hs := some (i, j) }.setT i
      (.rAck (k.consume b.length).2.2 acc (k.consume b.length).1 (k.consume b.length).2.1
        (b.take (k.consume b.length).1))).setT j (.wAwait b n ci)) := by
  have hn := Inv.hs_none_of_wSel h hj
  have hwj := h.wOk j
  simp only [hj, PC.wOk] at hwj
  refine .of_good h.noPanic h.errSet h.rdlOk h.wdlOk (forall_setT_setT ?_ ?_ fun x _ _ => ?_) ?_ ?_ h.fid
  · exact ⟨nofun, nofun, fun _ => ⟨j, rfl⟩, nofun, trivial, trivial⟩
  · exact ⟨nofun, fun _ => h.muHold j (by rw [hj]; rfl), nofun, fun _ => ⟨i, rfl⟩, trivial, hwj⟩
  · -- nobody else was in the hand-shake
    refine ⟨h.closeOk x, h.muHold x, fun hx => ?_, fun hx => ?_, h.gens x, h.wOk x⟩
    · obtain ⟨_, hy⟩ := h.ackHs x hx; rw [hn] at hy; cases hy
    · obtain ⟨_, hy⟩ := h.awaitHs x hx; rw [hn] at hy; cases hy
  · intro x hx; simp only [State.setT] at hx ⊢; split
    · rfl
    · split
      · subst_vars; have := h.muLive _ hx; rw [hi] at this; cases this
      · exact h.muLive x hx
  · intro a b' hab
    cases hab
    exact ⟨(k.consume b.length).2.2, acc, (k.consume b.length).1, (k.consume b.length).2.1, b, n, ci,
      by simp [State.setT, hij], by simp [State.setT], RKind.consume_le k _⟩

theorem inv_count {s : State} (h : Inv s) {i j : Nat} {k : RKind} {acc nr : Nat} {fail : Bool} {b : Bytes}
    {n ci : Nat} {m : Option Nat} {q : PC} (hi : s.thr i = .rAck k acc nr fail (b.take nr))
    (hj : s.thr j = .wAwait b n ci) (hle : nr ≤ b.length) (hij : i ≠ j)
    (hq : 0 < (b.drop nr).length ∧ m = s.mu ∧ q = .wEnter (b.drop nr) (n + nr) ci ∨
      (b.drop nr).length = 0 ∧ m = none ∧ q = .wRet (n + nr) .nil (some ci)) :
    Inv (({ s with hs := none, rret := s.rret ++ b.take nr, wlog := setCount s.wlog ci (n + nr),
                   mu := m }.setT j q).setT i (k.after acc nr fail)) := by
  have hhs := (h.hs_pair hi hj).1
  have hmu : s.mu = some j := h.muHold j (by rw [hj]; rfl)
  obtain ⟨pre, o, hpre, rfl, hsc, hb, hno'⟩ := Inv.count_log h hj hle
  rw [hsc]
  obtain ⟨qg, qh, qm⟩ : Good { s with hs := none, mu := m, wlog := pre ++ [(o, n + nr)] } j q ∧ q.holds = m.isSome ∧
      (m = none ∨ m = some j) := by
    rcases hq with ⟨_, rfl, rfl⟩ | ⟨_, rfl, rfl⟩
    · refine ⟨⟨nofun, fun _ => hmu, nofun, nofun, trivial, ?_⟩, by rw [hmu]; rfl, .inr hmu⟩
      simp only [PC.wOk, List.length_append, List.length_singleton, getElem?_append_new]
      exact ⟨trivial, o, rfl, by rw [hb, List.drop_drop], hno'⟩
    · refine ⟨⟨nofun, nofun, nofun, nofun, trivial, ?_⟩, rfl, .inl rfl⟩
      simp only [PC.wOk, getElem?_append_new]
      exact ⟨⟨o, rfl, hno'⟩, nofun⟩
  refine .of_good h.noPanic h.errSet h.rdlOk h.wdlOk (forall_setT_setT qg ?_ fun x hxj hxi => ?_) ?_ ?_ ?_
  · have : (k.after acc nr fail).plain = true := by cases k <;> cases fail <;> rfl
    exact good_of_plain this _ _
  · -- the others are outside the lock and the hand-shake; their log entries lie before the last one
    have nh : (s.thr x).holds = false := Bool.eq_false_iff.2 fun hh => hxj (h.holder_unique hmu hh)
    have := h.wOk x; rw [hmu, hpre] at this
    exact ⟨h.closeOk x, fun hh => Bool.noConfusion (nh.symm.trans hh), fun hx => absurd (h.ack_unique hhs hx) hxi,
      fun hx => absurd (h.await_unique hhs hx) hxj, h.gens x, wOk_frame (l' := pre ++ [(o, n + nr)]) this nh fun ci _ h1 h2 => by
        have hlt : ci < pre.length := by simpa using h2 rfl
        rw [List.getElem?_append_left hlt] at h1 ⊢
        exact ⟨h1, fun _ => by simpa using hlt⟩⟩
  · intro x hx; simp only [State.setT] at hx ⊢
    obtain rfl : j = x := by
      rcases qm with rfl | rfl
      · cases hx
      · exact Option.some.inj hx
    simp [Ne.symm hij, qh, hx]
  · intro a c hac; cases hac
  · show s.rret ++ b.take nr = consumed (pre ++ [(o, n + nr)])
    rw [h.fid, hpre, consumed_snoc, consumed_snoc, hb, List.take_add, List.append_assoc]

theorem entry_plain (op : Op) : op.entry.plain = true := by
  cases op <;> first | rfl | (rename_i e; cases e <;> rfl)

theorem inv_step {s s' : State} (h : Inv s) (st : Step s s') : Inv s' := by
  rcases st.start_or_internal with ⟨i, op, hp, rfl⟩ | st
  · exact inv_plain h hp ⟨rfl, rfl, rfl⟩ (entry_plain op)
  cases st.rule h with
  | @finish i hr =>
    exact inv_plain h rfl (by cases hp : s.thr i <;> first | exact ⟨rfl, rfl, rfl⟩ | (rw [hp] at hr; cases hr)) rfl
  | fireR ha =>
    exact inv_globals h id h.errSet (by simp) (Nat.le_refl _) h.wdlOk (Nat.le_refl _)
  | fireW ha =>
    exact inv_globals h id h.errSet h.rdlOk (Nat.le_refl _) (by simp) (Nat.le_refl _)
  | loc hp l => exact inv_loc h hp l
  | data hi hj hij => exact inv_data h hi hj hij
  | count hi hj hle hij hq => exact inv_count h hi hj hle hij hq

theorem inv_reachable {s : State} (r : Reachable s) : Inv s := by
  induction r with
  | init => exact inv_init
  | step _ st ih => exact inv_step ih st

end SSV.Pipe
