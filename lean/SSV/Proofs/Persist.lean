import SSV.Model.Persist
/-
Proofs for C20. The temp-file save program on the crash-able file system, from any start state: every instant of
`trace` and the end of the run are described relative to the start state by `Before` / `After`, and what a power
loss or a kill then shows follows from those two shapes. The program is walked once, Hoare style (`Holds`): an assertion
after every statement, and for every call one fact that covers its success, its failure and its being skipped, so that no
proof depends on which call the fault plan makes fail. The assertions follow the `err`-chaining idiom of the code (`Chain`).
A second walk by the same rules gives what a kill shows under `os.WriteFile` (`writeFile_holds`); the fixed-name variant is evaluated
(`exclTmp_stuck_after_crash`); the debounce loop `progDrain` has the invariant `DInv`.
-/
namespace SSV.Persist

theorem load_of_ne_nil {U : Type} (C : Codec U) {b : Bytes} (h : b ≠ []) : load C (some b) = C.decode b := by
  cases b with
  | nil => exact absurd rfl h
  | cons => rfl

theorem load_of_eq_ser {U : Type} (C : Codec U) (hC : C.Lawful) {u : U} {c : Option Bytes} (h : c = some (C.ser u)) :
    load C c = some u := by
  rw [h, load_of_ne_nil C (hC.ser_ne_nil u), hC.decode_ser]

def Safe (o n : Bytes) (fs : FS) : Prop :=
  ∀ c, PostCrash fs c → c = some o ∨ c = some n

/-- power-loss quiescent: the store path names a synced file holding `o`, and that directory entry is on
stable storage (nothing older can come back) -/
def Quiescent (fs : FS) (o : Bytes) : Prop :=
  ∃ t, fs.target = some t ∧ fs.thist = [some t] ∧ fs.inodes[t]? = some ⟨o, true⟩

/-- kill quiescent: the store path names a file whose page-cache content is `o` -/
def KQ (fs : FS) (o : Bytes) : Prop := afterKill fs = some o

theorem quiescent_init (o : Bytes) : Quiescent (initFS o) o := ⟨0, rfl, rfl, rfl⟩

theorem kq_of_quiescent {fs : FS} {o : Bytes} (h : Quiescent fs o) : KQ fs o := by
  obtain ⟨t, h1, _, h3⟩ := h; simp [KQ, afterKill, h1, h3]

theorem safe_of_synced {o n : Bytes} {fs : FS}
    (h : ∀ b ∈ fs.thist, ∃ i, b = some i ∧ (fs.inodes[i]? = some ⟨o, true⟩ ∨ fs.inodes[i]? = some ⟨n, true⟩)) :
    Safe o n fs := by
  rintro c ⟨b, hb, hm⟩
  obtain ⟨i, rfl, hi⟩ := h b hb
  obtain ⟨ino, hino, d, rfl, hd⟩ := hm
  rcases hi with hi | hi <;> obtain rfl := Option.some.inj (hino.symm.trans hi)
  · exact .inl (congrArg some (hd rfl))
  · exact .inr (congrArg some (hd rfl))

/-- The store path, its history and every file of `fs0` are as in `fs0` (there may be new files). -/
structure Before (fs0 fs : FS) : Prop where
  target : fs.target = fs0.target
  thist : fs.thist = fs0.thist
  inodes : ∃ ext, fs.inodes = fs0.inodes ++ ext

/-- The store path has been rebound, as a regular file, to a new synced inode holding `n`; every file of `fs0` is as
in `fs0`. -/
structure After (fs0 : FS) (n : Bytes) (fs : FS) : Prop where
  target : fs.target = some fs0.inodes.length
  thist : fs.thist = some fs0.inodes.length :: fs0.thist
  isLink : fs.isLink = false
  dest : fs.dest = fs0.dest
  inodes : fs.inodes = fs0.inodes ++ [⟨n, true⟩]

theorem getElem?_of_append {L L' ext : List Inode} (he : L' = L ++ ext) {t : Nat} {x : Inode} (ht : L[t]? = some x) :
    L'[t]? = some x := by
  rw [he, List.getElem?_append_left (List.getElem?_eq_some_iff.mp ht).1, ht]

theorem Before.getElem? {fs0 fs : FS} (h : Before fs0 fs) {t : Nat} {x : Inode} (ht : fs0.inodes[t]? = some x) :
    fs.inodes[t]? = some x :=
  h.inodes.elim fun _ he => getElem?_of_append he ht

theorem After.getElem? {fs0 fs : FS} {n : Bytes} (h : After fs0 n fs) {t : Nat} {x : Inode}
    (ht : fs0.inodes[t]? = some x) : fs.inodes[t]? = some x :=
  getElem?_of_append h.inodes ht

theorem After.getElem?_new {fs0 fs : FS} {n : Bytes} (h : After fs0 n fs) :
    fs.inodes[fs0.inodes.length]? = some ⟨n, true⟩ := by
  simp [h.inodes]

theorem Before.safe {fs0 fs : FS} {o n : Bytes} (hq : Quiescent fs0 o) (h : Before fs0 fs) : Safe o n fs := by
  obtain ⟨t, _, h2, h3⟩ := hq
  refine safe_of_synced fun b hb => ?_
  rw [h.thist, h2, List.mem_singleton] at hb
  exact ⟨t, hb, .inl (h.getElem? h3)⟩

theorem After.safe {fs0 fs : FS} {o n : Bytes} (hq : Quiescent fs0 o) (h : After fs0 n fs) : Safe o n fs := by
  obtain ⟨t, _, h2, h3⟩ := hq
  refine safe_of_synced fun b hb => ?_
  rw [h.thist, h2, List.mem_cons, List.mem_singleton] at hb
  rcases hb with rfl | rfl
  · exact ⟨_, rfl, .inr h.getElem?_new⟩
  · exact ⟨t, rfl, .inl (h.getElem? h3)⟩

theorem Before.kq {fs0 fs : FS} {o : Bytes} (hq : KQ fs0 o) (h : Before fs0 fs) : KQ fs o := by
  obtain ⟨t, ht, hm⟩ := Option.bind_eq_some_iff.mp hq
  obtain ⟨x, hx, rfl⟩ := Option.map_eq_some_iff.mp hm
  show fs.target.bind _ = _
  rw [h.target, ht, Option.bind_some, h.getElem? hx, Option.map_some]

theorem After.kq {fs0 fs : FS} {n : Bytes} (h : After fs0 n fs) : KQ fs n := by
  simp [KQ, afterKill, h.target, h.getElem?_new]

theorem upd_append_length (L : List Inode) (x : Inode) (f : Inode → Inode) :
    upd (L ++ [x]) L.length f = L ++ [f x] := by
  induction L with
  | nil => rfl
  | cons y ys ih => simp [upd, ih]

theorem le_foldl_max_fst (l : List (Nat × Nat)) (m : Nat) :
    m ≤ l.foldl (fun m p => max m p.1) m ∧ ∀ p ∈ l, p.1 ≤ l.foldl (fun m p => max m p.1) m := by
  induction l generalizing m with
  | nil => simp
  | cons x xs ih =>
    obtain ⟨h1, h2⟩ := ih (max m x.1)
    refine ⟨by simp only [List.foldl_cons]; omega, fun p hp => ?_⟩
    simp only [List.foldl_cons]
    rcases List.mem_cons.mp hp with rfl | hp
    · omega
    · exact h2 p hp

theorem head_mem_trace (doc : Bytes) (fault : Fault) (prog : List Stmt) (i : Nat) (r : Run) :
    r.fs ∈ trace doc fault prog i r := by
  fun_induction trace doc fault prog i r with
  -- end of the program, return on `err`, a call that is made
  | case1 | case2 | case4 => exact .head _
  -- no return, a call that is skipped
  | case3 _ _ _ _ ih | case5 _ _ _ _ _ _ _ ih => exact ih

theorem finalRun_fs_mem_trace (doc : Bytes) (fault : Fault) (stop : Option Nat) (prog : List Stmt) (i : Nat) (r : Run) :
    (finalRun doc fault stop prog i r).fs ∈ trace doc fault prog i r := by
  induction prog generalizing i r with
  | nil => simp [trace, finalRun]
  | cons s rest ih =>
    cases s with
    | retIfErr =>
      simp only [trace, finalRun]
      split
      · simp
      · exact ih _ _
    | op g rec o =>
      simp only [trace, finalRun]
      split
      · refine List.mem_cons_of_mem _ (List.mem_append_right _ ?_)
        split
        · exact head_mem_trace _ _ _ _ _
        · exact ih _ _
      · exact ih _ _

/-- `Holds doc Q E prog P`: from any run in `P`, whichever call fails, every instant of `prog` is in `Q` and the run ends in `E`. -/
def Holds (doc : Bytes) (Q : FS → Prop) (E : Run → Prop) (prog : List Stmt) (P : Run → Prop) : Prop :=
  ∀ fault i r, P r → (∀ fs ∈ trace doc fault prog i r, Q fs) ∧ E (finalRun doc fault none prog i r)

section rules
variable {doc : Bytes} {Q : FS → Prop} {E P : Run → Prop} {prog rest : List Stmt}

theorem Holds.on_trace (h : Holds doc Q E prog P) {r : Run} (hr : P r) (fault : Fault) (i : Nat) :
    ∀ fs ∈ trace doc fault prog i r, Q fs :=
  (h fault i r hr).1

theorem Holds.on_final (h : Holds doc Q E prog P) {r : Run} (hr : P r) (fault : Fault) (i : Nat) :
    E (finalRun doc fault none prog i r) :=
  (h fault i r hr).2

theorem Holds.nil (h : ∀ r, P r → Q r.fs ∧ E r) : Holds doc Q E [] P := by
  intro _ _ r hr
  simpa [trace, finalRun] using h r hr

theorem Holds.ret (P' : Run → Prop) (h : ∀ r, P r → if r.err then Q r.fs ∧ E r else P' r) (hrest : Holds doc Q E rest P') :
    Holds doc Q E (.retIfErr :: rest) P := by
  intro fault i r hr
  have := h r hr
  simp only [trace, finalRun]
  split
  · simpa [*] using this
  · exact hrest _ _ r (by simpa [*] using this)

theorem Holds.op {g : Guard} {rec : Bool} {o : FsOp} (P' : Run → Prop)
    (h : ∀ r, P r → if enabled g r.err then
      Q r.fs ∧ ∀ f, (∀ fs ∈ interm doc o r f, Q fs) ∧ P' (execOp doc o rec r f) else P' r)
    (hrest : Holds doc Q E rest P') : Holds doc Q E (.op g rec o :: rest) P := by
  intro fault i r hr
  have := h r hr
  simp only [trace, finalRun]
  split
  · rw [if_pos ‹_›] at this
    obtain ⟨h1, h2⟩ := this
    obtain ⟨h3, h4⟩ := h2 (faultAt fault i)
    have := hrest fault (i + 1) _ h4
    simp only [List.forall_mem_cons, List.forall_mem_append]
    exact ⟨⟨h1, h3, this.1⟩, by simpa using this.2⟩
  · exact hrest _ _ r (by simpa [*] using this)

end rules

/-- The form of the run between `CreateTemp` and the rename: the temporary file is the new last inode `ino`, under a fresh name. While
no call has failed `err` is `false`; the run right after the failing write or close has this form too, with `err = true`. -/
def tmpRun (fs0 : FS) (ino : Inode) (fd : Option Nat) (err : Bool := false) : Run :=
  { fs := { fs0 with inodes := fs0.inodes ++ [ino], tmps := (freshName fs0.tmps, fs0.inodes.length) :: fs0.tmps },
    fd := fd, tmp := some (freshName fs0.tmps), err := err }

/-- The assertion of the `err`-chaining idiom: as long as no call has failed the run is exactly `N`; after a failure only `W` is
known of the file system (the calls still made then, `Close` and `Remove`, keep it). -/
def Chain (W : FS → Prop) (N : Run) (r : Run) : Prop := if r.err then W r.fs else r = N

section calls
variable (fs0 : FS) (n : Bytes) (ino : Inode) (fd : Option Nat) (f : Option Nat) (r : Run) (rec : Bool)

@[simp] theorem execOp_fail {o : FsOp} (h1 : o ≠ .write) (h2 : o ≠ .createExcl) (k : Nat) :
    (execOp n o true r (some k)).fs = r.fs ∧ (execOp n o true r (some k)).err = true := by
  cases o <;> first | contradiction | exact ⟨rfl, rfl⟩

@[simp] theorem execOp_close : execOp n .close rec r f = { r with fd := none, err := r.err || (rec && f.isSome) } := by
  cases f <;> cases rec <;> simp [execOp, execOk, execFail]

@[simp] theorem before_start : Before fs0 (startRun fs0).fs := ⟨rfl, rfl, [], (List.append_nil _).symm⟩

@[simp] theorem tmpRun_err (e : Bool) : (tmpRun fs0 ino fd e).err = e := rfl

@[simp] theorem before_tmpRun (e : Bool) : Before fs0 (tmpRun fs0 ino fd e).fs := ⟨rfl, rfl, _, rfl⟩

@[simp] theorem execOp_stat : execOp n .statTarget false r f = r := by
  cases f <;> rfl

@[simp] theorem execOp_createTemp : execOp n .createTemp true (startRun fs0) none =
    tmpRun fs0 ⟨[], false⟩ (some fs0.inodes.length) := rfl

@[simp] theorem writeBytes_tmpRun (chunk : Bytes) : writeBytes (tmpRun fs0 ino (some fs0.inodes.length)) chunk =
    tmpRun fs0 ⟨ino.cur ++ chunk, false⟩ (some fs0.inodes.length) := by
  simp [writeBytes, tmpRun, upd_append_length]

@[simp] theorem execOp_write : execOp n .write true (tmpRun fs0 ino (some fs0.inodes.length)) f =
    tmpRun fs0 ⟨ino.cur ++ f.elim n n.take, false⟩ (some fs0.inodes.length) f.isSome := by
  cases f <;> simp [execOp, execOk, execFail] <;> rfl

@[simp] theorem tmpRun_closed (e e' : Bool) : { tmpRun fs0 ino fd e with fd := none, err := e' } = tmpRun fs0 ino none e' := rfl

@[simp] theorem execOp_chmod : execOp n .chmod rec r none = r := rfl

@[simp] theorem execOp_sync : execOp n .sync true (tmpRun fs0 ino (some fs0.inodes.length)) none =
    tmpRun fs0 ⟨ino.cur, true⟩ (some fs0.inodes.length) := by
  simp [execOp, execOk, tmpRun, upd_append_length]

@[simp] theorem after_rename : let r := execOp n .renameTmpToTarget true (tmpRun fs0 ⟨n, true⟩ fd) none
    r.err = false ∧ After fs0 n r.fs := by
  simp only [execOp, execOk, tmpRun, List.lookup, beq_self_eq_true, Option.bind_some]
  exact ⟨rfl, rfl, rfl, rfl, rfl, rfl⟩

@[simp] theorem execOp_removeTmp_err : (execOp n .removeTmp false r f).err = r.err := by
  cases f <;> rfl

theorem before_removeTmp {fs0 : FS} {r : Run} (h : Before fs0 r.fs) : Before fs0 (execOp n .removeTmp false r f).fs := by
  cases f <;> exact ⟨h.target, h.thist, h.inodes⟩

end calls

/-- The rename is reached without a failure only with the whole document written AND synced; every other call leaves the
store path, its history and the old files alone. -/
theorem tempRename_holds (fs0 : FS) (n : Bytes) :
    Holds n (fun fs => Before fs0 fs ∨ After fs0 n fs)
      (fun r => (r.err = false → After fs0 n r.fs) ∧ (r.err = true → Before fs0 r.fs))
      progTempRename (· = startRun fs0) := by
  -- one line per statement of `progTempRename`: the assertion after it, and the name of the goal that says so
  refine .op (· = startRun fs0) ?stat <|
    .op (Chain (Before fs0) (tmpRun fs0 ⟨[], false⟩ (some fs0.inodes.length))) ?create <|
    .ret (· = tmpRun fs0 ⟨[], false⟩ (some fs0.inodes.length)) ?ret1 <|
    .op (Chain (Before fs0) (tmpRun fs0 ⟨n, false⟩ (some fs0.inodes.length))) ?write <|
    .op (Chain (Before fs0) (tmpRun fs0 ⟨n, false⟩ (some fs0.inodes.length))) ?chmod <|
    .op (Chain (Before fs0) (tmpRun fs0 ⟨n, true⟩ (some fs0.inodes.length))) ?sync <|
    .op (Chain (Before fs0) (tmpRun fs0 ⟨n, true⟩ none)) ?close <|
    .op (fun r => if r.err then Before fs0 r.fs else After fs0 n r.fs) ?rename <|
    .op (fun r => if r.err then Before fs0 r.fs else After fs0 n r.fs) ?remove <|
    .ret (fun r => r.err = false ∧ After fs0 n r.fs) ?ret2 <|
    .nil ?done
  case stat => simp [enabled, interm]
  case create => rintro _ rfl; simp [enabled, interm]; intro f; cases f <;> simp [Chain]
  case ret1 => rintro r h; unfold Chain at h; split <;> simp_all
  case write => rintro _ rfl; simp [enabled, interm, Chain]
  -- a call made only while `err == nil`: skipped after a failure; before one it gives the next `N` (the rename: `After`), or fails and changes nothing
  case chmod | sync | rename =>
    rintro r h
    cases he : r.err <;> simp [Chain, he] at h
    · -- no failure so far
      subst h
      refine ⟨.inl (before_tmpRun ..), fun f => ⟨by simp [interm], ?_⟩⟩
      cases f <;> simp [Chain]
    · -- after a failure
      simpa [enabled, he, Chain] using h
  -- the two calls still made after a failure keep `Before`
  case close =>
    rintro r h
    cases he : r.err <;> simp [Chain, he] at h
    · subst h; simp [enabled, interm, Chain]
    · simp [enabled, interm, Chain, he, h]
  case remove =>
    rintro r h
    cases he : r.err <;> rw [he] at h
    · simpa [enabled, he] using h
    · simpa [enabled, interm, he] using ⟨.inl h, fun f => before_removeTmp n f h⟩
  case ret2 => rintro r h; split <;> simp_all
  case done => simp +contextual

theorem tempRename_trace (fs0 : FS) (n : Bytes) (fault : Fault) :
    ∀ fs ∈ trace n fault progTempRename 0 (startRun fs0), Before fs0 fs ∨ After fs0 n fs :=
  (tempRename_holds fs0 n).on_trace rfl fault 0

theorem tempRename_final (fs0 : FS) (n : Bytes) (fault : Fault) :
    let r := finalRun n fault none progTempRename 0 (startRun fs0)
    (r.err = false → After fs0 n r.fs) ∧ (r.err = true → Before fs0 r.fs) :=
  (tempRename_holds fs0 n).on_final rfl fault 0

/-- **no left-over can block a save**: from any directory (stale temporary files under any names, the fixed
name `<store>.tmp` included, symlinked store or not) a save without a failing call reports success -/
theorem tempRename_ok (fs0 : FS) (n : Bytes) :
    let r := finalRun n none none progTempRename 0 (startRun fs0)
    r.err = false ∧ After fs0 n r.fs := by
  have he : (finalRun n none none progTempRename 0 (startRun fs0)).err = false := by
    simp [progTempRename, finalRun, enabled, faultAt]
  exact ⟨he, (tempRename_final fs0 n none).1 he⟩

theorem tempRename_safe {fs0 : FS} {o : Bytes} (n : Bytes) (hq : Quiescent fs0 o) (fault : Fault) :
    ∀ fs ∈ trace n fault progTempRename 0 (startRun fs0), Safe o n fs :=
  fun fs h => (tempRename_trace fs0 n fault fs h).elim (Before.safe hq) (After.safe hq)

theorem tempRename_kill {fs0 : FS} {o : Bytes} (n : Bytes) (hq : KQ fs0 o) (fault : Fault) :
    ∀ fs ∈ trace n fault progTempRename 0 (startRun fs0), KQ fs o ∨ KQ fs n :=
  fun fs h => (tempRename_trace fs0 n fault fs h).imp (Before.kq hq) After.kq

theorem final_tempRename_gen (fs0 : FS) (o n : Bytes) (hq : KQ fs0 o) (fault : Fault) :
    let r := finalRun n fault none progTempRename 0 (startRun fs0)
    (r.err = false → KQ r.fs n) ∧ (r.err = true → KQ r.fs o) :=
  ⟨fun he => ((tempRename_final fs0 n fault).1 he).kq, fun he => ((tempRename_final fs0 n fault).2 he).kq hq⟩

theorem save_completes_from {U : Type} (C : Codec U) (hC : C.Lawful) (new : U) (fs0 : FS) :
    let r := finalRun (C.ser new) none none progTempRename 0 (startRun fs0)
    r.err = false ∧ load C (afterKill r.fs) = some new :=
  ⟨(tempRename_ok _ _).1, load_of_eq_ser C hC (tempRename_ok _ _).2.kq⟩

theorem kill_safe_from {U : Type} (C : Codec U) (hC : C.Lawful) (prev new : U) {fs0 : FS} (h0 : KQ fs0 (C.ser prev))
    (fault : Fault) : ∀ fs ∈ trace (C.ser new) fault progTempRename 0 (startRun fs0),
      load C (afterKill fs) = some prev ∨ load C (afterKill fs) = some new :=
  fun fs hfs => (tempRename_kill _ h0 fault fs hfs).imp (load_of_eq_ser C hC) (load_of_eq_ser C hC)

/-- one save of a history: its document, possibly one failing call, possibly a kill right after a statement
(then the process restarts on whatever is left: `startRun` forgets descriptors and names) -/
structure SaveEv where
  doc : Bytes
  fault : Fault
  stop : Option Nat

def runSaves (prog : List Stmt) : FS → List SaveEv → FS
  | fs, [] => fs
  | fs, e :: rest => runSaves prog (finalRun e.doc e.fault e.stop prog 0 (startRun fs)).fs rest

theorem history_kq (fs0 : FS) (d0 : Bytes) (hist : List SaveEv) (h : KQ fs0 d0) :
    ∃ d, (d = d0 ∨ d ∈ hist.map (·.doc)) ∧ KQ (runSaves progTempRename fs0 hist) d := by
  induction hist generalizing fs0 d0 with
  | nil => exact ⟨d0, Or.inl rfl, h⟩
  | cons e rest ih =>
    -- a run that ended anywhere (end, error path, kill after any statement) ended in an instant of its trace
    rcases tempRename_kill e.doc h e.fault _ (finalRun_fs_mem_trace e.doc e.fault e.stop progTempRename 0 (startRun fs0))
      with h1 | h1
    · obtain ⟨d, hd, hk⟩ := ih _ d0 h1
      exact ⟨d, hd.imp_right (by simp +contextual), hk⟩
    · obtain ⟨d, hd, hk⟩ := ih _ e.doc h1
      exact ⟨d, .inr (by rcases hd with rfl | hd <;> simp [*]), hk⟩

/-- `os.WriteFile` on the one-file directory: the store file itself holds `p`, unsynced -/
def writeFileRun (o p : Bytes) (fd : Option Nat) (e : Bool := false) : Run :=
  { fs := { initFS o with inodes := [⟨p, false⟩] }, fd := fd, tmp := none, err := e }

section writeFileCalls
variable (o n p : Bytes) (fd : Option Nat) (e : Bool) (f : Option Nat)

@[simp] theorem writeFileRun_err : (writeFileRun o p fd e).err = e := rfl

@[simp] theorem afterKill_writeFileRun : afterKill (writeFileRun o p fd e).fs = some p := rfl

@[simp] theorem execOp_openTrunc : execOp n .openTrunc true (startRun (initFS o)) none = writeFileRun o [] (some 0) := rfl

@[simp] theorem writeBytes_writeFileRun (chunk : Bytes) : writeBytes (writeFileRun o p (some 0) e) chunk = writeFileRun o (p ++ chunk) (some 0) e := rfl

@[simp] theorem execOp_write_writeFile : execOp n .write true (writeFileRun o p (some 0)) f =
    writeFileRun o (p ++ f.elim n n.take) (some 0) f.isSome := by
  cases f <;> simp [execOp, execOk, execFail] <;> rfl

@[simp] theorem writeFileRun_closed (e' : Bool) : { writeFileRun o p fd e with fd := none, err := e' } = writeFileRun o p none e' := rfl

end writeFileCalls

/-- what a kill may show while `os.WriteFile` runs -/
def WriteFileShows (o n : Bytes) (fs : FS) : Prop := afterKill fs = some o ∨ ∃ p, p <+: n ∧ afterKill fs = some p

theorem writeFile_holds (o n : Bytes) :
    Holds n (WriteFileShows o n) (fun _ => True)
      progWriteFile (· = startRun (initFS o)) := by
  -- as in `tempRename_holds`; after a failure the only call left is `Close`, which keeps the file system
  refine .op (Chain (WriteFileShows o n) (writeFileRun o [] (some 0))) ?opn <|
    .ret (· = writeFileRun o [] (some 0)) ?ret1 <|
    .op (Chain (WriteFileShows o n) (writeFileRun o n (some 0))) ?write <|
    .op (Chain (WriteFileShows o n) (writeFileRun o n none)) ?close <|
    .ret (· = writeFileRun o n none) ?ret2 <|
    .nil ?done
  case opn =>
    rintro _ rfl
    have h0 : WriteFileShows o n (startRun (initFS o)).fs := .inl rfl
    exact ⟨h0, fun f => by cases f <;> simp [interm, Chain, h0]⟩
  case ret1 | ret2 => rintro r h; unfold Chain at h; split <;> simp_all
  case write => rintro _ rfl; simp [enabled, interm, Chain, WriteFileShows, List.take_prefix]; intro f; cases f <;> simp [List.take_prefix]
  case close =>
    rintro r h
    cases he : r.err <;> simp [Chain, he] at h
    · subst h; simp [enabled, interm, Chain, WriteFileShows]
    · simp [enabled, interm, Chain, he, h]
  case done => rintro _ rfl; simp [WriteFileShows]

theorem writeFile_passes_prefix (o n : Bytes) (j : Nat) (hj : j ≤ n.length) :
    ∃ fs ∈ trace n none progWriteFile 0 (startRun (initFS o)),
      afterKill fs = some (n.take j) ∧ PostCrash fs (some (n.take j)) := by
  -- the instant inside the write at which `j` bytes have gone through
  have hmem : (writeFileRun o (n.take j) (some 0) false).fs ∈ interm n .write (writeFileRun o [] (some 0) false) none :=
    List.mem_map.mpr ⟨j, List.mem_range.mpr (Nat.lt_succ_of_le hj), rfl⟩
  have hpc : PostCrash (writeFileRun o (n.take j) (some 0) false).fs (some (n.take j)) :=
    ⟨some 0, .head _, _, rfl, _, rfl, nofun⟩
  exact ⟨_, by simp [trace, progWriteFile, enabled, faultAt, hmem], rfl, hpc⟩

/-- one save killed inside its write (statement 3 of `progExclTmp`) leaves `<store>.tmp` behind; the next save — no fault at all — fails
at the create (EEXIST) and the store keeps the old document -/
theorem exclTmp_stuck_after_crash (o n n2 : Bytes) (k : Nat) :
    let fs1 := (finalRun n (some (3, k)) (some 3) progExclTmp 0 (startRun (initFS o))).fs
    let r2 := finalRun n2 none none progExclTmp 0 (startRun fs1)
    afterKill fs1 = some o ∧ r2.err = true ∧ afterKill r2.fs = some o := by
  simp [finalRun, progExclTmp, enabled, faultAt, execOp, execOk, execFail, writeBytes, upd, startRun, initFS, afterKill,
    List.lookup]

/-- invariant of `progDrain`: an acknowledged change that is not on disk is either still announced in the
queue or the saver is already on its way to the save (nodes 1–3); node 4 (`return`) is entered only with
everything acknowledged on disk. -/
structure DInv (s : DState) : Prop where
  pend : ∀ v ∈ s.pend, v ≤ s.mem
  acked : s.acked ≤ s.mem
  exited : s.exited = true → s.pc = 4
  at5 : s.pc = 5 → s.cancelled = true
  at4 : s.pc = 4 → s.cancelled = true ∧ s.acked ≤ s.disk
  at05 : (s.pc = 0 ∨ s.pc = 5) → s.acked ≤ s.disk ∨ s.queue = true

theorem dinv_init : DInv dinit := by
  constructor <;> simp [dinit]

theorem DInv.of_exited {s : DState} (h : DInv s) (hx : s.exited = true) : s.cancelled = true ∧ s.acked ≤ s.disk :=
  h.at4 (h.exited hx)

/-- `progDrain` read backwards: which node stands at `pc`, and for a `select` where its alternatives lead (nodes 1–3 are the save
path; the two other edges are `ctx` at node 0 and `default` at node 5) -/
theorem progDrain_at {pc : Nat} {nd : Node} (hn : progDrain[pc]? = some nd) : match nd with
    | .sel alts => ∀ a ∈ alts, (a.2 = 1 ∨ a.2 = 2 ∨ a.2 = 3) ∨
        (pc = 0 ∧ a = (.ctx, 5) ∧ alts = [(.queue, 1), (.ctx, 5)]) ∨ (pc = 5 ∧ a = (.dflt, 4) ∧ alts = [(.queue, 1), (.dflt, 4)])
    | .save nxt => pc = 3 ∧ nxt = 0
    | .ret => pc = 4 := by
  match pc with
  -- `hn` puts the node standing at this position of the list for `nd`; what is left is a closed statement about that node
  | 0 | 1 | 2 | 3 | 4 | 5 => cases hn; decide
  | n + 6 => cases hn

theorem fire_eq (s : DState) (g : SelGuard) (nxt : Nat) :
    fire s g nxt = { s with queue := s.queue && g != .queue, pc := nxt } := by
  cases g <;> simp [fire]

theorem dinv_step {s t : DState} (hs : DInv s) (h : Step progDrain s t) : DInv t := by
  cases h with
  | mutate =>
    exact { hs with
      pend := fun v hv => by
        rcases List.mem_cons.mp hv with rfl | hv
        · exact Nat.le_refl _
        · exact Nat.le_succ_of_le (hs.pend v hv)
      acked := Nat.le_succ_of_le hs.acked }
  | enqueue v hv =>
    exact { hs with
      pend := fun w hw => hs.pend w (List.mem_of_mem_erase hw)
      acked := by
        show (if s.cancelled = true then s.acked else max s.acked v) ≤ s.mem
        split
        · exact hs.acked
        · exact Nat.max_le.mpr ⟨hs.acked, hs.pend v hv⟩
      at4 := fun h => by
        have h' := hs.at4 h
        show s.cancelled = true ∧ (if s.cancelled = true then s.acked else max s.acked v) ≤ s.disk
        rw [if_pos h'.1]; exact h'
      at05 := fun _ => .inr rfl }
  | cancel => exact { hs with at5 := fun _ => rfl, at4 := fun h => ⟨rfl, (hs.at4 h).2⟩ }
  | sel alts g nxt hx hn hm hr =>
    have hex : s.exited = true → nxt = 4 := fun h => by simp [hx] at h
    rcases progDrain_at hn _ hm with (hmid : nxt = 1 ∨ nxt = 2 ∨ nxt = 3) | ⟨h0, ⟨⟩, rfl⟩ | ⟨h5, ⟨⟩, rfl⟩
    · -- on the save path (nodes 1–3) the invariant asks nothing beyond the bookkeeping of versions
      rw [fire_eq]
      exact { hs with
        exited := hex
        at5 := fun (h : nxt = 5) => by omega
        at4 := fun (h : nxt = 4) => by omega
        at05 := fun (h : nxt = 0 ∨ nxt = 5) => by omega }
    · -- the cancellation seen at node 0: on to the last look at the queue
      have hc : s.cancelled = true := by simpa [altReady, guardReady] using hr
      exact { hs with
        exited := hex
        at5 := fun _ => hc
        at4 := fun h => by cases h
        at05 := fun _ => hs.at05 (.inl h0) }
    · -- node 5 found the queue empty: all that is acknowledged is on disk
      have hq : s.queue = false := by simpa [altReady, guardReady] using hr
      exact { hs with
        exited := hex
        at5 := fun h => by cases h
        at4 := fun _ => ⟨hs.at5 h5, (hs.at05 (.inr h5)).resolve_right (by simp [hq])⟩
        at05 := fun h => by simp [fire] at h }
  | save nxt hx hn =>
    obtain ⟨-, rfl⟩ := progDrain_at hn
    exact { hs with
      exited := fun h => by simp [hx] at h
      at5 := fun h => by cases h
      at4 := fun h => by cases h
      at05 := fun _ => .inl hs.acked }
  | ret hx hn => exact { hs with exited := fun _ => progDrain_at hn }

theorem dinv_reach {s : DState} (h : Reach progDrain s) : DInv s := by
  induction h with
  | init => exact dinv_init
  | step _ hst ih => exact dinv_step ih hst

macro "close_kill" h3:ident ht:ident : tactic =>
  `(tactic| first
    | (left; simp [afterKill, $h3:ident]; done)
    | (left; simp [afterKill, List.getElem?_append_left $ht, $h3:ident]; done)
    | (right; simp [afterKill]; done))

end SSV.Persist
