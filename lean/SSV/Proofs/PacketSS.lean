import SSV.Proofs.PacketPlain
/-
C05: Shadowsocks 2022. The packers splice `enc(sep) ++ identity headers ++ seal(header ++ payload)`
in front of the payload; the unpackers, run on any buffer whose packet window holds such a packet, splice the
opened plaintext back. The round trips, the frames and the multi-user server follow from these two shapes.
The two packers are one function, `ssPackAt`, of the offsets they compute (`SSOffsets`); all that is used of the offset
arithmetic of either side is `SSOffsets.Good`.
-/
namespace SSV.Packet
open SSV SSV.Gen.C05

theorem choosePadding_bounds (m : Int) (p : Bool) (r : Nat) (hm : 0 ≤ m) :
    0 ≤ choosePadding m p r ∧ choosePadding m p r ≤ m := by
  unfold choosePadding
  split
  · next h =>
    have : (r % m.toNat : Nat) < m.toNat := Nat.mod_lt _ (by omega)
    omega
  · omega

/-- the message header `PutUDPClientMessageHeader` writes (the padding bytes are whatever the buffer held) -/
def ssClientHdr (a : Addr) (ts padding : Bytes) : Bytes :=
  UInt8.ofNat HeaderTypeClientPacket :: (ts ++ be16 padding.length ++ padding ++ encodeAddr a)

/-- the message header `PutUDPServerMessageHeader` writes -/
def ssServerHdr (a : AddrPort) (ts csid padding : Bytes) : Bytes :=
  UInt8.ofNat HeaderTypeServerPacket :: (ts ++ csid ++ be16 padding.length ++ padding ++ encodeAddrPort a)

theorem ssClientHdr_length (a : Addr) (ts padding : Bytes) (ha : a.wf) (hts : ts.length = 8) :
    (ssClientHdr a ts padding).length = 11 + padding.length + (addrLen a).toNat := by
  have := encodeAddr_length a ha
  simp only [ssClientHdr, List.length_cons, List.length_append, hts, be16_length]
  omega

theorem ssServerHdr_length (a : AddrPort) (ts csid padding : Bytes) (ha : a.wf) (hts : ts.length = 8)
    (hcs : csid.length = 8) : (ssServerHdr a ts csid padding).length = 19 + padding.length + (addrPortLen a).toNat := by
  have := encodeAddrPort_length a ha
  simp only [ssServerHdr, List.length_cons, List.length_append, hts, hcs, be16_length]
  omega

theorem parseClientHeader_put (ts padding : Bytes) (a : Addr) (payload : Bytes) (now : Int)
    (hts : ts.length = 8) (hp : padding.length < 65536) (ha : a.wf) (htsok : tsOk ts now = true) :
    parseClientHeader (ssClientHdr a ts padding ++ payload) now
      = .ok (a.norm, (ssClientHdr a ts padding).length, payload.length) := by
  have hlen := ssClientHdr_length a ts padding ha hts
  have hpt : ssClientHdr a ts padding ++ payload = UInt8.ofNat HeaderTypeClientPacket ::
      (ts ++ (be16 padding.length ++ (padding ++ (encodeAddr a ++ payload)))) := by simp [ssClientHdr]
  have e0 : sub (ssClientHdr a ts padding ++ payload) 0 1 = [UInt8.ofNat HeaderTypeClientPacket] := by
    simp [ssClientHdr, sub]
  have e1 : sub (ssClientHdr a ts padding ++ payload) 1 8 = ts := by
    rw [hpt, sub_cons_succ, sub_left _ _ _ hts]
  have e2 : sub (ssClientHdr a ts padding ++ payload) 9 2 = be16 padding.length := by
    rw [hpt, sub_cons_succ, sub_append_mid ts _ _ 8 2 hts rfl]
  have e3 : List.drop (11 + padding.length) (ssClientHdr a ts padding ++ payload) = encodeAddr a ++ payload := by
    have : ssClientHdr a ts padding ++ payload = (UInt8.ofNat HeaderTypeClientPacket ::
        (ts ++ (be16 padding.length ++ padding))) ++ (encodeAddr a ++ payload) := by simp [ssClientHdr]
    rw [this]
    apply List.drop_left'
    simp only [List.length_cons, List.length_append, hts, be16_length]; omega
  unfold parseClientHeader
  have hl : (ssClientHdr a ts padding ++ payload).length = 11 + padding.length + (addrLen a).toNat + payload.length := by
    rw [List.length_append, hlen]
  simp only [e0, e1, e2, unbe_be16 _ hp, htsok, UDPClientMessageHeaderFixedLength, e3, decodeAddr_encodeAddr a payload ha, hl, hlen]
  rw [if_neg (by omega), if_neg (by simp), if_neg (by simp), if_neg (by omega), Nat.add_sub_cancel_left]

theorem parseServerHeader_put (ts csid padding : Bytes) (a : AddrPort) (payload : Bytes) (now : Int)
    (hts : ts.length = 8) (hcs : csid.length = 8) (hp : padding.length < 65536) (ha : a.wf)
    (htsok : tsOk ts now = true) :
    parseServerHeader (ssServerHdr a ts csid padding ++ payload) now csid
      = .ok (a.norm, (ssServerHdr a ts csid padding).length, payload.length) := by
  have hlen := ssServerHdr_length a ts csid padding ha hts hcs
  have hpt : ssServerHdr a ts csid padding ++ payload = UInt8.ofNat HeaderTypeServerPacket ::
      (ts ++ (csid ++ (be16 padding.length ++ (padding ++ (encodeAddrPort a ++ payload))))) := by simp [ssServerHdr]
  have e0 : sub (ssServerHdr a ts csid padding ++ payload) 0 1 = [UInt8.ofNat HeaderTypeServerPacket] := by
    simp [ssServerHdr, sub]
  have e1 : sub (ssServerHdr a ts csid padding ++ payload) 1 8 = ts := by
    rw [hpt, sub_cons_succ, sub_left _ _ _ hts]
  have ecs : sub (ssServerHdr a ts csid padding ++ payload) 9 8 = csid := by
    rw [hpt, sub_cons_succ, sub_append_mid ts csid _ 8 8 hts hcs]
  have e2 : sub (ssServerHdr a ts csid padding ++ payload) 17 2 = be16 padding.length := by
    rw [hpt, sub_cons_succ, sub_right ts _ 16 2 8 (by omega), sub_append_mid csid _ _ 8 2 hcs rfl]
  have e3 : List.drop (19 + padding.length) (ssServerHdr a ts csid padding ++ payload) = encodeAddrPort a ++ payload := by
    have : ssServerHdr a ts csid padding ++ payload = (UInt8.ofNat HeaderTypeServerPacket ::
        (ts ++ (csid ++ (be16 padding.length ++ padding)))) ++ (encodeAddrPort a ++ payload) := by simp [ssServerHdr]
    rw [this]
    apply List.drop_left'
    simp only [List.length_cons, List.length_append, hts, hcs, be16_length]; omega
  unfold parseServerHeader
  have hl : (ssServerHdr a ts csid padding ++ payload).length = 19 + padding.length + (addrPortLen a).toNat + payload.length := by
    rw [List.length_append, hlen]
  simp only [e0, e1, ecs, e2, unbe_be16 _ hp, htsok, UDPServerMessageHeaderFixedLength, e3, decodeAddrPort_encodeAddrPort a payload ha,
    hl, hlen]
  rw [if_neg (by omega), if_neg (by simp), if_neg (by simp), if_neg (by simp), if_neg (by omega), Nat.add_sub_cancel_left]

/-- session id and packet id make the 16-byte separate header -/
theorem sep_length {sid pid : Bytes} (hs : sid.length = 8) (hp : pid.length = 8) : (sid ++ pid).length = 16 := by
  rw [List.length_append, hs, hp]

/-- what the ss2022 client packer puts in front of the payload: separate header, `k` identity headers, fixed message
header, address, `pad` bytes of padding -/
def ssFront (k : Nat) (a : Addr) (pad : Nat) : Nat := 16 + 16 * k + 11 + (addrLen a).toNat + pad

/-- the same for the ss2022 server packer (no identity headers; its fixed message header carries the client session id) -/
def ssSFront (a : AddrPort) (pad : Nat) : Nat := 16 + 19 + (addrPortLen a).toNat + pad

/-- the identity headers the client packer writes -/
def ssIds (c : Crypto) (eih : List (Bytes × Bytes)) (sep : Bytes) : Bytes :=
  (eih.map (fun kh => c.enc kh.1 (xorBytes kh.2 sep))).flatten

theorem xorBytes_length (x y : Bytes) : (xorBytes x y).length = min x.length y.length := by
  simp [xorBytes]

theorem ssIds_length (c : Crypto) (L : c.Laws) (eih : List (Bytes × Bytes)) (sep : Bytes) (hsep : sep.length = 16)
    (hh : ∀ kh ∈ eih, kh.2.length = 16) : (ssIds c eih sep).length = 16 * eih.length := by
  unfold ssIds
  induction eih with
  | nil => simp
  | cons kh t ih =>
    have h1 := hh kh (by simp)
    have h2 := ih (fun x hx => hh x (by simp [hx]))
    simp only [List.map_cons, List.flatten_cons, List.length_append, List.length_cons, L.enc_len, xorBytes_length, h1, hsep, h2]
    omega

/-- with the lookup the server rewrites the first identity header in place, at the same length -/
theorem ids_length_after_lookup {c : Crypto} (L : c.Laws) (block ids sep : Bytes) (lookup : Bool) {k : Nat} (hids : ids.length = 16 * k)
    (hsep : sep.length = 16) :
    (if lookup = true then xorBytes (c.dec block (ids.take 16)) sep ++ ids.drop 16 else ids).length = 16 * k := by
  split
  · rw [List.length_append, xorBytes_length, L.dec_len, List.length_take, List.length_drop, hids, hsep]; omega
  · exact hids

/-- The offsets an ss2022 packer computes for a payload window: the padding budget, the length `na` of what precedes the
sealed part, the fixed length of the message header and, as functions of the padding length drawn, where the message
header starts and where the slice for the separate header ends. -/
structure SSOffsets where
  maxPad : Int
  na : Int
  fixed : Nat
  mhs : Int → Int
  sepEnd : Int → Int

/-- Both ss2022 packers with their offset arithmetic, the bytes in front of the sealed part (`pre`) and the message
header (`hdr`, of the padding length and the padding bytes) as parameters. It repeats the guard order and the `let`
structure of `ssClientPack`/`ssClientPackWith` and `ssServerPack`/`ssServerPackWith` literally: that is what makes
`ssClientPack_eq` and `ssServerPack_eq` hold by `rfl`; a tidier body would have to be proved equal guard by guard. -/
def ssPackAt (c : Crypto) (key nonce pre : Bytes) (hdr : Nat → Bytes → Bytes) (view : Bytes → Bytes → Bytes) (o : SSOffsets)
    (padOn : Bool) (rand : Nat) (b : Bytes) (ps pl : Nat) : Outcome Packed :=
  if o.maxPad < 0 then .err .tooBig else
  let pad := choosePadding o.maxPad padOn rand
  let start := o.mhs pad - o.na
  if ¬ sliceOk b (o.mhs pad) ps then .panic else
  if ¬ sliceOk b start (o.sepEnd pad) then .panic else
  if ¬ sliceOk b (o.mhs pad) (ps + pl) then .panic else
  let h := hdr pad.toNat (sub b ((o.mhs pad).toNat + o.fixed) pad.toNat)
  if (ps : Int) + pl + 16 > b.length then .noRoom else
  .ok ⟨splice b start.toNat (pre ++ c.aseal key nonce (h ++ sub b ps pl)), start, ps - start + pl + 16, view h (sub b ps pl)⟩

def ssClientOffsets (k : Nat) (al lim : Int) (ps pl : Nat) : SSOffsets :=
  let na : Int := (UDPSeparateHeaderLength : Int) + (IdentityHeaderLength : Int) * k
  ⟨cMaxPaddingLen lim (cHeaderNoPaddingLen na al) ps pl 16, na, UDPClientMessageHeaderFixedLength,
    fun pad => cMessageHeaderStart ps al pad, fun pad => cIdentityHeadersStart (cPacketStart (cMessageHeaderStart ps al pad) na)⟩

def ssServerOffsets (al lim : Int) (ps pl : Nat) : SSOffsets :=
  ⟨sMaxPaddingLen lim (sHeaderNoPaddingLen al) ps pl 16, 16, UDPServerMessageHeaderFixedLength,
    fun pad => sMessageHeaderStart ps al pad, fun pad => sMessageHeaderStart ps al pad⟩

theorem ssClientPack_eq (c : Crypto) (userBlock aeadKey : Bytes) (eih : List (Bytes × Bytes)) (mps : Int) (pol : Policy)
    (b : Bytes) (a : Addr) (ps pl rand : Nat) (ts sid pid : Bytes) :
    ssClientPack c userBlock aeadKey eih mps pol b a ps pl rand ts sid pid =
      if a.domTooLong then .panic else
      ssPackAt c aeadKey ((sid ++ pid).drop 4) (c.enc (ssBlock userBlock eih) (sid ++ pid) ++ ssIds c eih (sid ++ pid))
        (fun n padding => UInt8.ofNat HeaderTypeClientPacket :: (ts ++ be16 n ++ padding ++ encodeAddr a))
        (fun h p => sid ++ pid ++ (eih.map (·.2)).flatten ++ h ++ p)
        (ssClientOffsets eih.length (addrLen a) mps ps pl) (shouldPad pol a.port) rand b ps pl := rfl

theorem ssServerPack_eq (c : Crypto) (block aeadKey : Bytes) (pol : Policy) (b : Bytes) (a : AddrPort) (ps pl : Nat) (lim : Int)
    (rand : Nat) (ts ssid spid csid : Bytes) :
    ssServerPack c block aeadKey pol b a ps pl lim rand ts ssid spid csid =
      ssPackAt c aeadKey ((ssid ++ spid).drop 4) (c.enc block (ssid ++ spid))
        (fun n padding => UInt8.ofNat HeaderTypeServerPacket :: (ts ++ csid ++ be16 n ++ padding ++ encodeAddrPort a))
        (fun h p => ssid ++ spid ++ h ++ p)
        (ssServerOffsets (addrPortLen a) lim ps pl) (shouldPad pol a.port) rand b ps pl := rfl

/-- What the offset arithmetic of either packer amounts to: the packet starts `base + pad` bytes before the payload
(`base`: all that goes in front of the payload but the padding; `N` of it outside the sealed part), and a padding
length within the budget keeps the packet inside the buffer and under the limit. -/
structure SSOffsets.Good (o : SSOffsets) (base N : Nat) (lim : Int) (ps pl : Nat) : Prop where
  budget : ∀ pad : Int, pad ≤ o.maxPad → pad ≤ 65535 ∧ base + pad ≤ ps ∧ base + pad + pl + 16 ≤ lim
  na : o.na = N
  fixed : N + o.fixed ≤ base
  mhs : ∀ pad, o.mhs pad = ps - (base + pad) + N
  sepEnd : ∀ pad, o.mhs pad - N ≤ o.sepEnd pad ∧ o.sepEnd pad ≤ o.mhs pad

theorem ssClientOffsets_good (k : Nat) {a : Addr} (ha : a.wf) (lim : Int) (ps pl : Nat) :
    (ssClientOffsets k (addrLen a) lim ps pl).Good (ssFront k a 0) (16 + 16 * k) lim ps pl := by
  have hal := (addrLen_bounds a ha).1
  refine ⟨fun pad => ?_, ?_, ?_, fun pad => ?_, fun pad => ?_⟩ <;>
    simp only [ssFront, ssClientOffsets, cMaxPaddingLen, cHeaderNoPaddingLen, cMessageHeaderStart, cPacketStart, cIdentityHeadersStart,
      UDPSeparateHeaderLength, IdentityHeaderLength, UDPClientMessageHeaderFixedLength, Int.le_min] <;> omega

theorem ssServerOffsets_good (a : AddrPort) (lim : Int) (ps pl : Nat) :
    (ssServerOffsets (addrPortLen a) lim ps pl).Good (ssSFront a 0) 16 lim ps pl := by
  have hal := (addrPortLen_bounds a).1
  refine ⟨fun pad => ?_, ?_, ?_, fun pad => ?_, fun pad => ?_⟩ <;>
    simp only [ssSFront, ssServerOffsets, sMaxPaddingLen, sHeaderNoPaddingLen, sMessageHeaderStart, UDPServerMessageHeaderFixedLength, Int.le_min] <;>
    omega

section
variable {c : Crypto} {key nonce pre : Bytes} {hdr : Nat → Bytes → Bytes} {view : Bytes → Bytes → Bytes} {o : SSOffsets}
  {padOn : Bool} {rand : Nat} {b : Bytes} {ps pl base N : Nat} {lim : Int} {r : Packed}

theorem ssPackAt_ok (hg : o.Good base N lim ps pl) (h : ssPackAt c key nonce pre hdr view o padOn rand b ps pl = .ok r) :
    ∃ (q : Nat) (padding : Bytes), padding.length ≤ 65535 ∧ ps = q + (base + padding.length) ∧ ps + pl + 16 ≤ b.length ∧
      r.packetLen ≤ lim ∧ r.packetStart = q ∧ r.packetLen = ((base + padding.length + pl + 16 : Nat) : Int) ∧
      r.buf = splice b q (pre ++ c.aseal key nonce (hdr padding.length padding ++ sub b ps pl)) := by
  unfold ssPackAt at h
  simp only [ite_err_eq_ok, ite_panic_eq_ok, ite_noRoom_eq_ok, Decidable.not_not, Outcome.ok.injEq] at h
  obtain ⟨hmax, -, -, -, hroom, rfl⟩ := h
  obtain ⟨hb0, hb⟩ := choosePadding_bounds _ padOn rand (Int.not_lt.mp hmax)
  generalize choosePadding o.maxPad padOn rand = padI at *
  obtain ⟨pad, rfl⟩ := Int.eq_ofNat_of_zero_le hb0
  obtain ⟨hb1, hb2, hb3⟩ := hg.budget pad hb
  obtain ⟨q, rfl⟩ : ∃ q : Nat, ps = q + (base + pad) := ⟨ps - (base + pad), by omega⟩
  have hq : o.mhs pad - o.na = q := by rw [hg.mhs, hg.na]; omega
  have hm : (o.mhs pad).toNat = q + N := by rw [hg.mhs]; omega
  have h4 := hg.fixed
  have hpl : (sub b (q + N + o.fixed) pad).length = pad := sub_length _ _ _ (by omega)
  rw [hm, hq, Int.toNat_natCast, Int.toNat_natCast]
  dsimp only
  exact ⟨q, _, by rw [hpl]; omega, by rw [hpl], by omega, by omega, rfl, by rw [hpl]; omega, by rw [hpl]⟩

/-- no hypothesis on the front space: too little of it is reported as `ErrPayloadTooBig` by the padding guard -/
theorem ssPackAt_safe (hg : o.Good base N lim ps pl) (hroom : ps + pl + 16 ≤ b.length) :
    (ssPackAt c key nonce pre hdr view o padOn rand b ps pl).safe := by
  unfold ssPackAt
  refine Outcome.safe_ite (Outcome.safe_err _) fun hmax => ?_
  dsimp only
  obtain ⟨hb0, hb⟩ := choosePadding_bounds _ padOn rand (Int.not_lt.mp hmax)
  generalize choosePadding o.maxPad padOn rand = pad at *
  obtain ⟨-, hb2, -⟩ := hg.budget pad hb
  have h1 := hg.mhs pad
  have h2 := hg.sepEnd pad
  have h3 := hg.fixed
  rw [hg.na]
  refine Outcome.safe_guard (by rw [sliceOk]; omega) (Outcome.safe_guard (by rw [sliceOk]; omega)
    (Outcome.safe_guard (by rw [sliceOk]; omega) ?_))
  rw [if_neg (by omega)]
  exact Outcome.safe_ok _

theorem ssPackAt_refused {e : Err} (h : ssPackAt c key nonce pre hdr view o padOn rand b ps pl = .err e) : e = .tooBig := by
  revert h
  fun_cases ssPackAt c key nonce pre hdr view o padOn rand b ps pl
  case case1 => -- the padding guard
    intro h
    cases h
    rfl
  all_goals nofun

/-- the packet a successful pack leaves, in the terms `packed_frame` and `inplace_roundtrip` ask for -/
theorem ssPackAt_packet (L : c.Laws) (hg : o.Good base N lim ps pl) (hpre : pre.length = N)
    (hhdr : ∀ padding : Bytes, N + (hdr padding.length padding).length = base + padding.length)
    (h : ssPackAt c key nonce pre hdr view o padOn rand b ps pl = .ok r) :
    ∃ (q : Nat) (padding P : Bytes), padding.length ≤ 65535 ∧ P = pre ++ c.aseal key nonce (hdr padding.length padding ++ sub b ps pl) ∧
      r.packetStart = q ∧ r.packetLen = P.length ∧ r.buf = splice b q P ∧ q + P.length ≤ b.length ∧
      P.length = N + (hdr padding.length padding).length + pl + 16 ∧ q + N + (hdr padding.length padding).length = ps := by
  obtain ⟨q, padding, hpad, hps, hfit, -, hst, hln, hbuf⟩ := ssPackAt_ok hg h
  have hh := hhdr padding
  have hPl : (pre ++ c.aseal key nonce (hdr padding.length padding ++ sub b ps pl)).length =
      N + (hdr padding.length padding).length + pl + 16 := by
    rw [List.length_append, L.seal_len, List.length_append, hpre, sub_length b ps pl (by omega)]; omega
  exact ⟨q, padding, _, hpad, rfl, hst, by rw [hln, hPl]; omega, hbuf, by omega, hPl, by omega⟩

end

theorem ssClientPack_safe (c : Crypto) (userBlock aeadKey : Bytes) (eih : List (Bytes × Bytes)) (mps : Int) (pol : Policy)
    (b : Bytes) (a : Addr) (ps pl rand : Nat) (ts sid pid : Bytes) (ha : a.wf) (hroom : ps + pl + 16 ≤ b.length) :
    (ssClientPack c userBlock aeadKey eih mps pol b a ps pl rand ts sid pid).safe := by
  rw [ssClientPack_eq, wf_not_domTooLong ha, if_neg Bool.false_ne_true]
  exact ssPackAt_safe (ssClientOffsets_good _ ha _ _ _) hroom

theorem ssServerPack_safe (c : Crypto) (block aeadKey : Bytes) (pol : Policy) (b : Bytes) (src : AddrPort)
    (ps pl : Nat) (lim : Int) (rand : Nat) (ts ssid spid csid : Bytes) (hroom : ps + pl + 16 ≤ b.length) :
    (ssServerPack c block aeadKey pol b src ps pl lim rand ts ssid spid csid).safe := by
  rw [ssServerPack_eq]
  exact ssPackAt_safe (ssServerOffsets_good src _ _ _) hroom

theorem ssClientPack_packet {c : Crypto} (L : c.Laws) {userBlock aeadKey : Bytes} {eih : List (Bytes × Bytes)} {mps : Int}
    {pol : Policy} {b : Bytes} {a : Addr} {ps pl rand : Nat} {ts sid pid : Bytes} {r : Packed}
    (ha : a.wf) (hts : ts.length = 8) (hsid : sid.length = 8) (hpid : pid.length = 8)
    (hh : ∀ kh ∈ eih, kh.2.length = 16)
    (h : ssClientPack c userBlock aeadKey eih mps pol b a ps pl rand ts sid pid = .ok r) :
    ∃ (q : Nat) (padding P : Bytes), padding.length ≤ 65535 ∧
      P = c.enc (ssBlock userBlock eih) (sid ++ pid) ++ ssIds c eih (sid ++ pid) ++
        c.aseal aeadKey ((sid ++ pid).drop 4) (ssClientHdr a ts padding ++ sub b ps pl) ∧
      r.packetStart = q ∧ r.packetLen = P.length ∧ r.buf = splice b q P ∧ q + P.length ≤ b.length ∧
      P.length = 16 + 16 * eih.length + (ssClientHdr a ts padding).length + pl + 16 ∧
      q + (16 + 16 * eih.length) + (ssClientHdr a ts padding).length = ps := by
  rw [ssClientPack_eq, wf_not_domTooLong ha, if_neg Bool.false_ne_true] at h
  have hsep := sep_length hsid hpid
  exact ssPackAt_packet L (ssClientOffsets_good _ ha _ _ _)
    (by rw [List.length_append, L.enc_len, hsep, ssIds_length c L eih _ hsep hh])
    (fun padding => by rw [← ssClientHdr, ssClientHdr_length a ts padding ha hts, ssFront]; omega) h

theorem ssServerPack_packet {c : Crypto} (L : c.Laws) {block aeadKey : Bytes} {pol : Policy} {b : Bytes} {a : AddrPort}
    {ps pl : Nat} {lim : Int} {rand : Nat} {ts ssid spid csid : Bytes} {r : Packed}
    (ha : a.wf) (hts : ts.length = 8) (hssid : ssid.length = 8) (hspid : spid.length = 8) (hcs : csid.length = 8)
    (h : ssServerPack c block aeadKey pol b a ps pl lim rand ts ssid spid csid = .ok r) :
    ∃ (q : Nat) (padding P : Bytes), padding.length ≤ 65535 ∧
      P = c.enc block (ssid ++ spid) ++ c.aseal aeadKey ((ssid ++ spid).drop 4) (ssServerHdr a ts csid padding ++ sub b ps pl) ∧
      r.packetStart = q ∧ r.packetLen = P.length ∧ r.buf = splice b q P ∧ q + P.length ≤ b.length ∧
      P.length = 16 + (ssServerHdr a ts csid padding).length + pl + 16 ∧
      q + 16 + (ssServerHdr a ts csid padding).length = ps := by
  rw [ssServerPack_eq] at h
  exact ssPackAt_packet L (ssServerOffsets_good a _ _ _) (by rw [L.enc_len, sep_length hssid hspid])
    (fun padding => by rw [← ssServerHdr, ssServerHdr_length a ts csid padding ha hts hcs, ssSFront]; omega) h

theorem sUnpackMessageHeaderStart_toNat (q na : Nat) : (sUnpackMessageHeaderStart (q : Int) (na : Int)).toNat = q + na := by
  simp only [sUnpackMessageHeaderStart]; omega
theorem sUnpackMessageHeaderStart_add (q na ps : Nat) :
    sUnpackMessageHeaderStart (q : Int) (na : Int) + (ps : Int) = ((q + na + ps : Nat) : Int) := by
  simp only [sUnpackMessageHeaderStart]; omega
theorem cUnpackMessageHeaderStart_toNat (q : Nat) : (cUnpackMessageHeaderStart (q : Int)).toNat = q + 16 := by
  simp only [cUnpackMessageHeaderStart]; omega
theorem cUnpackMessageHeaderStart_add (q ps : Nat) :
    cUnpackMessageHeaderStart (q : Int) + (ps : Int) = ((q + 16 + ps : Nat) : Int) := by
  simp only [cUnpackMessageHeaderStart]; omega

/-- `hkey`: with `lookup` the session key is found through the first identity header and the user table. -/
theorem ssServerUnpack_window (c : Crypto) (L : c.Laws) (block akey : Bytes) (k : Nat) (lookup : Bool)
    (users : List (Bytes × Bytes)) (now : Int) (bb : Bytes) (q n : Nat)
    (sep ids ct pt key : Bytes) (a : Addr) (ps' pl' : Nat)
    (hwin : sub bb q n = c.enc block sep ++ ids ++ ct)
    (hsep : sep.length = 16) (hids : ids.length = 16 * k) (hn : n = 16 + 16 * k + ct.length) (hct : 16 ≤ ct.length)
    (hlen : q + n ≤ bb.length)
    (hkey : (if lookup then (users.find? (fun u => u.1 == xorBytes (c.dec block (ids.take 16)) sep)).map (·.2)
      else some akey) = some key)
    (hopen : c.aopen key (sep.drop 4) ct = some pt) (hparse : parseClientHeader pt now = .ok (a, ps', pl')) :
    ssServerUnpack c block akey k lookup users now bb q n
      = .ok ⟨splice bb q (sep ++ (if lookup then xorBytes (c.dec block (ids.take 16)) sep ++ ids.drop 16 else ids) ++ pt),
          a, ((q + (16 + 16 * k) + ps' : Nat) : Int), pl'⟩ := by
  have henc : (c.enc block sep).length = 16 := by rw [L.enc_len, hsep]
  have e1 : sub bb q 16 = c.enc block sep := by
    rw [← Nat.add_zero q, sub_of_sub bb q n 0 16 (by omega), hwin, List.append_assoc, sub_left _ _ _ henc]
  have e2 : sub bb (q + 16) (16 * k) = ids := by
    rw [sub_of_sub bb q n 16 _ (by omega), hwin, List.append_assoc,
      sub_append_mid _ ids ct 16 _ henc hids]
  have e3 : sub bb (q + (16 + 16 * k)) (n - (16 + 16 * k)) = ct := by
    rw [sub_of_sub bb q n (16 + 16 * k) _ (by omega), hwin,
      sub_right (c.enc block sep ++ ids) ct (16 + 16 * k) _ 0 (by simp [henc, hids]), sub_whole ct _ (by omega)]
  have e4 : sUnpackTooSmall (n : Int) ((16 + 16 * k : Nat) : Int) 16 = false := by
    simp only [sUnpackTooSmall, decide_eq_false_iff_not]; omega
  have hna : UDPSeparateHeaderLength + IdentityHeaderLength * k = 16 + 16 * k := rfl
  have hu : UDPSeparateHeaderLength = 16 := rfl
  unfold ssServerUnpack
  rw [hna, hu, if_neg (by simp only [Decidable.not_not, sliceOk]; omega), if_neg (by omega), if_neg (by omega)]
  simp only [e1, L.dec_enc, Nat.add_sub_cancel_left, e2, hkey, e4, Bool.false_eq_true, if_false, sUnpackMessageHeaderStart_toNat, e3,
    hopen, hparse, sUnpackMessageHeaderStart_add]

theorem ssClientUnpack_window (c : Crypto) (L : c.Laws) (block key csid : Bytes) (now : Int) (bb : Bytes) (q n : Nat)
    (sep ct pt : Bytes) (a : AddrPort) (ps' pl' : Nat)
    (hwin : sub bb q n = c.enc block sep ++ ct)
    (hsep : sep.length = 16) (hn : n = 16 + ct.length) (hct : 16 ≤ ct.length) (hlen : q + n ≤ bb.length)
    (hopen : c.aopen key (sep.drop 4) ct = some pt) (hparse : parseServerHeader pt now csid = .ok (a, ps', pl')) :
    ssClientUnpack c block key csid now bb q n
      = .ok ⟨splice bb q (sep ++ pt), a, ((q + 16 + ps' : Nat) : Int), pl'⟩ := by
  have henc : (c.enc block sep).length = 16 := by rw [L.enc_len, hsep]
  have e1 : sub bb q 16 = c.enc block sep := by
    rw [← Nat.add_zero q, sub_of_sub bb q n 0 16 (by omega), hwin, sub_left _ _ _ henc]
  have e2 : sub bb (q + 16) (n - 16) = ct := by
    rw [sub_of_sub bb q n 16 _ (by omega), hwin, sub_right (c.enc block sep) ct 16 _ 0 (by omega), sub_whole ct _ (by omega)]
  have e3 : cUnpackTooSmall (n : Int) = false := by
    simp only [cUnpackTooSmall, decide_eq_false_iff_not]; omega
  unfold ssClientUnpack
  rw [e3, if_neg Bool.false_ne_true,
    if_neg (by simp only [Decidable.not_not, sliceOk, cUnpackMessageHeaderStart]; omega),
    if_neg (by simp only [Decidable.not_not, sliceOk, cUnpackMessageHeaderStart]; omega)]
  simp only [e1, L.dec_enc, cUnpackMessageHeaderStart_toNat, e2, hopen, hparse, cUnpackMessageHeaderStart_add]

theorem ssClientUnpack_guards {c : Crypto} {block key csid : Bytes} {now : Int} {b : Bytes} {q n : Nat} {u : Unpacked AddrPort}
    (h : ssClientUnpack c block key csid now b q n = .ok u) :
    cUnpackTooSmall n = false ∧ sliceOk b q (cUnpackMessageHeaderStart q) ∧ sliceOk b (cUnpackMessageHeaderStart q) (q + n) := by
  unfold ssClientUnpack at h
  simp only [ite_panic_eq_ok, ite_err_eq_ok, Decidable.not_not] at h
  obtain ⟨h1, hs1, hs2, _⟩ := h
  exact ⟨by simpa using h1, hs1, hs2⟩

/-- The server side decrypts the separate header with the packer's block key and has `nonAEADHeaderLen = 16 + 16·k`;
`hkey`: the session key it arrives at (the one it was given, or with `lookup` the table entry of the hash in the first
identity header) is the packer's. -/
theorem ss_roundtrip_up {c : Crypto} (L : c.Laws) {userBlock aeadKey : Bytes} {eih : List (Bytes × Bytes)} {mps : Int}
    {pol : Policy} {b : Bytes} {a : Addr} {ps pl rand : Nat} {ts sid pid : Bytes} {now : Int} {r : Packed}
    (ha : a.wf) (hts : ts.length = 8) (hsid : sid.length = 8) (hpid : pid.length = 8)
    (lookup : Bool) (users : List (Bytes × Bytes)) (skey : Bytes)
    (hh : ∀ kh ∈ eih, kh.2.length = 16) (hnow : tsOk ts now = true)
    (hkey : (if lookup then (users.find? (fun u => u.1 ==
        xorBytes (c.dec (ssBlock userBlock eih) ((ssIds c eih (sid ++ pid)).take 16)) (sid ++ pid))).map (·.2)
      else some skey) = some aeadKey)
    (h : ssClientPack c userBlock aeadKey eih mps pol b a ps pl rand ts sid pid = .ok r) :
    RoundTrip (ssServerUnpack c (ssBlock userBlock eih) skey eih.length lookup users now r.buf r.packetStart.toNat
      r.packetLen.toNat) b r a.norm ps pl := by
  obtain ⟨q, padding, P, hpad, hP, hst, hln, hbuf, hfit, hPl, hps⟩ := ssClientPack_packet L ha hts hsid hpid hh h
  have hsep := sep_length hsid hpid
  have hids := ssIds_length c L eih (sid ++ pid) hsep hh
  have hpay : (sub b ps pl).length = pl := sub_length _ _ _ (by omega)
  have hparse := parseClientHeader_put ts padding a (sub b ps pl) now hts (by omega) ha hnow
  have hu := ssServerUnpack_window c L (ssBlock userBlock eih) skey eih.length lookup users now _ q P.length (sid ++ pid) _ _ _
    aeadKey _ _ _ ((sub_splice b q P hfit).trans hP) hsep hids
    (by rw [hPl, L.seal_len, List.length_append, hpay]; omega) (by rw [L.seal_len]; omega)
    (by rw [splice_length _ _ _ hfit]; exact hfit) hkey (L.open_seal _ _ _) hparse
  rw [hps, hpay, ← List.append_assoc _ _ (sub b ps pl)] at hu
  have hback := ids_length_after_lookup L (ssBlock userBlock eih) _ _ lookup hids hsep
  refine inplace_roundtrip (ssServerUnpack c (ssBlock userBlock eih) skey eih.length lookup users now) b q P _
    (sub b ps pl) r a.norm ps pl hst hln hbuf hfit ?_ ?_ hpay rfl hu
  · rw [hPl, List.length_append, List.length_append, hsep, hback, hpay]; omega
  · rw [List.length_append, List.length_append, hsep, hback]; omega

theorem ss_roundtrip_down {c : Crypto} (L : c.Laws) {block aeadKey : Bytes} {pol : Policy} {b : Bytes} {a : AddrPort}
    {ps pl : Nat} {lim : Int} {rand : Nat} {ts ssid spid csid : Bytes} {now : Int} {r : Packed}
    (ha : a.wf) (hts : ts.length = 8) (hssid : ssid.length = 8) (hspid : spid.length = 8) (hcs : csid.length = 8)
    (hnow : tsOk ts now = true)
    (h : ssServerPack c block aeadKey pol b a ps pl lim rand ts ssid spid csid = .ok r) :
    RoundTrip (ssClientUnpack c block aeadKey csid now r.buf r.packetStart.toNat r.packetLen.toNat) b r a.norm ps pl := by
  obtain ⟨q, padding, P, hpad, hP, hst, hln, hbuf, hfit, hPl, hps⟩ := ssServerPack_packet L ha hts hssid hspid hcs h
  have hsep := sep_length hssid hspid
  have hpay : (sub b ps pl).length = pl := sub_length _ _ _ (by omega)
  have hparse := parseServerHeader_put ts csid padding a (sub b ps pl) now hts hcs (by omega) ha hnow
  have hu := ssClientUnpack_window c L block aeadKey csid now _ q P.length (ssid ++ spid) _ _ _ _ _
    ((sub_splice b q P hfit).trans hP) hsep (by rw [hPl, L.seal_len, List.length_append, hpay]; omega)
    (by rw [L.seal_len]; omega) (by rw [splice_length _ _ _ hfit]; exact hfit) (L.open_seal _ _ _) hparse
  rw [hps, hpay, ← List.append_assoc _ _ (sub b ps pl)] at hu
  refine inplace_roundtrip (ssClientUnpack c block aeadKey csid now) b q P
    (ssid ++ spid ++ ssServerHdr a ts csid padding) (sub b ps pl) r a.norm ps pl hst hln hbuf hfit ?_ ?_ hpay rfl hu
  · rw [hPl, List.length_append, hsep, hpay]; omega
  · rw [List.length_append, hsep]; omega

theorem spliced_sep (c : Crypto) (L : c.Laws) (b : Bytes) (q : Nat) (block sep rest : Bytes) (hsep : sep.length = 16)
    (hfit : q + (c.enc block sep ++ rest).length ≤ b.length) :
    c.dec block (sub (splice b q (c.enc block sep ++ rest)) q 16) = sep := by
  have := sub_splice_left b q _ _ hfit
  rw [L.enc_len, hsep] at this
  rw [this, L.dec_enc]

theorem xorBytes_cancel : ∀ (h s : Bytes), h.length ≤ s.length → xorBytes (xorBytes h s) s = h
  | [], _, _ => by simp [xorBytes]
  | _ :: _, [], hl => by simp at hl
  | a :: h, b :: s, hl => by
    have ih := xorBytes_cancel h s (by simpa using hl)
    simp only [xorBytes, List.zipWith_cons_cons] at ih ⊢
    rw [UInt8.xor_assoc, UInt8.xor_self, UInt8.xor_zero, ih]

/-- the server's way to the user: the first identity header decrypts to the first PSK hash -/
theorem ssIds_first {c : Crypto} (L : c.Laws) (k h : Bytes) (t : List (Bytes × Bytes)) {sep : Bytes} (hh : h.length = 16)
    (hsep : sep.length = 16) : xorBytes (c.dec k ((ssIds c ((k, h) :: t) sep).take 16)) sep = h := by
  have hid : ssIds c ((k, h) :: t) sep = c.enc k (xorBytes h sep) ++ ssIds c t sep := rfl
  rw [hid, List.take_left' (by rw [L.enc_len, xorBytes_length, hh, hsep]; rfl), L.dec_enc, xorBytes_cancel h _ (by omega)]

/-- `hinj` is hash-injectivity on the user set; `f` derives the session key from the PSK -/
theorem lookup_user (users : List (Bytes × Bytes)) (f : Bytes → Bytes) (uhash upsk : Bytes)
    (hmem : (uhash, upsk) ∈ users) (hinj : ∀ u ∈ users, u.1 = uhash → u.2 = upsk) :
    ((users.map (fun u => (u.1, f u.2))).find? (fun u => u.1 == uhash)).map (·.2) = some (f upsk) := by
  induction users with
  | nil => cases hmem
  | cons x t ih =>
    simp only [List.map_cons, List.find?_cons]
    by_cases hx : x.1 = uhash
    · have := hinj x (by simp) hx
      simp [hx, this]
    · have hne : (x.1 == uhash) = false := by simpa using hx
      simp only [hne]
      apply ih
      · rcases List.mem_cons.mp hmem with h | h
        · exact absurd (by rw [← h]) hx
        · exact h
      · intro u hmu h; exact hinj u (by simp [hmu]) h

end SSV.Packet

