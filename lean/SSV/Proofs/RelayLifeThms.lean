import SSV.Proofs.RelayLifeInv
/-
C12: the property-level consequences of the invariants, for an arbitrary configuration of the model.
`SSV/Props/C12.lean` instantiates them with the configurations regenerated from the four relay files.
-/
namespace SSV.RelayLife
variable (cfg : Cfg)

/-- neither a send on a closed channel nor a second `close` ever happens -/
theorem no_panic {s : State} (h : Reachable cfg s) : s.panic = false :=
  (inv1_reachable h).noPanic

theorem delete_removes_self {s : State} (h : Reachable cfg s) {i : Nat} (hi : i < s.n) (hp : (s.ent i).ipc = .cDelete) :
    s.table (s.ent i).key = some i :=
  ((inv1_reachable h).inTab i hi).mpr (by rw [hp]; rfl)

theorem deleted_not_in_table {s : State} (h : Reachable cfg s) {i : Nat} (hi : i < s.n) (hp : (s.ent i).ipc.deleted = true) :
    s.table (s.ent i).key ≠ some i := by
  intro ht
  have := ((inv1_reachable h).inTab i hi).mp ht
  rw [hp] at this
  cases this

theorem future_deadline_only_rechecking (hr : cfg.recheck = true) {s : State} (h : Reachable cfg s) (hs : s.spc.afterIter = true)
    {i : Nat} (hi : i < s.n) (hp : (s.ent i).ipc = .dRead) (hd : (s.ent i).dl = .future) :
    (s.ent i).upc = .check ∨ (s.ent i).upc = .force := by
  have G := inv_reachable h
  have hv := G.visitedAll hs i hi ((G.inv1.inTab i hi).mpr (by rw [hp]; rfl))
  have hc : (s.ent i).clean = true := by
    cases hcl : (s.ent i).clean with
    | true => rfl
    | false => have := (einv_reachable h hi).uncleanPos hcl; simp [hp, IPc.idx] at this
  exact (G.pass i hi).2.2 hr hv hc hd

theorem missing_key_creates_fresh {s s' : State} {c : Nat} (hr : s.rpc = .hold c) (ht : s.table c = none)
    (hs : step cfg s (.rProc true) = some s') :
    s'.table c = some s.n ∧ s'.n = s.n + 1 ∧ s'.ent s.n = Entry.fresh c := by
  simp [step, hr, ht] at hs
  subst hs
  simp

theorem socket_released (hc : cfg.closesAll = true) (hu : cfg.uplinkCloses = true) {s : State} (h : Reachable cfg s)
    {i : Nat} (hi : i < s.n) (hf : (s.ent i).finished = true) : (s.ent i).sock = false := by
  have I := einv_reachable h hi
  obtain ⟨hp, hup⟩ := Entry.finished_iff.mp hf
  have h14 := (IPc.idx_done _).mp hp
  rcases hup with hup | hup
  · cases hcl : (s.ent i).clean with
    | true => exact absurd hup (I.uplinkStarted hcl (by omega))
    | false => exact I.sockClosedOnFail hc hcl (by omega)
  · exact I.sockClosedByUplink hu hup

theorem downlink_socket_open {s : State} (h : Reachable cfg s) {i : Nat} (hi : i < s.n)
    (hp : (s.ent i).ipc = .dRead ∨ (s.ent i).ipc = .dProc) : (s.ent i).sock = true := by
  rcases hp with hp | hp <;> exact (einv_reachable h hi).sockOpen (by rw [hp]; simp [IPc.idx]) (by rw [hp]; simp [IPc.idx])

theorem downlink_has_deadline (ha : cfg.initArms = true) {s : State} (h : Reachable cfg s) {i : Nat} (hi : i < s.n)
    (hp : (s.ent i).ipc = .dRead) : (s.ent i).dl ≠ .unset :=
  have h7 := (IPc.idx_dRead _).mp hp
  (einv_reachable h hi).dlArmed ha (by omega) (by omega)

theorem downlink_can_time_out (ha : cfg.initArms = true) {s : State} (h : Reachable cfg s) {i : Nat} (hi : i < s.n)
    (hp : (s.ent i).ipc = .dRead) :
    (step cfg s (.timer i)).isSome = true ∨ (step cfg s (.dTimeout i)).isSome = true := by
  have hd := downlink_has_deadline cfg ha h hi hp
  cases hdl : (s.ent i).dl with
  | unset => exact absurd hdl hd
  | future => left; simp [step, hi, hdl]
  | past => right; simp [step, hi, hp, hdl]

theorem reachable_of_run {es : List Ev} {p : State → Bool} (h : (run cfg State.init es).map p = some true) :
    ∃ s, Reachable cfg s ∧ p s = true := by
  cases hr : run cfg State.init es with
  | none => simp [hr] at h
  | some s => exact ⟨s, reachable_run es .init hr, by simpa [hr] using h⟩

/-- shape of a state in which Stop waits and only the NAT timer (or the environment) can make anything move -/
def stuckOnTimer (s : State) : Prop :=
  s.n = 1 ∧ s.spc = .waitWg ∧ s.rpc = .done ∧ s.mu = .free ∧ (s.ent 0).ipc = .dRead ∧ (s.ent 0).dl = .future ∧
  (s.ent 0).upc = .recv ∧ (s.ent 0).q = 0 ∧ (s.ent 0).chClosed = false

instance (s : State) : Decidable (stuckOnTimer s) := inferInstanceAs (Decidable (_ ∧ _))

theorem stuck_no_internal_move {s : State} (hs : stuckOnTimer s) (e : Ev) (he : e.internal = true) : step cfg s e = none := by
  obtain ⟨h1, h2, h3, h4, h5, h6, h7, h8, h9⟩ := hs
  cases e <;> simp [Ev.internal] at he <;> simp [step, h1, h2, h3, h4]
  case uRecv i k => intro hi _; subst hi; omega
  case stop => simp [allB, Entry.finished, h5]
  all_goals first
    | omega
    | (intro hi; subst hi; simp_all; done)
    | (simp_all; done)

end SSV.RelayLife
