import SSV.Proofs.RouterSections
/-
C09: OR groups (`g.map (meet p q) = vs.map R.ofV` is how a group is related to its kinds), the resolver lookup against
`resolveSpec`, and the address sections of `build` (source OR group, destination OR group with the expected-IP group
nested in the domain criterion).
-/
namespace SSV.Router
open SSV.Router.Spec SSV.Gen

theorem meetOr_map (p : Params) (q : Req) : ∀ (g : List Crit) (vs : List V),
    g.map (meet p q) = vs.map R.ofV → meetOr p q g = R.ofV (anyV vs) := by
  intro g
  induction g with
  | nil => intro vs h; cases vs with
    | nil => rfl
    | cons v vs => simp at h
  | cons c g ih =>
    intro vs h
    cases vs with
    | nil => simp at h
    | cons v vs =>
      simp only [List.map_cons, List.cons.injEq] at h
      simp only [meetOr, anyV, R.ofV_or, h.1, ih vs h.2]

theorem groupAppend_eq (g : List Crit) (h : g ≠ []) : groupAppend g = [groupCriterion g] := by
  match g, h with
  | [_], _ => rfl
  | _ :: _ :: _, _ => rfl

theorem meet_groupCriterion_eq (p : Params) (q : Req) (g : List Crit) (h : g ≠ []) :
    meet p q (groupCriterion g) = meetOr p q g := by
  fun_cases groupCriterion g
  · exact absurd rfl h
  · simp only [meetOr, R.orElse_no]
  · simp only [meet]

theorem meet_groupCriterion (p : Params) (q : Req) (g : List Crit) (vs : List V) (hne : vs ≠ [])
    (h : g.map (meet p q) = vs.map R.ofV) : meet p q (groupCriterion g) = R.ofV (orKinds vs) := by
  have hg : g ≠ [] := fun e => hne (List.map_eq_nil_iff.mp (by rw [← h, e]; rfl))
  rw [meet_groupCriterion_eq p q g hg, meetOr_map p q g vs h]
  cases vs with
  | nil => exact absurd rfl hne
  | cons _ _ => rfl

theorem meetAll_groupAppend (p : Params) (q : Req) (g : List Crit) (vs : List V)
    (h : g.map (meet p q) = vs.map R.ofV) : meetAll p q (groupAppend g) = R.ofV (orKinds vs) := by
  cases vs with
  | nil => rw [List.map_eq_nil_iff.mp h]; rfl
  | cons v vs =>
    have hg : g ≠ [] := fun e => by rw [e] at h; cases h
    rw [groupAppend_eq g hg, meetAll_single, meet_groupCriterion p q g _ (List.cons_ne_nil _ _) h]

theorem lookup_eq_find (p : Params) (d : String) : ∀ rs : List String,
    lookup p d rs =
      (match rs.find? (fun r => !isLookupFailure (p.resolve r d)) with
       | none => .error .noAvailableResolvers
       | some r =>
         match p.resolve r d with
         | .addr a => .ok a
         | .fail t => .error (.resolver t)
         | .errLookup => .error .noAvailableResolvers) := by
  intro rs
  induction rs with
  | nil => rfl
  | cons r rs ih =>
    simp only [lookup, List.find?_cons]
    cases h : p.resolve r d with
    | errLookup => simp [ih, isLookupFailure]
    | addr _ | fail _ => simp [h, isLookupFailure]

theorem lookup_spec (p : Params) (env : Env) (rc : RouteConfig) (d : String) (rs : List String)
    (h : resolversFor env rc = .ok rs) : lookup p d rs = resolveSpec p env rc d := by
  rw [lookup_eq_find, resolveSpec]
  revert h
  fun_cases resolversFor env rc
  · rename_i e
    rintro ⟨⟩
    rw [if_pos e]
    rfl
  · rename_i e _
    rintro ⟨⟩
    rw [if_neg e]
    rfl
  · nofun

theorem resolversFor_named (env : Env) (rc : RouteConfig) (hne : rc.resolver ≠ "") :
    resolversFor env rc = .ok [rc.resolver] ↔ rc.resolver ∈ env.resolverMap := by
  rw [resolversFor, if_neg hne, ← List.contains_iff_mem]
  split
  · exact iff_of_true rfl ‹_›
  · exact iff_of_false nofun ‹_›

theorem geoMatch_eq (p : Params) (cs : List String) (a : IP) : geoMatch p cs a = R.ofV (inCountries p cs a) := by
  unfold geoMatch inCountries
  cases p.country a with
  | none => rfl
  | some c => exact (R.ofV_ofBool _).symm

theorem pfx_contains_eq (p : Params) (lits : List Prefix) (sets : List String) (a : IP) :
    PfxSet.contains p ⟨lits, sets⟩ a.unmap = inPrefixes p lits sets a := rfl

theorem mkPfxSet_loads (env : Env) (lits : List Prefix) (sets : List String) :
    Loads (mkPfxSet env lits sets) fun s => s = ⟨lits, sets⟩ := by
  fun_cases mkPfxSet env lits sets
  · exact .pure rfl
  · exact .fail nofun

theorem wrap_map (p : Params) (q : Req) (i : Bool) (c : Crit) (v : V) (h : meet p q c = R.ofV v) :
    [wrap i c].map (meet p q) = [v.inv i].map R.ofV := by
  simp only [List.map_cons, List.map_nil, meet_wrap, h, R.inv_ofV]

theorem pfxPart_loads (env : Env) (lits : List Prefix) (sets : List String) (i : Bool) (mk : PfxSet → Crit) :
    Loads (if lits.isEmpty && sets.isEmpty then .ok []
           else match mkPfxSet env lits sets with
             | .error e => .error e
             | .ok s => .ok [wrap i (mk s)] : Except BuildErr (List Crit))
      fun g => ∀ p q v, meet p q (mk ⟨lits, sets⟩) = R.ofV v →
        g.map (meet p q) = (if lits.isEmpty && sets.isEmpty then [] else [v.inv i]).map R.ofV := by
  split
  · exact .pure fun p q v _ => rfl
  · split
    · exact (mkPfxSet_loads env lits sets).error ‹_›
    · rename_i s hs
      refine .pure fun p q v hmk => ?_
      rw [(mkPfxSet_loads env lits sets).ok hs]
      exact wrap_map p q i _ v hmk

theorem secFromAddr_loads (env : Env) (rc : RouteConfig) :
    Loads (secFromAddr env rc) fun cs => ∀ p q, meetAll p q cs = R.ofV (cFromAddr p rc q) := by
  have h1 := pfxPart_loads env rc.fromPrefixes rc.fromPrefixSets rc.invertFromPrefixes .srcIP
  fun_cases secFromAddr env rc
  · rename_i e
    obtain ⟨e1, e2⟩ := Bool.and_eq_true_iff.mp e
    refine .pure fun p q => ?_
    rw [cFromAddr, kFromPrefixes, kFromGeo, if_pos e1, if_pos e2]
    rfl
  · exact h1.error ‹_›
  · rename_i g1 hg1 g2
    refine .pure fun p q => ?_
    unfold cFromAddr
    apply meetAll_groupAppend
    rw [List.map_append, List.map_append]
    congr 1
    · exact h1.ok hg1 p q _ (by simp only [meet, pfx_contains_eq, R.ofV_ofBool])
    · unfold kFromGeo g2
      split
      · rfl
      · apply wrap_map
        simp only [meet, geoMatch_eq]

/-- an IP criterion on a resolved destination (`DestResolvedIPCriterion` / `DestResolvedGeoIPCountryCriterion`
on a domain target) is the documented "through the resolver" condition -/
theorem resolved_eq (p : Params) (env : Env) (rc : RouteConfig) (d : String) (rs : List String)
    (hr : resolversFor env rc = .ok rs) (k : IP → V) (f : IP → R) (hf : ∀ a, f a = R.ofV (k a)) :
    (match lookup p d rs with
     | .error e => R.fail e
     | .ok a => f a) = R.ofV (resolvedV p env rc d k) := by
  rw [lookup_spec p env rc d rs hr]
  unfold resolvedV
  cases resolveSpec p env rc d with
  | error e => rfl
  | ok a => exact hf a

theorem meet_resolvedIP_domain (p : Params) (q : Req) (env : Env) (rc : RouteConfig) (rs : List String)
    (d : String) (hd : q.target = .domain d) (hr : resolversFor env rc = .ok rs)
    (lits : List Prefix) (sets : List String) :
    meet p q (.dstResolvedIP ⟨lits, sets⟩ rs) =
      R.ofV (resolvedV p env rc d (fun a => V.ofBool (inPrefixes p lits sets a))) := by
  simp only [meet, hd]
  exact resolved_eq p env rc d rs hr _ _ (fun a => by simp only [pfx_contains_eq, R.ofV_ofBool])

theorem meet_resolvedGeo_domain (p : Params) (q : Req) (env : Env) (rc : RouteConfig) (rs : List String)
    (d : String) (hd : q.target = .domain d) (hr : resolversFor env rc = .ok rs) (cs : List String) :
    meet p q (.dstResolvedGeo cs rs) = R.ofV (resolvedV p env rc d (fun a => inCountries p cs a)) := by
  simp only [meet, hd]
  exact resolved_eq p env rc d rs hr _ _ (fun a => geoMatch_eq p _ a)

theorem secExpected_loads (env : Env) (rc : RouteConfig) (rs : List String) :
    Loads (secExpected env rc rs) fun g => resolversFor env rc = .ok rs → ∀ p q d, q.target = .domain d →
      g.map (meet p q) = (expectedKinds p env rc d).map R.ofV := by
  have h1 := pfxPart_loads env rc.toMatchedDomainExpectedPrefixes rc.toMatchedDomainExpectedPrefixSets
    rc.invertToMatchedDomainExpectedPrefixes (.dstResolvedIP · rs)
  fun_cases secExpected env rc rs
  · exact h1.error ‹_›
  · rename_i g1 hg1 g2
    refine .pure fun hr p q d hd => ?_
    unfold expectedKinds g2
    rw [List.map_append, List.map_append]
    congr 1
    · exact h1.ok hg1 p q _ (meet_resolvedIP_domain p q env rc rs d hd hr _ _)
    · split
      · rfl
      · apply wrap_map
        exact meet_resolvedGeo_domain p q env rc rs d hd hr _

theorem expectedKinds_eq_nil (p : Params) (env : Env) (rc : RouteConfig) (d : String) :
    expectedKinds p env rc d = [] ↔ hasExpected rc = false := by
  unfold expectedKinds hasExpected
  simp [List.append_eq_nil_iff]

theorem DomSets.matches_mk (p : Params) (exact sets : List String) (d : String) :
    DomSets.matches p ⟨exact, sets⟩ d = (exact.contains d || sets.any fun n => p.domSet n d) := rfl

theorem meet_domainHolds (p : Params) (q : Req) (env : Env) (rc : RouteConfig) (c : Crit) (x : String → R)
    (hip : ∀ a, q.target = .ip a → meet p q c = .no)
    (hdom : ∀ d, q.target = .domain d →
      meet p q c = if DomSets.matches p ⟨rc.toDomains, rc.toDomainSets⟩ d then x d else .no)
    (hx : ∀ d, q.target = .domain d → x d = R.ofV (orKinds (expectedKinds p env rc d))) :
    meet p q c = R.ofV (domainHolds p env rc q) := by
  unfold domainHolds
  cases hd : q.target with
  | ip a => rw [hip a hd]; rfl
  | domain d =>
    rw [hdom d hd, DomSets.matches_mk]
    dsimp only
    split
    · exact hx d hd
    · rfl

theorem secToDomain_loads (env : Env) (rc : RouteConfig) (rs : List String) :
    Loads (secToDomain env rc rs) fun g => resolversFor env rc = .ok rs →
      ∀ p q, g.map (meet p q) = (kToDomains p env rc q).map R.ofV := by
  fun_cases secToDomain env rc rs
  · rename_i e; exact .pure fun _ p q => by simp [kToDomains, e]
  · exact .fail nofun
  · exact (secExpected_loads env rc rs).error ‹_›
  · rename_i e _ ds hexp gexp hgexp -- with expected-IP conditions
    refine .pure fun hr p q => ?_
    rw [kToDomains, if_neg e]
    refine wrap_map _ _ _ _ _ (meet_domainHolds p q env rc _ (fun _ => meet p q (groupCriterion gexp))
      (fun a hd => by simp only [meet, hd]) (fun d hd => by simp only [meet, hd, ds]) fun d hd => ?_)
    exact meet_groupCriterion p q gexp _ (fun e => by rw [(expectedKinds_eq_nil p env rc d).mp e] at hexp; cases hexp)
      ((secExpected_loads env rc rs).ok hgexp hr p q d hd)
  · rename_i e _ ds hexp -- without
    refine .pure fun _ p q => ?_
    rw [kToDomains, if_neg e]
    refine wrap_map _ _ _ _ _ (meet_domainHolds p q env rc _ (fun _ => .yes)
      (fun a hd => by simp only [meet, hd]) (fun d hd => by simp only [meet, hd]; rfl) fun d _ => ?_)
    rw [(expectedKinds_eq_nil p env rc d).mpr (by simpa using hexp)]
    rfl

theorem meet_destIPCond (p : Params) (q : Req) (env : Env) (rc : RouteConfig) (c : Crit) (k : IP → V)
    (hip : ∀ a, q.target = .ip a → meet p q c = R.ofV (k a))
    (hdom : ∀ d, q.target = .domain d →
      meet p q c = R.ofV (if rc.disableNameResolutionForIPRules then .f else resolvedV p env rc d k)) :
    meet p q c = R.ofV (destIPCond p env rc q k) := by
  unfold destIPCond
  cases hd : q.target with
  | ip a => exact hip a hd
  | domain d => exact hdom d hd

theorem secToPrefix_loads (env : Env) (rc : RouteConfig) (rs : List String) :
    Loads (secToPrefix env rc rs) fun g => resolversFor env rc = .ok rs →
      ∀ p q, g.map (meet p q) = (kToPrefixes p env rc q).map R.ofV := by
  fun_cases secToPrefix env rc rs
  · rename_i e; exact .pure fun _ p q => by simp [kToPrefixes, e]
  · exact (mkPfxSet_loads env _ _).error ‹_›
  -- an IP target is treated alike with and without name resolution
  all_goals
    rename_i e s hs hdis
    refine .pure fun hr p q => ?_
    rw [kToPrefixes, if_neg e, (mkPfxSet_loads env _ _).ok hs]
    refine wrap_map _ _ _ _ _ (meet_destIPCond p q env rc _ _
      (fun a hd => by simp only [meet, hd, pfx_contains_eq, R.ofV_ofBool]) fun d hd => ?_)
  · simp only [meet, hd, hdis, if_true]; rfl
  · rw [if_neg hdis]; exact meet_resolvedIP_domain p q env rc rs d hd hr _ _

theorem secToGeo_map (p : Params) (q : Req) (env : Env) (rc : RouteConfig) (rs : List String)
    (hr : resolversFor env rc = .ok rs) :
    (secToGeo rc rs).map (meet p q) = (kToGeo p env rc q).map R.ofV := by
  unfold kToGeo
  fun_cases secToGeo rc rs
  · rename_i e; rw [if_pos e]; rfl
  all_goals
    rename_i e hdis
    rw [if_neg e]
    refine wrap_map _ _ _ _ _ (meet_destIPCond p q env rc _ _
      (fun a hd => by simp only [meet, hd, geoMatch_eq]) fun d hd => ?_)
  · simp only [meet, hd, hdis, if_true]; rfl
  · rw [if_neg hdis]; exact meet_resolvedGeo_domain p q env rc rs d hd hr _

theorem secToAddr_loads (env : Env) (rc : RouteConfig) (rs : List String) :
    Loads (secToAddr env rc rs) fun cs => resolversFor env rc = .ok rs →
      ∀ p q, meetAll p q cs = R.ofV (cToAddr p env rc q) := by
  fun_cases secToAddr env rc rs
  · exact (secToDomain_loads env rc rs).error ‹_›
  · exact (secToPrefix_loads env rc rs).error ‹_›
  · rename_i g1 h1 g2 h2
    refine .pure fun hr p q => ?_
    unfold cToAddr
    apply meetAll_groupAppend
    rw [List.map_append, List.map_append, List.map_append, List.map_append,
      (secToDomain_loads env rc rs).ok h1 hr, (secToPrefix_loads env rc rs).ok h2 hr, secToGeo_map p q env rc rs hr]

end SSV.Router
