import SSV.Proofs.StreamReader
/-
The conn with its sticky read error (`SReader`, `readErr`) and read deadlines of the transport: on
schedules where nothing fails it is the plain reader; on schedules that continue after an error every
later call fails. The regenerated fact `readErrorsSticky` enters where `readErrors_sticky` is cited;
`srun_eq_run` holds without it.

The same for the client conn (`CReader.stepT`): a conn with an error recorded refuses every call
(`client_failed`), and a failed first `Read` is recorded unless it consumed nothing of the response and
left no read cipher, so that the next call is a first call again (`client_first_failure`).
-/
namespace SSV.Stream
open SSV.Gen.C01

theorem SReader.step_plain (C : Crypto) (s : SReader) (op : ROp) (herr : s.err = none)
    (h : s.later = [] ∨ (s.r.step C op).1.hitEnd = false) :
    s.step C op = ((s.r.step C op).1, ⟨(s.r.step C op).2, (s.r.step C op).1.hardErr, s.later⟩) := by
  rcases h with h | h
  · simp [SReader.step, readErrors_sticky, herr, h]
  · cases hl : s.later <;> simp [SReader.step, readErrors_sticky, herr, hl, h]

/-- the sticky error is set iff bytes of an unfinished chunk were consumed: part of a chunk
(`io.ErrUnexpectedEOF`), or a whole length chunk without its payload (nonce parity) -/
theorem SReader.step_deadline (C : Crypto) (s : SReader) (op : ROp) (nx : Bytes) (rest : List Bytes)
    (herr : s.err = none) (hl : s.later = nx :: rest) (hend : (s.r.step C op).1.hitEnd = true) :
    s.step C op = ((s.r.step C op).1.asTimeout,
      ⟨{ (s.r.step C op).2 with wire := (s.r.step C op).2.wire ++ nx },
        if (s.r.step C op).1.err = some .unexpectedEOF ∨ (s.r.step C op).2.nonce % 2 ≠ s.r.nonce % 2
          then some .timeout else none, rest⟩) := by
  simp [SReader.step, readErrors_sticky, boundary_retryable, herr, hl, hend]

theorem SReader.run_cons_fresh (C : Crypto) (r : Reader) (op : ROp) (ops : List ROp) :
    SReader.run C ⟨r, none, []⟩ (op :: ops) = (r.step C op).1 ::
      SReader.run C ⟨(r.step C op).2, if readErrorsSticky then (r.step C op).1.hardErr else none, []⟩ ops := by
  simp [SReader.run, SReader.step]

theorem srun_eq_run (C : Crypto) (ops : List ROp) : ∀ r : Reader,
    (Reader.run C r ops).length = ops.length → SReader.run C ⟨r, none, []⟩ ops = Reader.run C r ops := by
  induction ops with
  | nil => intro r _; rfl
  | cons op ops ih =>
    intro r hlen
    rw [Reader.run_cons] at hlen ⊢
    rw [SReader.run_cons_fresh]
    split at hlen
    · rename_i h
      rw [h, ite_self, ih _ (by simpa using hlen), if_pos rfl]
    · obtain rfl : ops = [] := by simpa using hlen
      simp [SReader.run, Reader.run]

theorem failedOut_bytes (op : ROp) (e : Err) : (failedOut op e).bytes = [] := by
  cases op <;> rfl

theorem failed_run (C : Crypto) (r : Reader) (e : Err) (later : List Bytes) (ops : List ROp) :
    SReader.run C ⟨r, some e, later⟩ ops = ops.map (fun op => failedOut op e) := by
  induction ops with
  | nil => rfl
  | cons op ops ih =>
    simp only [SReader.run, SReader.step, readErrors_sticky, ↓reduceIte, List.map_cons]
    rw [ih]

theorem srun_bytes (C : Crypto) (ops : List ROp) : ∀ r : Reader,
    ((SReader.run C ⟨r, none, []⟩ ops).map ROut.bytes).flatten = ((Reader.run C r ops).map ROut.bytes).flatten := by
  induction ops with
  | nil => intro r; rfl
  | cons op ops ih =>
    intro r
    rw [SReader.run_cons_fresh, Reader.run_cons, readErrors_sticky, if_pos rfl]
    cases (r.step C op).1.hardErr with
    | none => simp [ih]
    | some e => simp [failed_run, failedOut_bytes]

theorem client_failed (C : Crypto) (c : CReader) (e : Err) (he : c.err = some e) (now : Int) :
    (∀ n, c.readS C now n = (.fail e, c)) ∧ c.writeToS C now = (.copied [] (some e), c) ∧
    (∀ st, c.tunnelS C now st = (.copied [] (some e), c)) := by
  refine ⟨fun n => ?_, ?_, fun st => ?_⟩ <;>
    simp [CReader.readS, CReader.writeToS, CReader.tunnelS, CReader.stepT, readErrors_sticky, he, failedOut]

theorem sstep_err_of_none (C : Crypto) (r : Reader) (op : ROp) :
    (SReader.step C { r := r } op).2.err = (SReader.step C { r := r } op).1.hardErr ∧
    (SReader.step C { r := r } op).1 = (r.step C op).1 := by
  simp [SReader.step, readErrors_sticky]

theorem prepend_hardErr (p : Bytes) (o : ROut) (h : ∃ ps e, o = .copied ps e) : (o.prepend p).hardErr = o.hardErr := by
  obtain ⟨ps, e, rfl⟩ := h; rfl

theorem initRead_err (C : Crypto) (c : CReader) (now : Int) : (initRead C c now).2.err = c.err := by
  fun_cases initRead C c now <;> rfl

theorem firstPayload_err (C : Crypto) (c : CReader) (len : Nat) : (firstPayload C c len).2.err = c.err := by
  rw [firstPayload_eq]
  cases c.r <;> rfl

theorem CReader.read_err (C : Crypto) (c : CReader) (now : Int) (n : Nat) : (c.read C now n).2.err = c.err := by
  have h1 := initRead_err C c now
  fun_cases CReader.read C c now n
  case case1 => rfl
  case case2 hi => rw [hi] at h1; exact h1
  case case3 len c' hi _ _ hp | case4 len c' hi _ _ hp _ | case5 len c' hi _ _ hp _ =>
    have h2 := firstPayload_err C c' len
    rw [hi] at h1
    rw [hp] at h2
    exact h2.trans h1

theorem client_first_failure (C : Crypto) (c : CReader) (now : Int) (n : Nat) (e : Err)
    (hr : c.r = none) (he : c.err = none) (ht : c.touts = [])
    (hh : (c.readS C now n).1.hardErr = some e) :
    (c.readS C now n).2.err = some e ∨
    ((c.readS C now n).2.r = none ∧ (c.readS C now n).2.err = none ∧
      ¬ ((c.readS C now n).2.segs.flatten.length < c.segs.flatten.length)) := by
  have herr := CReader.read_err C c now n
  -- `stepT` is unfolded once, in an equation for the call; `hh` and the goal read its result
  generalize hx : c.readS C now n = x at hh ⊢
  unfold CReader.readS CReader.stepT at hx
  simp only [readErrors_sticky, boundary_retryable, he, hr, ht, ↓reduceIte, Bool.true_and] at hx
  cases hrd : c.read C now n with
  | mk o c' =>
    rw [hrd] at herr
    simp only [hrd] at hx
    cases hcr : c'.r with
    | some r' =>
      simp only [hcr] at hx
      subst hx
      left
      simpa using hh
    | none =>
      simp only [hcr, Option.isSome_none, Bool.false_or, decide_eq_true_eq] at hx
      subst hx
      by_cases hcons : c'.segs.flatten.length < c.segs.flatten.length
      · left; rw [if_pos hcons] at hh ⊢; exact hh
      · right; rw [if_neg hcons]; exact ⟨hcr, by rw [herr, he], hcons⟩

end SSV.Stream
