import SSV.Model.Packet
/- For C05: guards and `safe` on the packet model's own `Outcome`, the byte-window algebra (`sub`/`splice`) up to the frame
and the round trip of an in-place codec, the SOCKS address codec round trip, the toy cryptography's laws. -/
namespace SSV.Packet
open SSV SSV.Gen.C05

theorem ite_panic_eq_ok {α : Type} (p : Prop) [Decidable p] (y : Outcome α) (r : α) :
    ((if p then Outcome.panic else y) = .ok r) ↔ (¬ p ∧ y = .ok r) := by
  by_cases h : p <;> simp [h]
theorem ite_noRoom_eq_ok {α : Type} (p : Prop) [Decidable p] (y : Outcome α) (r : α) :
    ((if p then Outcome.noRoom else y) = .ok r) ↔ (¬ p ∧ y = .ok r) := by
  by_cases h : p <;> simp [h]
theorem ite_err_eq_ok {α : Type} (p : Prop) [Decidable p] (e : Err) (y : Outcome α) (r : α) :
    ((if p then Outcome.err e else y) = .ok r) ↔ (¬ p ∧ y = .ok r) := by
  by_cases h : p <;> simp [h]

namespace Outcome
theorem safe_ok {α : Type} (a : α) : (ok a).safe := ⟨nofun, nofun⟩
theorem safe_err {α : Type} (e : Err) : (err e : Outcome α).safe := ⟨nofun, nofun⟩
theorem safe_ite {α : Type} {p : Prop} [Decidable p] {a b : Outcome α} (ha : a.safe) (hb : ¬ p → b.safe) :
    (if p then a else b).safe := by
  split
  · exact ha
  · next h => exact hb h
theorem safe_guard {α : Type} {p : Prop} [Decidable p] {b : Outcome α} (hp : p) (hb : b.safe) :
    (if ¬ p then panic else b).safe := by
  rwa [if_neg (not_not_intro hp)]
/-- The motive is read off the goal once the outcome is a variable: `generalize` it first. -/
@[elab_as_elim] theorem safe.elim {α : Type} {x : Outcome α} (hx : x.safe) {p : Outcome α → Prop} (hok : ∀ a, p (ok a)) (herr : ∀ e, p (err e)) :
    p x := by
  cases x with
  | ok a => exact hok a
  | err e => exact herr e
  | panic => exact absurd rfl hx.1
  | noRoom => exact absurd rfl hx.2
theorem safe_bind {α β : Type} {x : Outcome α} {f : α → Outcome β} (hx : x.safe) (hf : ∀ a, x = ok a → (f a).safe) :
    (x.bind f).safe := by
  cases x with
  | ok a => exact hf a rfl
  | err e => exact safe_err e
  | panic => exact absurd rfl hx.1
  | noRoom => exact absurd rfl hx.2
theorem bind_eq_ok {α β : Type} {x : Outcome α} {f : α → Outcome β} {r : β} (h : x.bind f = ok r) :
    ∃ a, x = ok a ∧ f a = ok r := by
  cases x with
  | ok a => exact ⟨a, rfl, h⟩
  | _ => cases h
end Outcome

theorem sub_length (b : Bytes) (lo n : Nat) (h : lo + n ≤ b.length) : (sub b lo n).length = n := by
  unfold sub; simp; omega

theorem sub_cons_succ (x : UInt8) (l : Bytes) (n m : Nat) : sub (x :: l) (n+1) m = sub l n m := by simp [sub]
theorem sub_left (a r : Bytes) (m : Nat) (h : a.length = m) : sub (a ++ r) 0 m = a := by subst h; simp [sub]
theorem sub_right (a r : Bytes) (n m k : Nat) (h : a.length + k = n) : sub (a ++ r) n m = sub r k m := by
  subst h; simp [sub]
theorem sub_whole (x : Bytes) (m : Nat) (h : x.length = m) : sub x 0 m = x := by subst h; simp [sub]
theorem sub_append_mid (x y z : Bytes) (n m : Nat) (hn : x.length = n) (hm : y.length = m) : sub (x ++ (y ++ z)) n m = y := by
  rw [sub_right x _ n m 0 hn, sub_left y z m hm]

theorem sub_of_sub (bb : Bytes) (q n off m : Nat) (h : off + m ≤ n) :
    sub bb (q + off) m = sub (sub bb q n) off m := by
  unfold sub
  rw [List.drop_take, List.take_take, List.drop_drop]
  congr 1
  omega

theorem splice_length (b : Bytes) (lo : Nat) (d : Bytes) (h : lo + d.length ≤ b.length) :
    (splice b lo d).length = b.length := by
  unfold splice; simp; omega

theorem splice_take (b : Bytes) (lo : Nat) (d : Bytes) (h : lo + d.length ≤ b.length) :
    (splice b lo d).take lo = b.take lo := by
  unfold splice
  have h1 : (b.take lo).length = lo := by simp; omega
  simp [h1]

theorem splice_drop_ge (b : Bytes) (lo : Nat) (d : Bytes) (off : Nat) (h : lo + d.length ≤ b.length)
    (hoff : lo + d.length ≤ off) : (splice b lo d).drop off = b.drop off := by
  obtain ⟨k, rfl⟩ : ∃ k, off = (lo + d.length) + k := ⟨off - (lo + d.length), by omega⟩
  unfold splice
  have h1 : (b.take lo ++ d).length = lo + d.length := by simp; omega
  rw [← List.drop_drop, ← h1, List.drop_left, h1, List.drop_drop]

theorem sub_splice (b : Bytes) (lo : Nat) (d : Bytes) (h : lo + d.length ≤ b.length) :
    sub (splice b lo d) lo d.length = d := by
  unfold sub splice
  have h1 : (b.take lo).length = lo := by simp; omega
  simp [h1]

theorem sub_splice_inner (b : Bytes) (lo : Nat) (d : Bytes) (off n : Nat) (h : lo + d.length ≤ b.length)
    (hin : off + n ≤ d.length) : sub (splice b lo d) (lo + off) n = sub d off n := by
  rw [sub_of_sub _ lo d.length off n hin, sub_splice b lo d h]

theorem sub_splice_left (b : Bytes) (lo : Nat) (x y : Bytes) (h : lo + (x ++ y).length ≤ b.length) :
    sub (splice b lo (x ++ y)) lo x.length = x := by
  have := sub_splice_inner b lo (x ++ y) 0 x.length h (by simp)
  rwa [Nat.add_zero, sub_left _ _ _ rfl] at this

theorem sub_splice_after (b : Bytes) (lo : Nat) (d : Bytes) (off n : Nat) (h : lo + d.length ≤ b.length)
    (hoff : lo + d.length ≤ off) : sub (splice b lo d) off n = sub b off n := by
  unfold sub
  rw [splice_drop_ge b lo d off h hoff]

theorem sub_add (x : Bytes) (lo m n : Nat) : sub x lo (m + n) = sub x lo m ++ sub x (lo + m) n := by
  unfold sub
  rw [List.take_add, List.drop_drop]

theorem sub_splice_ext (b : Bytes) (lo : Nat) (d : Bytes) (n : Nat) (h : lo + d.length + n ≤ b.length) :
    sub (splice b lo d) lo (d.length + n) = d ++ sub b (lo + d.length) n := by
  rw [sub_add, sub_splice b lo d (by omega), sub_splice_after b lo d _ n (by omega) (Nat.le_refl _)]

/-- The in-place unpackers rewrite the head of their window `[q, q+n)` with `front ++ payload`. -/
theorem splice_window (bb : Bytes) (q n : Nat) (front payload : Bytes) (hfit : q + n ≤ bb.length)
    (hle : front.length + payload.length ≤ n) :
    sub (splice bb q (front ++ payload)) (q + front.length) payload.length = payload ∧
    (splice bb q (front ++ payload)).length = bb.length ∧
    (splice bb q (front ++ payload)).take q = bb.take q ∧
    (splice bb q (front ++ payload)).drop (q + n) = bb.drop (q + n) := by
  have hD : q + (front ++ payload).length ≤ bb.length := by rw [List.length_append]; omega
  refine ⟨?_, splice_length _ _ _ hD, splice_take _ _ _ hD,
    splice_drop_ge _ _ _ _ hD (by rw [List.length_append]; omega)⟩
  rw [sub_splice_inner _ _ _ _ _ hD (by rw [List.length_append]; omega), sub_right front payload _ _ 0 (Nat.add_zero _),
    sub_whole _ _ rfl]

theorem packed_frame (b : Bytes) (q n : Nat) (P : Bytes) (r : Packed) (hst : r.packetStart = q) (hln : r.packetLen = n)
    (hbuf : r.buf = splice b q P) (hP : P.length ≤ n) (hfit : q + P.length ≤ b.length) :
    r.buf.length = b.length ∧ r.buf.take r.packetStart.toNat = b.take r.packetStart.toNat ∧
    r.buf.drop (r.packetStart + r.packetLen).toNat = b.drop (r.packetStart + r.packetLen).toNat := by
  rw [hst, hln, hbuf, ← Int.natCast_add, Int.toNat_natCast, Int.toNat_natCast]
  exact ⟨splice_length _ _ _ hfit, splice_take _ _ _ hfit, splice_drop_ge _ _ _ _ hfit (by omega)⟩

/-- What a round trip says of the unpack result `o` on the packet `r` packed from `b`: address, payload window and
payload bytes come back, the buffer keeps its length, nothing outside the packet is touched. -/
def RoundTrip {α : Type} (o : Outcome (Unpacked α)) (b : Bytes) (r : Packed) (x : α) (ps pl : Nat) : Prop :=
  ∃ u, o = .ok u ∧ u.addr = x ∧ u.payloadStart = ps ∧ u.payloadLen = pl ∧ sub u.buf ps pl = sub b ps pl ∧
    u.buf.length = b.length ∧ u.buf.take r.packetStart.toNat = r.buf.take r.packetStart.toNat ∧
    u.buf.drop (r.packetStart + r.packetLen).toNat = r.buf.drop (r.packetStart + r.packetLen).toNat

theorem inplace_roundtrip {α : Type} (un : Bytes → Nat → Nat → Outcome (Unpacked α)) (b : Bytes) (q : Nat)
    (P front payload : Bytes) (r : Packed) (x : α) (ps pl : Nat)
    (hst : r.packetStart = q) (hln : r.packetLen = P.length) (hbuf : r.buf = splice b q P) (hfit : q + P.length ≤ b.length)
    (hle : front.length + payload.length ≤ P.length) (hps : q + front.length = ps) (hpl : payload.length = pl)
    (hpay : payload = sub b ps pl)
    (hun : un (splice b q P) q P.length = .ok ⟨splice (splice b q P) q (front ++ payload), x, ps, pl⟩) :
    RoundTrip (un r.buf r.packetStart.toNat r.packetLen.toNat) b r x ps pl := by
  have hL := splice_length b q P hfit
  obtain ⟨w1, w2, w3, w4⟩ := splice_window (splice b q P) q P.length front payload (by omega) hle
  rw [RoundTrip, hst, hln, hbuf, ← Int.natCast_add, Int.toNat_natCast, Int.toNat_natCast, Int.toNat_natCast]
  rw [hps, hpl] at w1
  exact ⟨_, hun, rfl, rfl, rfl, w1.trans hpay, w2.trans hL, w3, w4⟩

theorem RoundTrip.delivered {α : Type} {o : Outcome (Unpacked α)} {b : Bytes} {r : Packed} {x : α} {ps : Nat}
    {payload : Bytes} (hfit : ps + payload.length ≤ b.length)
    (h : RoundTrip o (splice b ps payload) r x ps payload.length) :
    ∃ u, o = .ok u ∧ u.buf.length = b.length ∧
      (u.addr, sub u.buf u.payloadStart.toNat u.payloadLen.toNat) = (x, payload) := by
  obtain ⟨u, hu, ha, hps, hpl, hpay, hlen, -, -⟩ := h
  refine ⟨u, hu, hlen.trans (splice_length _ _ _ hfit), ?_⟩
  rw [ha, hps, hpl, Int.toNat_natCast, Int.toNat_natCast, hpay, sub_splice _ _ _ hfit]

theorem unbe_be16 (n : Nat) (h : n < 65536) : unbe (be16 n) = n := by
  unfold unbe be16
  simp
  omega

theorem be16_length (n : Nat) : (be16 n).length = 2 := rfl

theorem as4_length (ip : IP) (h : ip.wf) : ip.as4.length = 4 := by
  cases ip with
  | v4 a => simpa [IP.as4, IP.wf] using h
  | v6 a => simp [IP.wf] at h; simp [IP.as4, h]

/-- decoding what `WriteAddrFromAddrPort` wrote (followed by anything) -/
theorem decodeAddrPort_v4 (t4 : Bytes) (port : Nat) (rest : Bytes) (h4 : t4.length = 4) (hport : port < 65536) :
    decodeAddrPort (UInt8.ofNat AtypIPv4 :: (t4 ++ (be16 port ++ rest))) = .ok (⟨.v4 t4, port⟩, 7) := by
  have e1 : sub (UInt8.ofNat AtypIPv4 :: (t4 ++ (be16 port ++ rest))) 1 4 = t4 := by
    rw [sub_cons_succ, sub_left _ _ _ h4]
  have e2 : sub (UInt8.ofNat AtypIPv4 :: (t4 ++ (be16 port ++ rest))) 5 2 = be16 port := by
    rw [sub_cons_succ, sub_append_mid t4 _ rest 4 2 h4 rfl]
  simp only [decodeAddrPort, e1, e2, unbe_be16 _ hport, List.length_cons, List.length_append, h4, be16_length]
  rw [if_neg (by omega), if_pos (by decide)]

theorem decodeAddrPort_v6 (t16 : Bytes) (port : Nat) (rest : Bytes) (h16 : t16.length = 16) (hport : port < 65536) :
    decodeAddrPort (UInt8.ofNat AtypIPv6 :: (t16 ++ (be16 port ++ rest))) = .ok (⟨.v6 t16, port⟩, 19) := by
  have e1 : sub (UInt8.ofNat AtypIPv6 :: (t16 ++ (be16 port ++ rest))) 1 16 = t16 := by
    rw [sub_cons_succ, sub_left _ _ _ h16]
  have e2 : sub (UInt8.ofNat AtypIPv6 :: (t16 ++ (be16 port ++ rest))) 17 2 = be16 port := by
    rw [sub_cons_succ, sub_append_mid t16 _ rest 16 2 h16 rfl]
  simp only [decodeAddrPort, e1, e2, unbe_be16 _ hport, List.length_cons, List.length_append, h16, be16_length]
  rw [if_neg (by omega), if_neg (by decide), if_pos (by decide), if_neg (by omega)]

theorem decodeAddrPort_encodeAddrPort (ap : AddrPort) (rest : Bytes) (h : ap.wf) :
    decodeAddrPort (encodeAddrPort ap ++ rest) = .ok (ap.norm, (addrPortLen ap).toNat) := by
  obtain ⟨hip, hport⟩ := h
  unfold encodeAddrPort addrPortLen AddrPort.norm IP.norm
  cases hv : ap.ip.v4family
  · cases hi : ap.ip with
    | v4 a => simp [hi, IP.v4family] at hv
    | v6 a =>
      simp [hi, IP.wf] at hip
      simp only [Bool.false_eq_true, if_false, IP.as16, List.cons_append, List.append_assoc]
      rw [decodeAddrPort_v6 a ap.port rest hip hport]; rfl
  · simp only [if_true, List.cons_append, List.append_assoc]
    rw [decodeAddrPort_v4 ap.ip.as4 ap.port rest (as4_length _ hip) hport]; rfl

theorem encodeAddrPort_length (ap : AddrPort) (h : ap.wf) : ((encodeAddrPort ap).length : Int) = addrPortLen ap := by
  obtain ⟨hip, _⟩ := h
  unfold encodeAddrPort addrPortLen
  cases hv : ap.ip.v4family
  · cases hi : ap.ip with
    | v4 a => simp [hi, IP.v4family] at hv
    | v6 a => simp [hi, IP.wf] at hip; simp [IP.as16, be16_length, hip, addrLenV6]
  · simp [as4_length _ hip, be16_length, addrLenV4]

theorem decodeAddr_of_not_dom (t : UInt8) (tl : Bytes) (ht : t.toNat ≠ AtypDomainName) :
    decodeAddr (t :: tl) = (decodeAddrPort (t :: tl)).bind fun r => .ok (.ip r.1, r.2) := by
  unfold decodeAddr decodeAddrPort
  simp only [if_neg ht, List.length_cons]
  by_cases h7 : tl.length + 1 < 7
  · rw [if_pos h7, if_pos h7, if_pos (by omega : tl.length + 1 < 19)]
    simp only [Outcome.bind, ite_self]
  · rw [if_neg h7, if_neg h7, if_neg (by omega : ¬ tl.length + 1 < 2)]
    by_cases h4 : t.toNat = AtypIPv4
    · rw [if_pos h4, if_pos h4]; rfl
    · rw [if_neg h4, if_neg h4]
      by_cases h6 : t.toNat = AtypIPv6
      · rw [if_pos h6, if_pos h6]
        by_cases h19 : tl.length + 1 < 19
        · rw [if_pos h19, if_pos h19]; rfl
        · rw [if_neg h19, if_neg h19]; rfl
      · rw [if_neg h6, if_neg h6]; rfl

theorem encodeAddrPort_head (ap : AddrPort) (rest : Bytes) :
    ∃ t tl, encodeAddrPort ap ++ rest = t :: tl ∧ t.toNat ≠ AtypDomainName := by
  unfold encodeAddrPort
  split
  · exact ⟨_, _, rfl, by decide⟩
  · exact ⟨_, _, rfl, by decide⟩

theorem decodeAddr_dom (name : Bytes) (port : Nat) (rest : Bytes) (h1 : 1 ≤ name.length) (h2 : name.length ≤ 255)
    (hport : port < 65536) :
    decodeAddr (UInt8.ofNat AtypDomainName :: UInt8.ofNat name.length :: (name ++ (be16 port ++ rest)))
      = .ok (.dom name port, 2 + name.length + 2) := by
  have hl : (UInt8.ofNat name.length).toNat = name.length := by
    rw [UInt8.toNat_ofNat']; omega
  have e1 : sub (UInt8.ofNat AtypDomainName :: UInt8.ofNat name.length :: (name ++ (be16 port ++ rest))) 2 name.length = name := by
    rw [sub_cons_succ, sub_cons_succ, sub_left _ _ _ rfl]
  have e2 : sub (UInt8.ofNat AtypDomainName :: UInt8.ofNat name.length :: (name ++ (be16 port ++ rest))) (2 + name.length) 2 = be16 port := by
    rw [show 2 + name.length = (name.length + 1) + 1 by omega, sub_cons_succ, sub_cons_succ,
      sub_append_mid name _ rest _ 2 rfl rfl]
  simp only [decodeAddr, hl, e1, e2, unbe_be16 _ hport, List.length_cons, List.length_append, be16_length]
  rw [if_neg (by omega), if_pos (by decide), if_neg (by omega), if_neg (by omega)]

theorem decodeAddr_encodeAddrPort (ap : AddrPort) (rest : Bytes) (h : ap.wf) :
    decodeAddr (encodeAddrPort ap ++ rest) = .ok (.ip ap.norm, (addrPortLen ap).toNat) := by
  obtain ⟨t, tl, he, ht⟩ := encodeAddrPort_head ap rest
  rw [he, decodeAddr_of_not_dom t tl ht, ← he, decodeAddrPort_encodeAddrPort ap rest h]
  rfl

theorem decodeAddr_encodeAddr (a : Addr) (rest : Bytes) (h : a.wf) :
    decodeAddr (encodeAddr a ++ rest) = .ok (a.norm, (addrLen a).toNat) := by
  cases a with
  | zero => exact decodeAddr_encodeAddrPort _ rest (by decide)
  | ip ap => exact decodeAddr_encodeAddrPort ap rest h
  | dom name port =>
    obtain ⟨h1, h2, hport⟩ := h
    simp only [encodeAddr, Addr.norm, addrLen, addrLenDomain, List.cons_append, List.append_assoc]
    rw [decodeAddr_dom name port rest h1 h2 hport]
    congr 2

theorem encodeAddr_length (a : Addr) (h : a.wf) : ((encodeAddr a).length : Int) = addrLen a := by
  cases a with
  | zero => simp [encodeAddr, encodeAddrPort, IP.v4family, IP.as4, addrLen, addrLenZero, be16_length]
  | ip ap => exact encodeAddrPort_length ap h
  | dom name port => simp [encodeAddr, addrLen, addrLenDomain, be16_length]; omega

theorem decodeAddr_encodeAddr_len (a : Addr) (h : a.wf) (rest : Bytes) :
    decodeAddr (encodeAddr a ++ rest) = .ok (a.norm, (encodeAddr a).length) := by
  rw [decodeAddr_encodeAddr a rest h, ← encodeAddr_length a h, Int.toNat_natCast]

theorem decodeAddrPort_encodeAddrPort_len (a : AddrPort) (h : a.wf) (rest : Bytes) :
    decodeAddrPort (encodeAddrPort a ++ rest) = .ok (a.norm, (encodeAddrPort a).length) := by
  rw [decodeAddrPort_encodeAddrPort a rest h, ← encodeAddrPort_length a h, Int.toNat_natCast]

theorem addrLen_bounds (a : Addr) (ha : a.wf) : 5 ≤ addrLen a ∧ addrLen a ≤ 259 := by
  cases a with
  | zero => simp [addrLen, addrLenZero]
  | ip ap => simp only [addrLen, addrPortLen]; split <;> simp [addrLenV4, addrLenV6]
  | dom n p => obtain ⟨h1, h2, _⟩ := ha; simp only [addrLen, addrLenDomain]; omega

theorem addrPortLen_bounds (a : AddrPort) : 7 ≤ addrPortLen a ∧ addrPortLen a ≤ 19 := by
  simp only [addrPortLen]; split <;> simp [addrLenV4, addrLenV6]

theorem toyTag_length (k n p : Bytes) : (toyTag k n p).length = 16 := by
  simp [toyTag, u64bytes]

/-- the driver's toy cryptography satisfies the laws the theorems assume (the hypothesis `Crypto.Laws` is satisfiable) -/
theorem toyCrypto_laws : toyCrypto.Laws where
  seal_len k n p := by simp [toyCrypto, toyTag_length]
  open_seal k n p := by
    simp only [toyCrypto, List.length_append, toyTag_length]
    rw [if_neg (by omega)]
    have e : p.length + 16 - 16 = p.length := by omega
    simp [e]
  open_len k n ct p h := by
    simp only [toyCrypto] at h
    split at h
    · cases h
    · next hl =>
      split at h
      · simp only [Option.some.injEq] at h
        subst h
        simp; omega
      · cases h
  enc_len k x := by simp [toyCrypto]
  dec_len k x := by simp [toyCrypto]
  dec_enc k x := by
    simp only [toyCrypto, List.map_map]
    have : ((fun b : UInt8 => b - toyKeyByte k) ∘ (fun b : UInt8 => b + toyKeyByte k)) = id := by
      funext b; simp [UInt8.add_sub_cancel]
    rw [this]; simp


end SSV.Packet
