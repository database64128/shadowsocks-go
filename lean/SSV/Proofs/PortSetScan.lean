import SSV.Proofs.PortSetBits
/-
`scanWord` (the inner loop of `RangeSet`) equals the abstract bit scan of the word; hence `scanBlocks`
equals the bit scan of all 65536 bits. The counting loop of `RangeCount` is the same loop on what `tally` keeps of the state.
-/
namespace SSV.PortSet

/-- the first half of a round of the inner loop of `RangeSet`: before a run of `tz ≠ 0` zero bits an open range is
closed (`rem` bits of block `i` are left) -/
def closeStep (i : Nat) (st : Scan) (tz rem : Nat) : Scan :=
  if tz ≠ 0 ∧ st.inRange then
    { inRange := false, start := st.start,
      acc := ⟨st.start, u16 (usub (usub ((i + 1) * blockBits) rem) 1)⟩ :: st.acc }
  else st

/-- the second half: a run of one bits opens a range unless one is open, and the loop goes on behind the run -/
def onesStep (i fuel : Nat) (st1 : Scan) (block1 rem1 : Nat) : Scan :=
  let ones := trailingZeros 64 (not64 block1)
  let st2 : Scan :=
    if st1.inRange then st1
    else { st1 with inRange := true, start := u16 (usub ((i + 1) * blockBits) rem1) }
  if ones = rem1 then st2 else scanWord i fuel st2 (block1 >>> ones) (rem1 - ones)

theorem scanWord_succ (i fuel : Nat) (st : Scan) (block rem : Nat) :
    scanWord i (fuel + 1) st block rem =
      if trailingZeros 64 block ≠ 0 ∧ trailingZeros 64 block ≥ rem then closeStep i st (trailingZeros 64 block) rem
      else onesStep i fuel (closeStep i st (trailingZeros 64 block) rem)
        (if trailingZeros 64 block ≠ 0 then block >>> trailingZeros 64 block else block)
        (if trailingZeros 64 block ≠ 0 then rem - trailingZeros 64 block else rem) := rfl

theorem closeStep_zero (i : Nat) (st : Scan) (rem : Nat) : closeStep i st 0 rem = st :=
  if_neg fun h => h.1 rfl

/- The position of the next bit is `base = (i + 1) * 64 - rem`, carried as `base + rem = (i + 1) * 64`; the `uint` /
`uint16` arithmetic of the source is exact because `i < 1024`. -/
theorem usub_eq_sub {x y : Nat} (h : y ≤ x) (hx : x < 2 ^ 64) : usub x y = x - y := by
  simp only [usub, W]
  omega

theorem u16_startPos {i rem base : Nat} (hi : i < 1024) (h1 : 1 ≤ rem) (hbase : base + rem = (i + 1) * 64) :
    u16 (usub ((i + 1) * blockBits) rem) = base := by
  show u16 (usub ((i + 1) * 64) rem) = base
  rw [← hbase, usub_eq_sub (Nat.le_add_left _ _) (by omega), Nat.add_sub_cancel]
  exact Nat.mod_eq_of_lt (by omega)

theorem u16_lastPos {i rem base : Nat} (hi : i < 1024) (hbase : base + rem = (i + 1) * 64) (hp : 1 ≤ base) :
    u16 (usub (usub ((i + 1) * blockBits) rem) 1) = base - 1 := by
  show u16 (usub (usub ((i + 1) * 64) rem) 1) = base - 1
  rw [← hbase, usub_eq_sub (Nat.le_add_left _ _) (by omega), Nat.add_sub_cancel, usub_eq_sub hp (by omega)]
  exact Nat.mod_eq_of_lt (by omega)

/-- a range open at position 0 does not occur, so its last port `base - 1` is exact -/
theorem closeStep_eq {i rem base tz : Nat} (hi : i < 1024) (hbase : base + rem = (i + 1) * 64) (htz : tz ≠ 0) (st : Scan)
    (hin : st.inRange = true → 1 ≤ base) : closeStep i st tz rem = stepBit st base false := by
  show _ = closeAt st _
  unfold closeStep closeAt
  by_cases hr : st.inRange = true
  · rw [if_pos ⟨htz, hr⟩, if_pos hr, u16_lastPos hi hbase (hin hr)]
  · rw [if_neg fun h => hr h.2, if_neg hr]

/-- the statement proved by induction on the fuel: the `rem` bits left of block `i` stand at the positions from `base` on -/
def ScanWordSpec (i fuel : Nat) : Prop :=
  ∀ (st : Scan) (block rem base : Nat), 1 ≤ rem → rem ≤ 64 → block < 2 ^ rem → rem ≤ fuel → base + rem = (i + 1) * 64 →
    (st.inRange = true → 1 ≤ base) → scanWord i fuel st block rem = scanBits st base (bitsOf block rem)

theorem onesStep_eq {i : Nat} (hi : i < 1024) {fuel : Nat} (IH : ScanWordSpec i fuel)
    (st1 : Scan) (block1 rem1 base : Nat) (h1 : 1 ≤ rem1) (h64 : rem1 ≤ 64) (hb : block1 < 2 ^ rem1)
    (hodd : block1 % 2 = 1) (hf : rem1 ≤ fuel + 1) (hbase : base + rem1 = (i + 1) * 64) :
    onesStep i fuel st1 block1 rem1 = scanBits st1 base (bitsOf block1 rem1) := by
  have hb64 : block1 < 2 ^ 64 := Nat.lt_of_lt_of_le hb (Nat.pow_le_pow_right (by decide) h64)
  have hones : trailingZeros 64 (not64 block1) = trailingOnes 64 block1 := by
    rw [not64_eq hb64]; exact tz_not 64 block1 hb64
  have hle : trailingOnes 64 block1 ≤ rem1 := ones_le_of_lt 64 block1 rem1 hb
  have hpos : 1 ≤ trailingOnes 64 block1 := ones_pos 63 block1 hodd
  have hst2 : (if st1.inRange then st1
      else { st1 with inRange := true, start := u16 (usub ((i + 1) * blockBits) rem1) })
      = stepBit st1 base true := by
    rw [u16_startPos hi h1 hbase]; rfl
  unfold onesStep
  simp only [hones, hst2]
  rw [bitsOf_ones 64 block1 rem1 hle, scanBits_run true _ _ _ _ hpos]
  by_cases he : trailingOnes 64 block1 = rem1
  · simp [he, bitsOf, scanBits]
  · simp only [he, ↓reduceIte]
    exact IH _ _ _ _ (Nat.sub_pos_of_lt (Nat.lt_of_le_of_ne hle he)) (Nat.le_trans (Nat.sub_le _ _) h64) (shiftRight_lt hb hle)
      (by omega) (by omega) (fun _ => Nat.le_trans hpos (Nat.le_add_left _ _))

theorem scanWord_eq {i : Nat} (hi : i < 1024) : ∀ fuel, ScanWordSpec i fuel
  | 0 => by intro st block rem base h1 _ _ hf _ _; omega
  | fuel + 1 => by
    intro st block rem base h1 h64 hb hf hbase hin
    have IH := scanWord_eq hi fuel
    rw [scanWord_succ]
    by_cases htz : trailingZeros 64 block = 0
    · have hodd : block % 2 = 1 := (tz_eq_zero_iff 63 block).mp htz
      simp only [htz, ne_eq, not_true_eq_false, false_and, ↓reduceIte, closeStep_zero]
      exact onesStep_eq hi IH st block rem base h1 h64 hb hodd (by omega) hbase
    · rw [closeStep_eq hi hbase htz st hin]
      by_cases hge : trailingZeros 64 block ≥ rem
      · simp only [ne_eq, htz, not_false_eq_true, hge, and_self, ↓reduceIte]
        rw [bitsOf_all_zero 64 block rem hge]
        have := scanBits_run false rem st base [] h1
        simp only [List.append_nil] at this
        rw [this]; rfl
      · have hlt : trailingZeros 64 block < rem := Nat.lt_of_not_le hge
        have hle := Nat.le_of_lt hlt
        simp only [ne_eq, htz, not_false_eq_true, hge, and_false, ↓reduceIte]
        have hodd : (block >>> trailingZeros 64 block) % 2 = 1 := tz_bit 64 block (Nat.lt_of_lt_of_le hlt h64)
        rw [onesStep_eq hi IH _ _ _ (base + trailingZeros 64 block) (Nat.sub_pos_of_lt hlt) (by omega) (shiftRight_lt hb hle)
          hodd (by omega) (by omega), bitsOf_zeros 64 block rem _ (Nat.le_refl _) hle, scanBits_run false _ _ _ _ (Nat.pos_of_ne_zero htz)]

def allBits (ws : Words) : List Bool := ws.flatMap (fun w => bitsOf w 64)

theorem allBits_cons (w : Nat) (rest : Words) : allBits (w :: rest) = bitsOf w 64 ++ allBits rest := rfl

theorem scanBits_append : ∀ (a b : List Bool) (st : Scan) (p : Nat),
    scanBits st p (a ++ b) = scanBits (scanBits st p a) (p + a.length) b
  | [], b, st, p => by simp [scanBits]
  | x :: a, b, st, p => by
    simp only [List.cons_append, scanBits, List.length_cons]
    rw [scanBits_append a b]
    congr 1; omega

/-- `i = 0 → st.inRange = false` feeds the hypothesis of `closeStep_eq`: the scan starts outside any range -/
theorem scanBlocks_eq : ∀ (ws : Words) (i : Nat) (st : Scan), i + ws.length ≤ 1024 → (∀ w ∈ ws, w < 2 ^ 64) →
    (i = 0 → st.inRange = false) → scanBlocks i st ws = scanBits st (i * 64) (allBits ws)
  | [], i, st, _, _, _ => rfl
  | w :: rest, i, st, hlen, hw, h0 => by
    have hlen' : i + 1 + rest.length ≤ 1024 := by rw [List.length_cons] at hlen; omega
    have hword := scanWord_eq (i := i) (by omega) (blockBits + 1) st w blockBits (i * 64) (by decide) (by decide)
      (hw w List.mem_cons_self) (by decide) (Nat.succ_mul i 64).symm (fun hr => by
        cases i with
        | zero => simp [h0 rfl] at hr
        | succ j => omega)
    rw [scanBlocks, hword, scanBlocks_eq rest (i + 1) _ hlen' (fun x hx => hw x (List.mem_cons_of_mem _ hx)) (by omega),
      allBits_cons, scanBits_append, length_bitsOf, Nat.add_one_mul]
    rfl

/-- the counting loop's second half: a run of ones is counted unless a range is open -/
def countOnesStep (fuel : Nat) (st1 : Bool × Nat) (block1 rem1 : Nat) : Bool × Nat :=
  let ones := trailingZeros 64 (not64 block1)
  let st2 : Bool × Nat := if st1.1 then st1 else (true, st1.2 + 1)
  if ones = rem1 then st2 else countWord fuel st2 (block1 >>> ones) (rem1 - ones)

/-- what `RangeCount` keeps of the state of `RangeSet`: whether a range is open, and the number of ranges met so far -/
def tally (st : Scan) : Bool × Nat := (st.inRange, st.acc.length + if st.inRange then 1 else 0)

theorem tally_close (st : Scan) (c : Prop) [Decidable c] (r : Range) :
    tally (if c ∧ st.inRange then ⟨false, st.start, r :: st.acc⟩ else st) =
      if c ∧ (tally st).1 then (false, (tally st).2) else tally st := by
  by_cases hc : c <;> cases hr : st.inRange <;> simp [tally, hc, hr]

theorem tally_open (st : Scan) (s : Nat) :
    tally (if st.inRange then st else { st with inRange := true, start := s }) =
      if (tally st).1 then tally st else (true, (tally st).2 + 1) := by
  cases hr : st.inRange <;> simp [tally, hr]

/-- both loops branch on the word only, and each of the two state updates of a round commutes with `tally` -/
theorem countWord_tally (i fuel : Nat) (st : Scan) (block rem : Nat) :
    countWord fuel (tally st) block rem = tally (scanWord i fuel st block rem) := by
  fun_induction scanWord i fuel st block rem with
  | case1 => rfl
  | case2 _ _ _ _ _ _ h => rw [countWord, if_pos h, tally_close] -- zeros to the end
  | case3 _ _ _ _ _ _ h _ _ _ _ he => rw [countWord, if_neg h, if_pos he, tally_open, tally_close] -- ones to the end
  | case4 _ _ _ _ _ _ h _ _ _ _ he ih => -- the loop goes on
    rw [countWord, if_neg h, if_neg he, ← ih, tally_open, tally_close]

theorem countBlocks_tally : ∀ (ws : Words) (i : Nat) (st : Scan), countBlocks (tally st) ws = tally (scanBlocks i st ws)
  | [], _, _ => rfl
  | w :: rest, i, st => by rw [countBlocks, scanBlocks, countWord_tally i, countBlocks_tally rest (i + 1)]

end SSV.PortSet
