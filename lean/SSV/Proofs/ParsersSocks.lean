import SSV.Proofs.Parsers
/-
The SOCKS5 handshake on its 262-byte scratch buffer — the server's three stages and its replies,
and the client reading a (hostile) server's replies. The invariant is the buffer's length: each read, write and assignment
is specified as keeping `st.b.length = n`, each stage assumes `st.b.length = 3 + MaxAddrLen` (what its own guard asks for) and, where
another stage follows, ensures it (what the next one's guard asks for), and every bound along a stage is against that number.
`s5ClientRequest_spec`, the client's last stage, ensures that the bound address is valid instead; `np_replyWithStatus` needs
`3 + IPv4AddrLen` bytes only.
-/
namespace SSV.Parsers.Proofs
open SSV SSV.Go SSV.Outcome SSV.Parsers

theorem length_splice {b x : Bytes} {i j : Nat} (h : i + x.length = j) (hj : j ≤ b.length) :
    (b.take i ++ x ++ b.drop j).length = b.length := by
  simp only [List.length_append, List.length_take, List.length_drop]
  omega

theorem s5ReadInto_spec {st : S5} {n : Nat} (hn : st.b.length = n) (i j : Nat) (h : i ≤ j ∧ j ≤ n) :
    Ensures (st.readInto i j) fun st' => st'.b.length = n := by
  unfold S5.readInto
  refine slice_ensures (hn ▸ h) fun _ _ => (readFull_spec _ _).bind fun ⟨r, s'⟩ hr => .ok ?_
  dsimp only at hr
  exact (length_splice (by omega) (by omega)).trans hn

theorem s5Set_spec {st : S5} {n : Nat} (hn : st.b.length = n) (i : Nat) (v : UInt8) (h : i < n) :
    Ensures (st.set i v) fun st' => st'.b.length = n :=
  setIdx_ensures (hn ▸ h) fun _ hw => .ok (hw.trans hn)

theorem s5WriteTo_spec {st : S5} {n : Nat} (hn : st.b.length = n) (k : Nat) (h : k ≤ n) :
    Ensures (st.writeTo k) fun st' => st'.b.length = n :=
  sliceTo_ensures (hn ▸ h) fun _ _ => .ok hn

theorem s5MethodSelection_spec (method : Nat) (st : S5) (hb : st.b.length = 3 + Gen.C06.MaxAddrLen) :
    Ensures (s5MethodSelection method st) fun st' => st'.b.length = 3 + Gen.C06.MaxAddrLen := by
  unfold s5MethodSelection
  dsimp only [Gen.C06.MaxAddrLen, Gen.C06.serverHandleMethodSelection_lenGuard0] at hb ⊢
  refine .ite_panic (by omega) <| (s5ReadInto_spec hb 0 3 (by omega)).bind fun st1 l1 => ?_
  refine idx_ensures (by omega) fun v _ => .guard fun _ => idx_ensures (by omega) fun nm hnm => ?_
  -- NMETHODS is one byte, so `b[3 : 3+nmethods-1]` and `b[2 : 2+nmethods]` stay inside the buffer
  refine Ensures.bind (Q := fun r => r.1.b.length = 3 + 259) (.guard fun _ => .ite (fun _ => ?one) fun _ => ?several) ?_
  case one => exact idx_ensures (by omega) fun _ _ => .ok l1
  case several => exact (s5ReadInto_spec l1 3 _ (by omega)).bind fun st2 l2 => slice_ensures (by omega) fun _ _ => .ok l2
  rintro ⟨st3, found⟩ l3
  dsimp only at l3 ⊢
  refine .ite (fun _ => ?noAcceptable) fun _ => ?selected
  case noAcceptable =>
    refine (s5Set_spec l3 1 _ (by omega)).bind fun st4 l4 => ?_
    exact (s5WriteTo_spec l4 2 (by omega)).bind fun _ _ => .err
  case selected =>
    refine (s5Set_spec l3 1 _ (by omega)).bind fun st4 l4 => ?_
    exact s5WriteTo_spec l4 2 (by omega)

theorem s5UsernamePassword_spec (check : Bytes → Bytes → Bool) (st : S5) (hb : st.b.length = 3 + Gen.C06.MaxAddrLen) :
    Ensures (s5UsernamePassword check st) fun st' => st'.b.length = 3 + Gen.C06.MaxAddrLen := by
  unfold s5UsernamePassword
  dsimp only [Gen.C06.MaxAddrLen, Gen.C06.serverHandleUsernamePassword_lenGuard0] at hb ⊢
  refine .ite_panic (by omega) <| (s5ReadInto_spec hb 0 4 (by omega)).bind fun st1 l1 => ?_
  -- ULEN and PLEN are one byte each: `b[4 : 4+ulen-1]`, `b[2+ulen]`, `b[2 : 2+plen]` stay below 3 + MaxAddrLen
  refine idx_ensures (by omega) fun v _ => .guard fun _ => idx_ensures (by omega) fun ul hul => .guard fun _ => ?_
  refine Ensures.bind (.ite (fun _ => s5ReadInto_spec l1 4 _ (by omega)) fun _ => .ok l1) fun st2 l2 => ?_
  refine slice_ensures (by omega) fun uname _ => idx_ensures (by omega) fun pl hpl => .guard fun _ => ?_
  refine (s5ReadInto_spec l2 2 _ (by omega)).bind fun st3 l3 => slice_ensures (by omega) fun passwd _ => ?_
  refine (s5Set_spec l3 1 _ (by omega)).bind fun st4 l4 => (s5WriteTo_spec l4 2 (by omega)).bind fun st5 l5 => ?_
  exact .guard fun _ => .ok l5

theorem np_replyWithStatus (st : S5) (status : UInt8) (h : 3 + Gen.C06.IPv4AddrLen ≤ st.b.length) :
    Ensures (st.replyWithStatus status) fun _ => True := by
  unfold S5.replyWithStatus
  dsimp only [Gen.C06.IPv4AddrLen] at h ⊢
  refine sliceTo_ensures h fun r0 h0 => setIdx_ensures (by omega) fun r1 h1 => ?_
  refine setIdx_ensures (by omega) fun r2 h2 => setIdx_ensures (by omega) fun r3 h3 => ?_
  exact sliceFrom_ensures (by omega) fun tail ht => arr_ensures (by omega) fun _ _ => .ok trivial

theorem s5Request_spec (tcp udp tcpLocal : Bool) (bound : Bytes) (st : S5) (hb : st.b.length = 3 + Gen.C06.MaxAddrLen) :
    Ensures (s5Request tcp udp tcpLocal bound st) fun r => r.1.b.length = 3 + Gen.C06.MaxAddrLen := by
  unfold s5Request
  dsimp only [Gen.C06.MaxAddrLen, Gen.C06.serverHandleRequest_lenGuard0] at hb ⊢
  refine .ite_panic (by omega) <| (s5ReadInto_spec hb 0 5 (by omega)).bind fun st1 l1 => ?_
  refine idx_ensures (by omega) fun v _ => .guard fun _ => slice_ensures (by omega) fun _ _ =>
    slice_ensures (by omega) fun pre _ => ?_
  refine (appendFromReader_spec _).bind fun ⟨sa, rest⟩ hsa => (connAddrFromSlice_spec sa).bind fun ⟨a, n⟩ _ => ?_
  dsimp only [Gen.C06.MaxAddrLen] at hsa
  dsimp only at hsa ⊢
  -- the address lands in `b[3:]`, inside the buffer
  have l2 := (length_splice (b := st1.b) (x := sa) (i := 3) rfl (by omega)).trans l1
  refine idx_ensures (by omega) fun cmd _ => .ite (fun _ => .ok l2) fun _ =>
    .ite (fun _ => .guard fun _ => ?udpAssociate) fun _ => ?notSupported
  case udpAssociate =>
    refine (s5Set_spec l2 1 _ (by omega)).bind fun st3 l3 => ?_
    exact sliceTo_ensures (by omega) fun _ _ => sliceTo_ensures (by omega) fun _ _ => .err
  case notSupported =>
    exact (np_replyWithStatus _ _ (by simp only [Gen.C06.IPv4AddrLen]; omega)).bind fun _ _ => .err

theorem s5ClientNegotiate_spec (method : Nat) (st : S5) (hb : st.b.length = 3 + Gen.C06.MaxAddrLen) :
    Ensures (s5ClientNegotiate method st) fun st' => st'.b.length = 3 + Gen.C06.MaxAddrLen := by
  unfold s5ClientNegotiate
  dsimp only [Gen.C06.MaxAddrLen, Gen.C06.clientNegotiateAuthMethod_lenGuard0] at hb ⊢
  refine .ite_panic (by omega) <| (s5Set_spec hb 0 _ (by omega)).bind fun s1 l1 => ?_
  refine (s5Set_spec l1 1 _ (by omega)).bind fun s2 l2 => (s5Set_spec l2 2 _ (by omega)).bind fun s3 l3 => ?_
  refine (s5WriteTo_spec l3 3 (by omega)).bind fun s4 l4 => (s5ReadInto_spec l4 0 2 (by omega)).bind fun s5 l5 => ?_
  exact idx_ensures (by omega) fun _ _ => .guard fun _ => idx_ensures (by omega) fun _ _ => .guard fun _ => .ok l5

theorem s5ClientAuth_spec (authMsg : Bytes) (st : S5) (hb : st.b.length = 3 + Gen.C06.MaxAddrLen) :
    Ensures (s5ClientAuth authMsg st) fun st' => st'.b.length = 3 + Gen.C06.MaxAddrLen := by
  unfold s5ClientAuth
  dsimp only [Gen.C06.MaxAddrLen, Gen.C06.clientDoUsernamePasswordAuth_lenGuard0] at hb ⊢
  refine .ite_panic (by omega) <| (s5ReadInto_spec (st := { st with w := st.w ++ authMsg }) hb 0 2 (by omega)).bind fun s1 l1 => ?_
  exact idx_ensures (by omega) fun _ _ => .guard fun _ => idx_ensures (by omega) fun _ _ => .guard fun _ => .ok l1

/-- The bound address of a successful reply is a parsed one, hence not the zero `conn.Addr`. -/
theorem s5ClientRequest_spec (cmd : UInt8) (enc : Bytes) (henc : enc.length ≤ Gen.C06.MaxAddrLen) (st : S5)
    (hb : st.b.length = 3 + Gen.C06.MaxAddrLen) : Ensures (s5ClientRequest cmd enc st) fun r => r.2.isValid = true := by
  unfold s5ClientRequest
  dsimp only [Gen.C06.MaxAddrLen, Gen.C06.clientDoRequest_lenGuard0] at hb henc ⊢
  refine .ite_panic (by omega) <| (s5Set_spec hb 0 _ (by omega)).bind fun s1 l1 => ?_
  refine (s5Set_spec l1 1 _ (by omega)).bind fun s2 l2 => (s5Set_spec l2 2 _ (by omega)).bind fun s3 l3 => ?_
  refine sliceFrom_ensures (by omega) fun tail ht => .ite_panic (by omega) ?_
  have lb := (length_splice (b := s3.b) (x := enc) (i := 3) rfl (by omega)).trans l3
  refine (s5WriteTo_spec (st := { s3 with b := _ }) lb _ (by omega)).bind fun s4 l4 => ?_
  refine (s5ReadInto_spec l4 0 5 (by omega)).bind fun s5 l5 => idx_ensures (by omega) fun _ _ => .guard fun _ => ?_
  refine slice_ensures (by omega) fun _ _ => slice_ensures (by omega) fun pre _ => ?_
  refine (appendFromReader_spec _).bind fun ⟨sa, rest⟩ hsa => (connAddrFromSlice_spec sa).bind fun ⟨a, n⟩ ha => ?_
  dsimp only [Gen.C06.MaxAddrLen] at hsa
  dsimp only at hsa ha ⊢
  exact idx_ensures (by rw [length_splice rfl (by omega)]; omega) fun _ _ => .guard fun _ => .ok ha.2.1

theorem s5Client_spec (auth : Bool) (authMsg : Bytes) (cmd : UInt8) (enc : Bytes) (henc : enc.length ≤ Gen.C06.MaxAddrLen)
    (stream : Bytes) : Ensures (s5Client auth authMsg cmd enc stream) fun a => a.isValid = true := by
  unfold s5Client
  refine (s5ClientNegotiate_spec _ _ List.length_replicate).bind fun st1 l1 => ?_
  refine Ensures.bind (.ite (fun _ => s5ClientAuth_spec authMsg st1 l1) fun _ => .ok l1) fun st2 l2 => ?_
  exact (s5ClientRequest_spec cmd enc henc st2 l2).bind fun ⟨st3, a⟩ ha => .ok ha
end SSV.Parsers.Proofs
