import SSV.Model.Stats
/-
C14 — what concerns one thread: thread-local well-formedness (`Thread.WF`) and the quantity
`got + counter + pend` every step of every thread conserves (`Conserved`).
-/
namespace SSV.Stats
open SSV.Gen.C14

theorem Counters.get_set (c : Counters) (f : Field) (v : Nat) (g : Field) :
    (c.set f v).get g = if f = g then v else c.get g := by
  unfold Counters.get Counters.set
  by_cases h : f = g
  · subst h; simp only [List.lookup_cons, beq_self_eq_true, if_true]
  · have : (g == f) = false := beq_false_of_ne (Ne.symm h)
    simp only [List.lookup_cons, this, h, if_false]

@[simp] theorem Counters.get_zero (f : Field) : Counters.zero.get f = 0 := rfl

theorem Store.upd_get (s : Store) (t : Target) (f : Field) (v : Nat) (t' : Target) (g : Field) :
    ((s.upd t f v) t').get g = if t = t' ∧ f = g then v else (s t').get g := by
  unfold Store.upd
  by_cases h : t' = t
  · subst h; simp only [if_true, Counters.get_set, true_and]
  · simp only [h, Ne.symm h, if_false, false_and]

theorem exec_pc (ctr : Store) (v : Visit) (s : BStep) (rest : List BStep) : (exec ctr v s rest).2.pc = rest := by
  cases s <;> rfl

theorem exec_other (ctr : Store) (v : Visit) (s : BStep) (rest : List BStep) : (exec ctr v s rest).2.t = v.t := by
  cases s <;> rfl

theorem exec_ctr_other {ctr : Store} {v : Visit} {t : Target} (s : BStep) (rest : List BStep) (h : t ≠ v.t) :
    (exec ctr v s rest).1 t = ctr t := by
  cases s <;> simp only [exec, Store.upd, h, if_false]

/-- `a` is `b` as a `uint64`, and not above it: they are equal as soon as `b` fits in 64 bits -/
def ModLe (a b : Nat) : Prop := a % M = b % M ∧ a ≤ b

theorem ModLe.refl (a : Nat) : ModLe a a := ⟨rfl, Nat.le_refl a⟩

theorem ModLe.of_eq {a b : Nat} (h : a = b) : ModLe a b := h ▸ ModLe.refl a

theorem ModLe.trans {a b c : Nat} (h1 : ModLe a b) (h2 : ModLe b c) : ModLe a c :=
  ⟨h1.1.trans h2.1, Nat.le_trans h1.2 h2.2⟩

theorem ModLe.mod_left (a : Nat) : ModLe (a % M) a := ⟨Nat.mod_mod a M, Nat.mod_le a M⟩

theorem ModLe.add {a b c d : Nat} (h1 : ModLe a b) (h2 : ModLe c d) : ModLe (a + c) (b + d) :=
  ⟨by rw [Nat.add_mod, h1.1, h2.1, ← Nat.add_mod], Nat.add_le_add h1.2 h2.2⟩

theorem ModLe.eq_of_lt {a b : Nat} (h : ModLe a b) (hb : b < M) : a = b := by
  have h1 := h.1
  rw [Nat.mod_eq_of_lt hb, Nat.mod_eq_of_lt (Nat.lt_of_le_of_lt h.2 hb)] at h1
  exact h1

/-- sum of the arguments of the atomic adds on counter `f` still to be executed -/
def pendPc (f : Field) : List BStep → Nat
  | [] => 0
  | .add f' a :: r => (if f' = f then a else 0) + pendPc f r
  | .load _ _ :: r => pendPc f r
  | .swap0 _ _ :: r => pendPc f r

/-- sum over the completed visits of collector `t` of the figure for `f` -/
def sumDone (t : Target) (f : Field) : List (Target × Counters) → Nat
  | [] => 0
  | e :: r => (if e.1 = t then e.2.get f else 0) + sumDone t f r

theorem sumDone_append (t : Target) (f : Field) (a b : List (Target × Counters)) :
    sumDone t f (a ++ b) = sumDone t f a + sumDone t f b := by
  induction a with
  | nil => simp only [List.nil_append, sumDone, Nat.zero_add]
  | cons e r ih => simp only [List.cons_append, sumDone, ih, Nat.add_assoc]

/-- sum of the figure for `f` over all `Traffic` values a snapshot obtained (anonymous collector first) -/
def sumAll (f : Field) : List (Target × Counters) → Nat
  | [] => 0
  | e :: r => e.2.get f + sumAll f r

theorem sumAll_append (f : Field) (a b : List (Target × Counters)) : sumAll f (a ++ b) = sumAll f a + sumAll f b := by
  induction a with
  | nil => simp only [List.nil_append, sumAll, Nat.zero_add]
  | cons e r ih => simp only [List.cons_append, sumAll, ih, Nat.add_assoc]

/-- traffic of collector `t`, counter `f` that the thread has still to add -/
def Thread.pend (t : Target) (f : Field) : Thread → Nat
  | .collect c => if c.v.t = t then pendPc f c.v.pc else 0
  | .snap _ => 0

/-- traffic of collector `t`, counter `f` that a resetting snapshot has taken out of the counters so far
(values returned by `Swap(0)`: in finished visits and in the `Traffic` literal under construction) -/
def Thread.got (t : Target) (f : Field) : Thread → Nat
  | .collect _ => 0
  | .snap s => if s.reset then sumDone t f s.done + (if s.v.t = t then s.v.lit.get f else 0) else 0

theorem idle_lit_get (t : Target) (f : Field) : (if Visit.idle.t = t then Visit.idle.lit.get f else 0) = 0 := ite_self 0

def isAdd : BStep → Bool
  | .add _ _ => true
  | _ => false

def isLoad : BStep → Bool
  | .load _ _ => true
  | _ => false

/-- `Swap(0)` of counter `f` stored into the field of the same name, which has not been written yet -/
def swapSame (lit : Counters) : BStep → Bool
  | .swap0 f o => o == f && lit.get f == 0
  | _ => false

theorem isAdd_elim {x : BStep} (h : isAdd x = true) : ∃ f a, x = .add f a := by
  cases x with
  | add f a => exact ⟨f, a, rfl⟩
  | _ => cases h

theorem isLoad_elim {x : BStep} (h : isLoad x = true) : ∃ f o, x = .load f o := by
  cases x with
  | load f o => exact ⟨f, o, rfl⟩
  | _ => cases h

theorem swapSame_elim {lit : Counters} {x : BStep} (h : swapSame lit x = true) :
    ∃ f, x = .swap0 f f ∧ lit.get f = 0 := by
  cases x with
  | swap0 f o =>
    simp only [swapSame, Bool.and_eq_true, beq_iff_eq] at h
    exact ⟨f, h.1 ▸ rfl, h.2⟩
  | _ => cases h

def ResetOK (lit : Counters) (pc : List BStep) : Prop := (∀ s ∈ pc, swapSame lit s = true) ∧ pc.Nodup

instance (lit : Counters) (pc : List BStep) : Decidable (ResetOK lit pc) := by unfold ResetOK; infer_instance

theorem resetOK_cons {lit : Counters} {x : BStep} {rest : List BStep} (h : ResetOK lit (x :: rest)) :
    ∃ f, x = .swap0 f f ∧ lit.get f = 0 ∧ ∀ v, ResetOK (lit.set f v) rest := by
  obtain ⟨hall, hnd⟩ := h
  obtain ⟨f, rfl, hz⟩ := swapSame_elim (hall x List.mem_cons_self)
  refine ⟨f, rfl, hz, fun v => ⟨fun y hy => ?_, (List.nodup_cons.mp hnd).2⟩⟩
  obtain ⟨f', rfl, hz'⟩ := swapSame_elim (hall y (List.mem_cons_of_mem _ hy))
  have hne : f ≠ f' := fun e => (List.nodup_cons.mp hnd).1 (e ▸ hy)
  simp only [swapSame, Counters.get_set, hne, if_false, hz', beq_self_eq_true, Bool.and_self]

def isAddG : Gen.C14.Step → Bool
  | .add _ _ => true
  | _ => false

/-- facts about the regenerated programs the invariants rest on (each is closed by evaluation in
`SSV.Stats.genOK`; a change of the source that falsifies one re-opens every theorem below) -/
structure GenOK : Prop where
  collect_adds : ∀ i : Inner, ∀ s ∈ innerProg i, isAddG s = true
  reset_anon : ResetOK Counters.zero ((snapProg (shapeOf true).anonKind).map (bindStep []))
  reset_user : ResetOK Counters.zero ((snapProg (shapeOf true).userKind).map (bindStep []))
  load_anon : ∀ x ∈ (snapProg (shapeOf false).anonKind).map (bindStep []), isLoad x = true
  load_user : ∀ x ∈ (snapProg (shapeOf false).userKind).map (bindStep []), isLoad x = true
  add_pointwise : ∀ (tot lit : Counters) (f : Field), (applyAdd tot lit).get f = (tot.get f + lit.get f) % M

/-- `SnapTh.step` as a relation, one constructor per kind of step: the next atomic operation of the visit under
way; the end of the visit of the anonymous collector; `sc.mu.RLock()`; the start and the end of the visit of a
user collector; `sc.mu.RUnlock()` -/
inductive SnapTh.Next (order : List String) (sh : Shared) (s : SnapTh) : Shared → SnapTh → Prop
  | op (x : BStep) (rest : List BStep) : s.v.pc = x :: rest →
      Next order sh s { sh with ctr := (exec sh.ctr s.v x rest).1 } { s with v := (exec sh.ctr s.v x rest).2 }
  | anonEnd : s.v.pc = [] → s.phase = .anon →
      Next order sh s sh
        { s with phase := .lockWait, total := s.v.lit, done := s.done ++ [(s.v.t, s.v.lit)], v := Visit.idle }
  | rlock : s.v.pc = [] → s.phase = .lockWait →
      Next order sh s { sh with readers := sh.readers + 1 } { s with phase := .users order }
  | userBegin (u : String) (todo : List String) : s.v.pc = [] → s.phase = .users (u :: todo) →
      Next order sh s sh
        { s with phase := .visiting u todo,
                 v := { t := .user u, lit := Counters.zero, pc := (snapProg (shapeOf s.reset).userKind).map (bindStep []) } }
  | userEnd (u : String) (todo : List String) : s.v.pc = [] → s.phase = .visiting u todo →
      Next order sh s sh
        { s with phase := .users todo, total := applyAdd s.total s.v.lit, done := s.done ++ [(s.v.t, s.v.lit)],
                 v := Visit.idle }
  | runlock : s.v.pc = [] → s.phase = .users [] →
      Next order sh s { sh with readers := sh.readers - 1 } { s with phase := .finished }

theorem SnapTh.step_rel {order : List String} {sh sh' : Shared} {s s' : SnapTh}
    (h : s.step order sh = some (sh', s')) : s.Next order sh sh' s' := by
  revert h
  fun_cases SnapTh.step order sh s <;> intro h <;> cases h
  case case1 x rest hpc _ _ he => simpa only [he] using Next.op (order := order) (sh := sh) x rest hpc
  case case2 hpc hph => exact .anonEnd hpc hph
  case case3 hpc hph => exact .rlock hpc hph
  case case4 hpc u todo hph => exact .userBegin u todo hpc hph
  case case5 hpc u todo hph => exact .userEnd u todo hpc hph
  case case6 hpc hph => exact .runlock hpc hph

theorem SnapTh.step_none {order : List String} {sh : Shared} {s : SnapTh} (h : s.step order sh = none) :
    s.phase = .finished := by
  revert h
  fun_cases SnapTh.step order sh s <;> intro h
  -- the last arm of `SnapTh.step`, phase `finished`, is the only one without a step
  case case7 hph => exact hph
  all_goals cases h

/-- between two visits: no `trafficCollector` call is under way -/
def Phase.idle : Phase → Prop
  | .anon | .visiting _ _ => False
  | _ => True

/-- the rest of a visit's program: of `snapshotAndReset` (distinct `Swap(0)`s into fields of the same name, still
unwritten) for a resetting snapshot, loads otherwise -/
def Visit.ProgOK (reset : Bool) (v : Visit) : Prop :=
  if reset then ResetOK v.lit v.pc else ∀ x ∈ v.pc, isLoad x = true

theorem Visit.progOK_idle (reset : Bool) : Visit.idle.ProgOK reset := by
  cases reset
  · exact fun _ h => absurd h List.not_mem_nil
  · exact ⟨fun _ h => absurd h List.not_mem_nil, List.nodup_nil⟩

structure SnapTh.WF (s : SnapTh) : Prop where
  prog : s.v.ProgOK s.reset
  idle : s.phase.idle → s.v = Visit.idle
  fresh : s.phase = .anon → s.done = []
  /-- `s.Traffic` (the server totals of the snapshot under construction) is the sum, modulo 2^64, of the
  `Traffic` values obtained so far -/
  total : ∀ f, ModLe (s.total.get f) (sumAll f s.done)

/-- a Collect* thread has only adds left and holds the collector `serverCollector.trafficCollector(username)`
selects -/
def Thread.WF : Thread → Prop
  | .collect c => (∀ s ∈ c.v.pc, isAdd s = true) ∧ c.v.t = target c.u
  | .snap s => s.WF

theorem mkCollect_WF (g : GenOK) (c : Call) (u : String) (x0 x1 : Nat) : (Thread.collect (mkCollect c u x0 x1)).WF := by
  refine ⟨fun s hs => ?_, rfl⟩
  obtain ⟨s0, h0, rfl⟩ := List.mem_map.mp hs
  have := g.collect_adds _ s0 h0
  cases s0 with
  | add f a => rfl
  | _ => cases this

theorem mkSnap_WF (g : GenOK) (reset : Bool) : (mkSnap reset).WF where
  prog := by
    cases reset
    · exact g.load_anon
    · exact g.reset_anon
  idle := False.elim
  fresh _ := rfl
  total _ := ModLe.refl 0

/-- one step of `th` leaves `got + counter + pend` for collector `t`, counter `f` the same as a `uint64` and does not
increase it (an add may wrap the counter) -/
abbrev Conserved (t : Target) (f : Field) (sh sh' : Shared) (th th' : Thread) : Prop :=
  ModLe (th'.got t f + (sh'.ctr t).get f + th'.pend t f) (th.got t f + (sh.ctr t).get f + th.pend t f)

theorem collect_step_ok {sh sh' : Shared} {c c' : CollectTh} (h : c.step sh = some (sh', c'))
    (hwf : (Thread.collect c).WF) :
    (Thread.collect c').WF ∧ (∀ t, t ≠ c.v.t → sh'.ctr t = sh.ctr t) ∧
    ∀ t f, Conserved t f sh sh' (.collect c) (.collect c') := by
  revert h
  fun_cases CollectTh.step sh c <;> intro h <;> cases h
  -- stages `lookup` and `create`
  case case1 | case2 => exact ⟨hwf, fun _ _ => rfl, fun _ _ => ModLe.refl _⟩
  -- stage `run`, next operation `x`
  case case5 x rest hpc _ _ he =>
    obtain ⟨f0, a, rfl⟩ := isAdd_elim (hwf.1 x (hpc ▸ List.mem_cons_self))
    cases he
    refine ⟨⟨fun y hy => hwf.1 y (hpc ▸ List.mem_cons_of_mem _ hy), hwf.2⟩, fun t ht => exec_ctr_other (.add f0 a) rest ht, fun t f => ?_⟩
    -- the add moves `a` from `pend` into the counter, which may wrap
    simp only [Conserved, Thread.got, Thread.pend, hpc, pendPc, Store.upd_get]
    by_cases ht : c.v.t = t
    · by_cases hf : f0 = f
      · simp only [ht, hf, and_self, if_true, Nat.zero_add]
        exact (((ModLe.mod_left _).add (.refl _)).trans (.of_eq (Nat.add_assoc ..)))
      · simp only [ht, hf, and_false, if_false, if_true, Nat.zero_add]; exact ModLe.refl _
    · simp only [ht, false_and, if_false]; exact ModLe.refl _

theorem got_visit_end (s : SnapTh) (p : Phase) (tot : Counters) (t : Target) (f : Field) :
    Thread.got t f (.snap { s with phase := p, total := tot, done := s.done ++ [(s.v.t, s.v.lit)], v := Visit.idle })
      = Thread.got t f (.snap s) := by
  simp only [Thread.got, sumDone_append, sumDone, idle_lit_get, Nat.add_zero]

theorem snap_step_ok (g : GenOK) {order : List String} {sh sh' : Shared} {s s' : SnapTh}
    (h : s.step order sh = some (sh', s')) (hwf : s.WF) :
    s'.WF ∧ ∀ t f, Conserved t f sh sh' (.snap s) (.snap s') := by
  cases SnapTh.step_rel h with
  | op x rest hpc =>
    have hidle (hi : s.phase.idle) : (exec sh.ctr s.v x rest).2 = Visit.idle := by
      rw [hwf.idle hi] at hpc; cases hpc
    have hprog := hwf.prog
    rw [Visit.ProgOK, hpc] at hprog
    cases hr : s.reset with
    | false =>
      -- a plain snapshot only loads
      simp only [hr, Bool.false_eq_true, if_false] at hprog
      obtain ⟨f0, o, rfl⟩ := isLoad_elim (hprog x List.mem_cons_self)
      refine ⟨{ hwf with idle := hidle, prog := ?_ }, fun t f => ModLe.of_eq ?_⟩
      · simp only [Visit.ProgOK, Bool.false_eq_true, if_false, exec]
        exact fun y hy => hprog y (List.mem_cons_of_mem _ hy)
      · simp only [Thread.got, Thread.pend, hr, Bool.false_eq_true, if_false, exec]
    | true =>
      -- a resetting snapshot swaps the counter into its own field of the literal, which held 0
      simp only [hr, if_true] at hprog
      obtain ⟨f0, rfl, hz, hrest⟩ := resetOK_cons hprog
      refine ⟨{ hwf with idle := hidle, prog := ?_ }, fun t f => ModLe.of_eq ?_⟩
      · simp only [Visit.ProgOK, if_true, exec]
        exact hrest _
      · simp only [Thread.got, Thread.pend, hr, if_true, exec, Store.upd_get, Counters.get_set]
        by_cases ht : s.v.t = t
        · by_cases hf : f0 = f
          · subst hf; simp only [ht, and_self, if_true, hz]; omega
          · simp only [ht, hf, and_false, if_false, if_true]
        · simp only [ht, false_and, if_false]
  | anonEnd hpc hph =>
    refine ⟨⟨Visit.progOK_idle _, fun _ => rfl, nofun, fun f => ?_⟩,
      fun t f => ModLe.of_eq (congrArg (· + _ + _) (got_visit_end ..))⟩
    simp only [hwf.fresh hph, List.nil_append, sumAll, Nat.add_zero]
    exact ModLe.refl _
  | rlock hpc hph | runlock hpc hph =>
    exact ⟨{ hwf with idle := fun _ => hwf.idle (hph ▸ trivial), fresh := nofun },
      fun _ _ => ModLe.refl _⟩
  | userBegin u todo hpc hph =>
    refine ⟨{ hwf with idle := False.elim, fresh := nofun, prog := ?_ }, fun t f => ModLe.of_eq ?_⟩
    · cases hr : s.reset
      · exact g.load_user
      · exact g.reset_user
    · -- the literal that is dropped is empty
      simp only [Thread.got, Thread.pend, hwf.idle (hph ▸ trivial), idle_lit_get, Counters.get_zero, ite_self]
  | userEnd u todo hpc hph =>
    refine ⟨⟨Visit.progOK_idle _, fun _ => rfl, nofun, fun f => ?_⟩,
      fun t f => ModLe.of_eq (congrArg (· + _ + _) (got_visit_end ..))⟩
    -- `Traffic.Add` wraps; the sum of what was obtained does not
    rw [g.add_pointwise, sumAll_append]
    exact (ModLe.mod_left _).trans ((hwf.total f).add (.of_eq (Nat.add_zero _).symm))

theorem map_snd_eq_some {α β γ : Type} {g : β → γ} {o : Option (α × β)} {a : α} {b : γ} :
    o.map (fun r => (r.1, g r.2)) = some (a, b) ↔ ∃ c, o = some (a, c) ∧ b = g c := by
  simp only [Option.map_eq_some_iff, Prod.exists, Prod.mk.injEq]
  constructor
  · rintro ⟨_, c, h, rfl, rfl⟩; exact ⟨c, h, rfl⟩
  · rintro ⟨c, h, rfl⟩; exact ⟨_, c, h, rfl, rfl⟩

theorem Thread.step_collect {order : List String} {sh sh' : Shared} {c : CollectTh} {th' : Thread} :
    Thread.step order sh (.collect c) = some (sh', th') ↔ ∃ c', c.step sh = some (sh', c') ∧ th' = .collect c' :=
  map_snd_eq_some

theorem Thread.step_snap {order : List String} {sh sh' : Shared} {s : SnapTh} {th' : Thread} :
    Thread.step order sh (.snap s) = some (sh', th') ↔ ∃ s', s.step order sh = some (sh', s') ∧ th' = .snap s' :=
  map_snd_eq_some

theorem thread_step_ok (g : GenOK) {order : List String} {sh sh' : Shared} {th th' : Thread}
    (h : Thread.step order sh th = some (sh', th')) (hwf : th.WF) :
    th'.WF ∧ ∀ t f, Conserved t f sh sh' th th' := by
  cases th with
  | collect c =>
    obtain ⟨c', hc, rfl⟩ := Thread.step_collect.mp h
    exact ⟨(collect_step_ok hc hwf).1, (collect_step_ok hc hwf).2.2⟩
  | snap s =>
    obtain ⟨s', hs, rfl⟩ := Thread.step_snap.mp h
    exact snap_step_ok g hs hwf

end SSV.Stats
