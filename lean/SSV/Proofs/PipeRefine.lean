import SSV.Proofs.Pipe
/-
C15 — refinement: the goroutine-pc model implements the abstract direction of the property statement.
-/
namespace SSV.Pipe

/-- the abstract direction: the byte stream delivered to the reading end, the writes (in the order in which
they were admitted) each with the number of its bytes delivered so far, and how the direction was closed -/
structure Spec where
  delivered : Bytes
  writes : List (Bytes × Nat)
  closed : Option Err

/-- the atomic actions of the abstract direction: only the LAST admitted write delivers, a prefix at a time -/
inductive SpecStep (a : Spec) : Spec → Prop where
  | admitWrite (buf : Bytes) : SpecStep a { a with writes := a.writes ++ [(buf, 0)] }
  | deliver (pre : List (Bytes × Nat)) (buf : Bytes) (n k : Nat) :
      a.writes = pre ++ [(buf, n)] → n + k ≤ buf.length →
      SpecStep a { a with writes := pre ++ [(buf, n + k)], delivered := a.delivered ++ (buf.drop n).take k }
  | close (e : Err) : a.closed = none → SpecStep a { a with closed := some e }

def abs (s : State) : Spec :=
  { delivered := s.rret, writes := s.wlog, closed := if s.done then s.err else none }

theorem abs_setT (g : State) (i : Nat) (p : PC) : abs (g.setT i p) = abs g := rfl

/-- admitWrite = the write takes the lock; deliver = the count-back completes a hand-shake;
close = `close(done)` for the first time -/
theorem step_refines {s s' : State} (h : Inv s) (st : Step s s') : abs s' = abs s ∨ SpecStep (abs s) (abs s') := by
  rcases st.start_or_internal with ⟨i, op, _, rfl⟩ | st
  · exact .inl rfl
  cases st.rule h with
  | finish | fireR | fireW | data => exact .inl rfl
  | @loc i p p' g hp l =>
    cases l
    case wLock => exact .inr (.admitWrite _)
    case cStore e =>
      -- a second `Store` loses the CAS; a first one is not yet visible (`done` is still open)
      left; simp only [abs, State.setT]
      by_cases hd : s.done = true
      · obtain ⟨e', he'⟩ := Inv.err_of_done h hd
        simp [hd, he']
      · simp [hd]
    case cClose =>
      by_cases hd : s.done = true
      · exact .inl (by rw [abs_setT]; simp [abs, hd])
      · obtain ⟨e, he⟩ := Option.ne_none_iff_exists'.mp (h.closeOk i hp)
        have : abs ({ s with done := true }.setT i (.uRet .nil)) = { abs s with closed := some e } := by
          simp [abs, State.setT, hd, he]
        rw [this]; exact .inr (.close e (by simp [abs, hd]))
    all_goals exact .inl rfl
  | @count i j k acc nr fail b n ci m q hi hj hle _ _ =>
    obtain ⟨pre, o, hpre, _, hsc, hb, hno⟩ := Inv.count_log h hj hle
    rw [abs_setT, abs_setT]
    simp only [abs, hsc, hb]
    exact .inr (.deliver pre o n nr hpre hno)

theorem spec_fidelity {s : State} (h : Inv s) : (abs s).delivered = consumed (abs s).writes := h.fid

end SSV.Pipe
