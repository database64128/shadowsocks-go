import SSV.Model.Stream
/-
Lemmas about the codecs and the transport reads (`readFull`, `readFullSeg`, `openPart`) of SSV.Model.Stream, and
the facts regenerated from the source.

A proof in the stream modules that follows the branches of a model function `f` opens with `fun_cases f args`
(`fun_induction` for a recursive `f`); the call has to stand in the goal, so a hypothesis about it is reverted first.
-/
namespace SSV.Stream
open SSV.Gen.C01

/-! The facts regenerated from the source (`SSV.Gen.C01`) that the stream proofs rest on, each stated
once. A fact that fails of /repo stops the build here. (`decryptAdvancesOnlyOnSuccess`,
`connAddrFromSliceCopies` and `connWriteContextAlwaysStops` are decided where their one theorem is.) -/

theorem writeTo_flushes : writeToFlushesLeftover = true := by decide

theorem tunnel_flushes : tunnelFlushesLeftover = true := by decide

theorem readErrors_sticky : readErrorsSticky = true := by decide

theorem boundary_retryable : boundaryTimeoutRetryable = true := by decide

theorem readFrom_dataFirst : readFromHandlesDataFirst = true := by decide

theorem serverFirstRead_dataFirst : serverFirstReadHandlesDataFirst = true := by decide

/-- the AEAD laws C01 needs: correctness and the length law -/
structure AeadOK (C : Crypto) : Prop where
  dec_enc : ∀ k n p, C.dec k n (C.enc k n p) = some p
  enc_len : ∀ k n p, (C.enc k n p).length = p.length + tagSize

theorem be16_length (n : Nat) : (be16 n).length = 2 := rfl

theorem unbe16_be16 (n : Nat) (h : n < 65536) (rest : Bytes) : unbe16 (be16 n ++ rest) = n := by
  simp only [be16, unbe16, List.cons_append, List.nil_append,
    UInt8.toNat_ofNat_of_lt' ((Nat.div_lt_iff_lt_mul (k := 256) (by decide)).mpr h), UInt8.toNat_ofNat_of_lt' (Nat.mod_lt n (by decide))]
  exact Nat.div_add_mod' n 256

theorem unbe16_be16_self {n : Nat} (h : n < 65536) : unbe16 (be16 n) = n := by
  simpa using unbe16_be16 n h []

theorem unbe16_be16_length {p : Bytes} (h : p.length ≤ streamMaxPayloadSize) : unbe16 (be16 p.length) = p.length :=
  unbe16_be16_self (by have : streamMaxPayloadSize = 65535 := rfl; omega)

theorem unbeN_beN (k n : Nat) : unbeN (beN k n) = n % 256 ^ k := by
  induction k generalizing n with
  | zero => simp [beN, unbeN, Nat.mod_one]
  | succ k ih =>
    have hsnoc : ∀ xs : Bytes, ∀ b : UInt8, unbeN (xs ++ [b]) = unbeN xs * 256 + b.toNat := by
      simp [unbeN, List.foldl_append]
    rw [beN, hsnoc, ih, UInt8.toNat_ofNat_of_lt' (Nat.mod_lt n (by decide) : n % 256 < UInt8.size),
      Nat.pow_succ, Nat.mul_comm (256 ^ k) 256, Nat.mod_mul, Nat.add_comm, Nat.mul_comm]

theorem unbeN_be64 (ts : Nat) (h : ts < 2 ^ 64) : unbeN (be64 ts) = ts := by
  rw [be64, unbeN_beN]
  exact Nat.mod_eq_of_lt (by simpa using h)

theorem be64_length (ts : Nat) : (be64 ts).length = 8 := by
  simp only [be64, beN, List.length_append, List.length_cons, List.length_nil]

/-- the clocks agree within `MaxEpochDiff` seconds -/
def ClockOK (ts : Nat) (now : Int) : Prop := ts < 2 ^ 63 ∧ tsOk ts now = true

theorem hdr_fields (t : UInt8) (ts : Nat) (x : Bytes) :
    (t :: (be64 ts ++ x)).headD 0 = t ∧ ((t :: (be64 ts ++ x)).drop 1).take 8 = be64 ts ∧
    (t :: (be64 ts ++ x)).drop 9 = x := by
  have h8 := be64_length ts
  refine ⟨rfl, ?_, ?_⟩
  · rw [List.drop_succ_cons, List.drop_zero, ← h8, List.take_left]
  · rw [List.drop_succ_cons, ← h8, List.drop_left]

theorem readFull_ok (a b : Bytes) (n : Nat) (h : a.length = n) (hn : n ≠ 0) :
    readFull n (a ++ b) = .ok (a, b) := by
  subst h
  simp [readFull, hn]

theorem readFull_inv (n : Nat) (w : Bytes) :
    match readFull n w with
    | .ok (a, b) => w = a ++ b
    | .error e => (e = .eof ∧ w = []) ∨ e = .unexpectedEOF := by
  fun_cases readFull n w
  · rfl
  · exact Or.inl ⟨rfl, List.length_eq_zero_iff.mp ‹_›⟩
  · exact Or.inr rfl
  · exact (List.take_append_drop n w).symm

theorem readFull_split {n : Nat} {w a b : Bytes} (h : readFull n w = .ok (a, b)) : w = a ++ b := by
  have := readFull_inv n w
  rwa [h] at this

theorem readFullSeg_flat (n got : Nat) (segs : List Bytes) :
    (∀ a b, segs.flatten = a ++ b → a.length = n → ∃ segs', readFullSeg n got segs = .ok (a, segs') ∧ segs'.flatten = b) ∧
    (segs.flatten.length < n →
      readFullSeg n got segs = .error (if got = 0 ∧ segs.flatten.length = 0 then .eof else .unexpectedEOF)) := by
  fun_induction readFullSeg n got segs
  case case1 =>
    -- nothing asked for
    refine ⟨fun a b hab ha => ?_, nofun⟩
    obtain rfl := List.length_eq_zero_iff.mp ha
    exact ⟨_, rfl, hab⟩
  case case2 | case3 =>
    -- nothing left
    refine ⟨fun a b hab ha => ?_, fun _ => by simp [*]⟩
    rw [(List.append_eq_nil_iff.mp hab.symm).1] at ha
    cases ha
  case case4 s rest hs0 ih =>
    -- an empty segment carries nothing
    rw [List.flatten_cons, List.length_eq_zero_iff.mp hs0, List.nil_append]
    exact ih
  case case5 n got s rest _ hle =>
    -- the segment holds all that is asked for
    refine ⟨fun a b hab ha => ⟨s.drop (n + 1) :: rest, ?_, ?_⟩, fun h => ?_⟩
    · rw [← List.take_append_of_le_length hle, ← List.flatten_cons, hab, List.take_left' ha]
    · rw [List.flatten_cons, ← List.drop_append_of_le_length hle, ← List.flatten_cons, hab, List.drop_left' ha]
    · rw [List.flatten_cons, List.length_append] at h; omega
  case case6 n got s rest hs0 hle bs r hrec ih | case7 n got s rest hs0 hle e hrec ih =>
    -- the segment is used up, the rest comes from the later ones: they suffice (6) or not (7); `cases e`, `cases hx`
    -- close the goal in one arm and refute the recursive call's result in the other
    rw [hrec] at ih
    rw [List.flatten_cons, List.length_append]
    refine ⟨fun a b hab ha => ?_, fun h => ?_⟩
    · obtain ⟨a', rfl, hr⟩ | ⟨c', rfl, -⟩ := List.append_eq_append_iff.mp hab
      · obtain ⟨segs', e, hf⟩ := ih.1 a' b hr (Nat.eq_sub_of_add_eq' (List.length_append ▸ ha))
        exact ⟨segs', by cases e <;> rfl, hf⟩
      · rw [List.length_append] at hle; omega
    · have hx := ih.2 (by omega)
      rw [if_neg fun h' => hs0 (Nat.eq_zero_of_add_eq_zero_left h'.1)] at hx
      rw [if_neg fun h' => hs0 (Nat.eq_zero_of_add_eq_zero_right h'.2)]
      cases hx <;> rfl

/-- one AEAD part of a chunk, as `read` and `readFirstPayloadChunk` handle it: `io.ReadFull` of `len + tagSize`
bytes, then open them under nonce `n`. `readChunk` is two parts (`readChunk_eq`), `firstPayload` is one
(`firstPayload_eq`); what the stream proofs know about a chunk they know about a part: `openPart_enc` (the
genuine part opens), `openPart_auth` (what opens is genuine), `openPart_cut` (a part cut short fails). -/
def openPart (C : Crypto) (k : Bytes) (n len : Nat) (w : Bytes) : ChunkRes :=
  match readFull (len + tagSize) w with
  | .error e => ⟨.error e, n, []⟩
  | .ok (c, w') =>
    match C.dec k n c with
    | none => ⟨.error .auth, failNonce n, w'⟩
    | some p => ⟨.ok p, n + 1, w'⟩

theorem readChunk_eq (C : Crypto) (k : Bytes) (n : Nat) (w : Bytes) :
    readChunk C k n w =
      match (openPart C k n 2 w).res with
      | .error _ => openPart C k n 2 w
      | .ok lp =>
        if unbe16 lp = 0 then ⟨.error .zeroLenChunk, n + 1, (openPart C k n 2 w).wire⟩
        else openPart C k (n + 1) (unbe16 lp) (openPart C k n 2 w).wire := by
  unfold readChunk openPart
  cases readFull (2 + tagSize) w with
  | error e => rfl
  | ok r1 =>
    dsimp only
    cases C.dec k n r1.1 <;> rfl

theorem firstPayload_eq (C : Crypto) (c : CReader) (len : Nat) :
    firstPayload C c len =
      match c.r with
      | none => (.error .fuel, c)
      | some r =>
        let z := openPart C r.key r.nonce len r.wire
        (z.res, { c with r := some { r with nonce := z.nonce, wire := z.wire } }) := by
  unfold firstPayload openPart
  cases c.r with
  | none => rfl
  | some r =>
    dsimp only
    cases readFull (len + tagSize) r.wire with
    | error e => rfl
    | ok r1 =>
      dsimp only
      cases C.dec r.key r.nonce r1.1 <;> rfl

theorem openPart_inv (C : Crypto) (k : Bytes) (n len : Nat) (w : Bytes) :
    (∀ p, (openPart C k n len w).res = .ok p →
      ∃ c, C.dec k n c = some p ∧ w = c ++ (openPart C k n len w).wire ∧ (openPart C k n len w).nonce = n + 1) ∧
    ((openPart C k n len w).res = .error .eof → w = [] ∧ (openPart C k n len w).wire = []) ∧
    ((openPart C k n len w).res = .error .auth → (openPart C k n len w).nonce = failNonce n) := by
  have h1 := readFull_inv (len + tagSize) w
  unfold openPart
  split <;> rw [‹readFull _ _ = _›] at h1
  · exact ⟨nofun, fun h => by cases h; exact ⟨h1.elim (·.2) nofun, rfl⟩, fun h => by cases h; simp at h1⟩
  · rename_i c w' _
    cases hd : C.dec k n c with
    | none => exact ⟨nofun, nofun, fun _ => rfl⟩
    | some q => exact ⟨fun p hp => ⟨c, by cases hp; exact hd, h1, rfl⟩, nofun, nofun⟩

theorem openPart_enc {C : Crypto} (hC : AeadOK C) {p : Bytes} {len : Nat} (hl : p.length = len) (k : Bytes) (n : Nat)
    (rest : Bytes) : openPart C k n len (C.enc k n p ++ rest) = ⟨.ok p, n + 1, rest⟩ := by
  subst hl
  rw [openPart, readFull_ok _ _ _ (hC.enc_len _ _ _) (by simp [tagSize])]
  simp only [hC.dec_enc]

theorem readChunk_sealChunk {C : Crypto} (hC : AeadOK C) (k : Bytes) (n : Nat) (p rest : Bytes)
    (h0 : p.length ≠ 0) (hmax : p.length ≤ streamMaxPayloadSize) :
    readChunk C k n (sealChunk C k n p ++ rest) = ⟨.ok p, n + 2, rest⟩ := by
  rw [readChunk_eq, sealChunk, List.append_assoc, openPart_enc hC (be16_length _)]
  simp only [unbe16_be16_length hmax, h0, ↓reduceIte, openPart_enc hC rfl]

theorem readChunk_nil (C : Crypto) (k : Bytes) (n : Nat) : readChunk C k n [] = ⟨.error .eof, n, []⟩ := by
  simp [readChunk_eq, openPart, readFull, tagSize]

theorem openPart_cut {C : Crypto} (hC : AeadOK C) (k : Bytes) (n : Nat) (p q q2 : Bytes)
    (hq : C.enc k n p = q ++ q2) (hq2 : q2 ≠ []) :
    openPart C k n p.length q = ⟨.error (if q.length = 0 then .eof else .unexpectedEOF), n, []⟩ := by
  have hl := congrArg List.length hq
  have h2 : q2.length ≠ 0 := fun h => hq2 (List.length_eq_zero_iff.mp h)
  simp only [hC.enc_len, List.length_append] at hl
  have hr : readFull (p.length + tagSize) q = .error (if q.length = 0 then .eof else .unexpectedEOF) := by
    have ht : tagSize = 16 := rfl
    unfold readFull
    rw [if_neg (by omega)]
    split
    · rfl
    · rw [if_pos (by omega)]
  rw [openPart, hr]

theorem readChunk_partial {C : Crypto} (hC : AeadOK C) (k : Bytes) (n : Nat) (p q q2 : Bytes)
    (h0 : p.length ≠ 0) (hmax : p.length ≤ streamMaxPayloadSize)
    (hq : sealChunk C k n p = q ++ q2) (hq1 : q ≠ []) (hq2 : q2 ≠ []) :
    ∃ e n', readChunk C k n q = ⟨.error e, n', []⟩ ∧ (e = .unexpectedEOF ∨ (e = .eof ∧ n' = n + 1)) := by
  have hq0 : q.length ≠ 0 := fun h => hq1 (List.length_eq_zero_iff.mp h)
  rw [readChunk_eq]
  -- `q` holds the whole length part and `c` of the payload part, or only a proper part of the length part
  obtain ⟨c, hc, hb⟩ | ⟨a, ha, ha0⟩ : (∃ c, q = C.enc k n (be16 p.length) ++ c ∧ C.enc k (n + 1) p = c ++ q2) ∨
      (∃ a, C.enc k n (be16 p.length) = q ++ a ∧ a ≠ []) := by
    rcases List.append_eq_append_iff.mp hq with h | ⟨a, ha, hb⟩
    · exact Or.inl h
    · by_cases ha0 : a = []
      · exact Or.inl ⟨[], by simp [ha, ha0], by simp [hb, ha0]⟩
      · exact Or.inr ⟨a, ha, ha0⟩
  · have h1 := openPart_enc hC (be16_length p.length) k n c
    rw [← hc] at h1
    have h2 := openPart_cut hC k (n + 1) p c q2 hb hq2
    simp only [h1, unbe16_be16_length hmax, h0, ↓reduceIte, h2]
    by_cases hc0 : c.length = 0
    · exact ⟨_, _, by rw [if_pos hc0], Or.inr ⟨rfl, rfl⟩⟩
    · exact ⟨_, _, by rw [if_neg hc0], Or.inl rfl⟩
  · have h1 := openPart_cut hC k n (be16 p.length) q a ha ha0
    rw [be16_length, if_neg hq0] at h1
    simp only [h1]
    exact ⟨_, _, rfl, Or.inl rfl⟩

def ValidChunks (cs : List Bytes) : Prop := ∀ p ∈ cs, p.length ≠ 0 ∧ p.length ≤ streamMaxPayloadSize

theorem ValidChunks.nil : ValidChunks [] := by intro p hp; cases hp

theorem ValidChunks.cons {p : Bytes} {cs : List Bytes} (h0 : p.length ≠ 0) (h1 : p.length ≤ streamMaxPayloadSize)
    (h : ValidChunks cs) : ValidChunks (p :: cs) :=
  List.forall_mem_cons.mpr ⟨⟨h0, h1⟩, h⟩

theorem ValidChunks.append {a b : List Bytes} (ha : ValidChunks a) (hb : ValidChunks b) : ValidChunks (a ++ b) := by
  intro q hq
  rcases List.mem_append.mp hq with h | h
  · exact ha q h
  · exact hb q h

theorem ValidChunks.tail {p : Bytes} {cs : List Bytes} (h : ValidChunks (p :: cs)) : ValidChunks cs :=
  (List.forall_mem_cons.mp h).2

theorem flatten_nil_of_valid {cs : List Bytes} (hv : ValidChunks cs) (h : cs.flatten = []) : cs = [] := by
  cases cs with
  | nil => rfl
  | cons p ps =>
    have := (hv p List.mem_cons_self).1
    simp only [List.flatten_cons, List.append_eq_nil_iff] at h
    exact absurd (by rw [h.1]; rfl) this

theorem splitChunks_flatten (maxp : Nat) (hm : maxp ≠ 0) :
    ∀ (fuel : Nat) (d : Bytes), d.length ≤ fuel → (splitChunks maxp fuel d).flatten = d := by
  intro fuel
  induction fuel with
  | zero => intro d hd; simp at hd; subst hd; simp [splitChunks]
  | succ f ih =>
    intro d hd
    unfold splitChunks
    by_cases h0 : d.length = 0
    · simp [List.length_eq_zero_iff.mp h0]
    · simp only [h0, ↓reduceIte, List.flatten_cons]
      rw [ih (d.drop maxp) (by simp; omega)]
      exact List.take_append_drop maxp d

theorem splitChunks_valid (maxp : Nat) (hm : maxp ≠ 0) :
    ∀ (fuel : Nat) (d : Bytes), ∀ p ∈ splitChunks maxp fuel d, p.length ≠ 0 ∧ p.length ≤ maxp := by
  intro fuel
  induction fuel with
  | zero => intro d p hp; simp [splitChunks] at hp
  | succ f ih =>
    intro d p hp
    unfold splitChunks at hp
    by_cases h0 : d.length = 0
    · simp [h0] at hp
    · simp only [h0, ↓reduceIte, List.mem_cons] at hp
      rcases hp with rfl | hp
      · simp only [List.length_take]; omega
      · exact ih _ p hp

theorem writeChunks_flatten (b : Bytes) : (writeChunks b).flatten = b :=
  splitChunks_flatten _ (by decide) _ _ (Nat.le_refl _)

theorem writeChunks_valid (b : Bytes) : ValidChunks (writeChunks b) :=
  splitChunks_valid _ (by decide) _ _

theorem readFromChunks_flatten (cap0 : Nat) (pieces : List Bytes) :
    (readFromChunks cap0 pieces).flatten = pieces.flatten := by
  induction pieces generalizing cap0 with
  | nil => simp [readFromChunks]
  | cons p ps ih =>
    unfold readFromChunks
    by_cases h0 : p.length = 0
    · simp [ih, List.length_eq_zero_iff.mp h0]
    · simp only [h0, ↓reduceIte, List.flatten_cons, List.flatten_append, ih]
      rw [splitChunks_flatten _ (by decide) _ _ (by simp)]
      rw [← List.append_assoc, List.take_append_drop]

theorem readFromChunks_valid (cap0 : Nat) (h0 : cap0 ≠ 0) (hc : cap0 ≤ streamMaxPayloadSize) (pieces : List Bytes) :
    ValidChunks (readFromChunks cap0 pieces) := by
  induction pieces generalizing cap0 with
  | nil => simp [readFromChunks]; exact ValidChunks.nil
  | cons p ps ih =>
    unfold readFromChunks
    by_cases hp : p.length = 0
    · simp only [hp, ↓reduceIte]; exact ih cap0 h0 hc
    · simp only [hp, ↓reduceIte]
      refine ValidChunks.cons ?_ ?_ (ValidChunks.append (splitChunks_valid _ (by decide) _ _) (ih _ (by decide) (Nat.le_refl _)))
      all_goals simp only [List.length_take]; omega

theorem emit_spec (C : Crypto) (w : Writer) (cs : List Bytes) :
    (w.emit C cs).1.flatten = encodeChunks C w.key w.nonce cs ∧
    (w.emit C cs).2 = ⟨w.key, w.nonce + 2 * cs.length⟩ ∧ (w.emit C cs).1.length = cs.length := by
  induction cs generalizing w with
  | nil => simp [Writer.emit, encodeChunks]
  | cons p ps ih =>
    have := ih { w with nonce := w.nonce + 2 }
    simp only [Writer.emit, encodeChunks, List.flatten_cons, List.length_cons]
    refine ⟨by rw [this.1], ?_, by rw [this.2.2]⟩
    rw [this.2.1]
    simp only [Writer.mk.injEq, true_and]
    omega

theorem encodeChunks_append (C : Crypto) (k : Bytes) (n : Nat) (a b : List Bytes) :
    encodeChunks C k n (a ++ b) = encodeChunks C k n a ++ encodeChunks C k (n + 2 * a.length) b := by
  induction a generalizing n with
  | nil => simp [encodeChunks]
  | cons p ps ih =>
    simp only [List.cons_append, encodeChunks, ih, List.append_assoc, List.length_cons]
    congr 3
    omega

theorem encodeChunks_length_ge {C : Crypto} (hC : AeadOK C) (k : Bytes) (n : Nat) (cs : List Bytes) :
    cs.length ≤ (encodeChunks C k n cs).length := by
  induction cs generalizing n with
  | nil => simp
  | cons p ps ih =>
    simp only [encodeChunks, sealChunk, List.length_cons, List.length_append, hC.enc_len, be16_length]
    have := ih (n + 2)
    omega

theorem leVal_lt (b : Bytes) : leVal b < 256 ^ b.length := by
  induction b with
  | nil => simp [leVal]
  | cons x xs ih =>
    simp only [leVal, List.length_cons, Nat.pow_succ]
    have := x.toNat_lt
    omega

theorem incrementLE_length (b : Bytes) : (incrementLE b).length = b.length := by
  induction b with
  | nil => rfl
  | cons x xs ih => unfold incrementLE; split <;> simp [ih]

theorem leVal_incrementLE (b : Bytes) : leVal (incrementLE b) = (leVal b + 1) % 256 ^ b.length := by
  -- a byte's successor is the number's successor, unless the byte was 255 and becomes 0
  have byte : ∀ x : UInt8, (x + 1).toNat = (x.toNat + 1) % 256 := fun x => by rw [UInt8.toNat_add]; rfl
  fun_induction incrementLE b
  case case1 => rfl
  case case2 x xs h =>
    -- no carry: the sum stays below the modulus
    have hxs := leVal_lt xs
    have hx : x.toNat + 1 < 256 := by
      have := x.toNat_lt
      refine Nat.lt_of_le_of_ne this fun h2 => h (UInt8.toNat_inj.mp ?_)
      rw [byte, h2]; rfl
    simp only [leVal, List.length_cons, Nat.pow_succ]
    rw [byte, Nat.mod_eq_of_lt hx, Nat.mod_eq_of_lt (by omega)]
    omega
  case case3 x xs h ih =>
    -- carry: the low byte becomes 0 and `256 *` commutes with the modulus
    have h0 : (x + 1).toNat = 0 := by rw [Decidable.not_not.mp h]; rfl
    have h255 : x.toNat = 255 := by have := x.toNat_lt; rw [byte] at h0; omega
    simp only [leVal, List.length_cons, Nat.pow_succ, ih, h0, h255, Nat.zero_add]
    rw [show 255 + 256 * leVal xs + 1 = 256 * (leVal xs + 1) by omega, Nat.mul_comm (256 ^ xs.length) 256,
      Nat.mul_mod_mul_left]

end SSV.Stream
