/-
The decimal printer that `HS.natDecAux` (HandshakeText) and `DomainSet.natToDecAux` (DomainText) both are, specified once:
of any function with the printer's equation, so that neither family needs the other's model.
-/
namespace SSV

theorem decimal_spec {p : Nat → Nat → List UInt8 → List UInt8}
    (hp : ∀ f n acc, p (f + 1) n acc =
      if n < 10 then UInt8.ofNat (48 + n % 10) :: acc else p f (n / 10) (UInt8.ofNat (48 + n % 10) :: acc))
    (f : Nat) : ∀ (n : Nat) (acc : List UInt8), n < f →
    ∃ ds, p f n acc = ds ++ acc ∧ ds ≠ [] ∧ (∀ c ∈ ds, 48 ≤ c.toNat ∧ c.toNat ≤ 57) ∧
      ds.foldl (fun a c => a * 10 + (c.toNat - 48)) 0 = n := by
  induction f with
  | zero => intro n acc h; omega
  | succ f ih =>
    intro n acc h
    rw [hp]
    have hd : (UInt8.ofNat (48 + n % 10)).toNat = 48 + n % 10 :=
      UInt8.toNat_ofNat'.trans (Nat.mod_eq_of_lt (by omega))
    generalize UInt8.ofNat (48 + n % 10) = dg at hd ⊢
    have hdg : 48 ≤ dg.toNat ∧ dg.toNat ≤ 57 := by omega
    have hv : n / 10 * 10 + (dg.toNat - 48) = n := by
      rw [hd, Nat.add_sub_cancel_left]; exact Nat.div_add_mod' n 10
    split
    · next h0 =>
      rw [Nat.div_eq_of_lt h0] at hv
      exact ⟨[dg], rfl, by simp, by simpa using hdg, hv⟩
    · -- the digits of `n / 10` come out in front of the last digit of `n`
      obtain ⟨ds, h1, _, h3, h4⟩ := ih (n / 10) (dg :: acc) (by omega)
      refine ⟨ds ++ [dg], by rw [h1]; simp, by simp, ?_, by rw [List.foldl_append, h4]; exact hv⟩
      intro c hc
      rcases List.mem_append.mp hc with hc | hc
      · exact h3 c hc
      · rw [List.mem_singleton.mp hc]; exact hdg

end SSV
