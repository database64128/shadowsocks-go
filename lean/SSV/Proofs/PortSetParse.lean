import SSV.Proofs.PortSetRanges
/-
`add` / `addRange` at the word level set exactly the bits of the port / range; `Parse` is sound.
-/
namespace SSV.PortSet

theorem word_set (ws : Words) (i w j : Nat) :
    word (ws.set i w) j = if i = j ∧ i < ws.length then w else word ws j := by
  unfold word
  rw [List.getD_eq_getElem?_getD, List.getD_eq_getElem?_getD, List.getElem?_set]
  by_cases h : i = j
  · subst h
    by_cases hl : i < ws.length <;> simp [hl]
  · simp [h]

/-- every write of `add` / `addRange` except the whole-block fill has this form -/
theorem bitAt_set_or (ws : Words) (i m q : Nat) :
    bitAt (ws.set i (word ws i ||| m)) q
      = (bitAt ws q || (decide (i = q / 64 ∧ i < ws.length) && m.testBit (q % 64))) := by
  rw [bitAt_eq_testBit, bitAt_eq_testBit, word_set]
  split
  · next h => rw [Nat.testBit_or, h.1, decide_eq_true ⟨rfl, h.1 ▸ h.2⟩, Bool.true_and]
  · next h => rw [decide_eq_false h, Bool.false_and, Bool.or_false]

theorem testBit_shl_allOnes {k j : Nat} (hj : j < 64) :
    (shl64 allOnes k).testBit j = decide (k ≤ j) := by
  unfold shl64 allOnes W
  rw [Nat.testBit_mod_two_pow, Nat.testBit_shiftLeft, Nat.testBit_two_pow_sub_one]
  rw [Bool.eq_iff_iff]
  simp only [hj, decide_true, Bool.true_and, Bool.and_eq_true, decide_eq_true_eq]
  omega

theorem testBit_not_shl_allOnes {k j : Nat} (hj : j < 64) :
    (not64 (shl64 allOnes k)).testBit j = decide (j < k) := by
  have hx := shl64_lt allOnes k
  rw [not64_eq hx]
  have : 2 ^ 64 - 1 - shl64 allOnes k = 2 ^ 64 - (shl64 allOnes k + 1) := by omega
  rw [this, Nat.testBit_two_pow_sub_succ hx, testBit_shl_allOnes hj, Bool.eq_iff_iff]
  simp only [hj, decide_true, Bool.true_and, Bool.not_eq_true', decide_eq_false_iff_not, decide_eq_true_eq]
  omega

theorem testBit_one_shl {k j : Nat} (hk : k < 64) : (shl64 1 k).testBit j = decide (k = j) := by
  rw [shl64_one hk, Nat.testBit_two_pow]

theorem WF_set {ws : Words} (h : WF ws) (i w : Nat) (hw : w < 2 ^ 64) : WF (ws.set i w) := by
  refine ⟨by rw [List.length_set]; exact h.1, ?_⟩
  intro x hx
  rcases List.mem_or_eq_of_mem_set hx with h' | h'
  · exact h.2 x h'
  · rw [h']; exact hw

theorem word_lt {ws : Words} (h : WF ws) (i : Nat) : word ws i < 2 ^ 64 := by
  unfold word
  rw [List.getD_eq_getElem?_getD]
  cases hi : ws[i]? with
  | none => simp
  | some w => exact h.2 w (List.mem_of_getElem? hi)

theorem WF_empty : WF empty := by
  refine ⟨by simp [empty]; rfl, ?_⟩
  intro w hw
  simp [empty] at hw
  omega

theorem WF_add {ws : Words} (h : WF ws) (p : Nat) : WF (add ws p) := by
  unfold add
  apply WF_set h
  exact Nat.or_lt_two_pow (word_lt h _) (shl64_lt _ _)

theorem bitAt_add {ws : Words} (h : WF ws) {p q : Nat} (hp : p < 65536) (hq : q < 65536) :
    bitAt (add ws p) q = (bitAt ws q || decide (q = p)) := by
  show bitAt (ws.set (p / 64) (word ws (p / 64) ||| shl64 1 (p % 64))) q = _
  rw [bitAt_set_or, testBit_one_shl (Nat.mod_lt _ (by decide)), h.1, ← Bool.decide_and]
  congr 1
  refine decide_eq_decide.mpr ⟨fun ⟨⟨h1, _⟩, h2⟩ => ?_, fun e => e ▸ ⟨⟨rfl, by omega⟩, rfl⟩⟩
  rw [← Nat.div_add_mod q 64, ← h1, ← h2, Nat.div_add_mod]

theorem length_fillOnes : ∀ (n : Nat) (ws : Words) (lo : Nat), (fillOnes ws lo n).length = ws.length
  | 0, _, _ => rfl
  | n + 1, ws, lo => by rw [fillOnes, length_fillOnes n, List.length_set]

theorem word_fillOnes : ∀ (n : Nat) (ws : Words) (lo j : Nat),
    word (fillOnes ws lo n) j = if lo ≤ j ∧ j < lo + n ∧ j < ws.length then allOnes else word ws j
  | 0, ws, lo, j => by
    have : ¬ (lo ≤ j ∧ j < lo + 0 ∧ j < ws.length) := by omega
    rw [fillOnes, if_neg this]
  | n + 1, ws, lo, j => by
    rw [fillOnes, word_fillOnes n, List.length_set, word_set]
    by_cases h1 : lo + 1 ≤ j ∧ j < lo + 1 + n ∧ j < ws.length
    · rw [if_pos h1, if_pos (by omega)]
    · rw [if_neg h1]
      by_cases h2 : lo = j ∧ lo < ws.length
      · rw [if_pos h2, if_pos (by omega)]
      · rw [if_neg h2, if_neg (by omega)]

theorem WF_fillOnes : ∀ (n : Nat) (ws : Words) (lo : Nat), WF ws → WF (fillOnes ws lo n)
  | 0, _, _, h => h
  | n + 1, ws, lo, h => by
    rw [fillOnes]
    exact WF_fillOnes n _ _ (WF_set h lo allOnes (by decide))

theorem bitAt_fillOnes (ws : Words) {lo hi : Nat} (h : lo ≤ hi) (q : Nat) :
    bitAt (fillOnes ws lo (hi - lo)) q = (bitAt ws q || decide (lo ≤ q / 64 ∧ q / 64 < hi ∧ q / 64 < ws.length)) := by
  rw [bitAt_eq_testBit, bitAt_eq_testBit, word_fillOnes, Nat.add_sub_cancel' h]
  split
  · next h =>
    rw [decide_eq_true h, Bool.or_true]
    unfold allOnes
    rw [Nat.testBit_two_pow_sub_one]
    exact decide_eq_true (Nat.mod_lt _ (by decide))
  · next h => rw [decide_eq_false h, Bool.or_false]

theorem ite_set {α : Type} (l : List α) (i : Nat) (v : α) : (if i < l.length then l.set i v else l) = l.set i v := by
  split
  · rfl
  · next hn => exact (List.set_eq_of_length_le (Nat.le_of_not_lt hn)).symm

theorem WF_addRange {ws : Words} (h : WF ws) (a b : Nat) : WF (addRange ws a b) := by
  unfold addRange
  simp only [ite_set]
  split
  · exact WF_set h _ _ (Nat.or_lt_two_pow (word_lt h _) (Nat.and_lt_two_pow _ (not64_lt _)))
  · have h1 : WF (ws.set (blockIndex a) (word ws (blockIndex a) ||| shl64 allOnes (bitIndex a))) :=
      WF_set h _ _ (Nat.or_lt_two_pow (word_lt h _) (shl64_lt _ _))
    have h2 := WF_fillOnes (blockIndex b - (blockIndex a + 1)) _ (blockIndex a + 1) h1
    exact WF_set h2 _ _ (Nat.or_lt_two_pow (word_lt h2 _) (not64_lt _))

/-- the last block is written only if it exists: `b = 65536` ends in block 1024 -/
theorem bitAt_addRange {ws : Words} (h : WF ws) {a b q : Nat} (hab : a < b) (hb : b ≤ 65536) (hq : q < 65536) :
    bitAt (addRange ws a b) q = (bitAt ws q || (decide (a ≤ q) && decide (q < b))) := by
  have hj : q % 64 < 64 := Nat.mod_lt _ (by decide)
  unfold addRange
  simp only [ite_set]
  simp only [blockIndex, bitIndex, blockBits, SSV.Gen.C10.portsetBlockBits]
  by_cases hsame : a / 64 = b / 64
  · simp only [hsame, ↓reduceIte]
    rw [bitAt_set_or, Nat.testBit_and, testBit_shl_allOnes hj, testBit_not_shl_allOnes hj, h.1]
    congr 1
    rw [Bool.eq_iff_iff]
    simp only [Bool.and_eq_true, decide_eq_true_eq]
    omega
  · have hlt : a / 64 + 1 ≤ b / 64 := by omega
    simp only [hsame, ↓reduceIte]
    rw [bitAt_set_or, bitAt_fillOnes _ hlt, bitAt_set_or, testBit_shl_allOnes hj, testBit_not_shl_allOnes hj,
      length_fillOnes, List.length_set, h.1, Bool.or_assoc, Bool.or_assoc]
    congr 1
    rw [Bool.eq_iff_iff]
    simp only [Bool.or_eq_true, Bool.and_eq_true, decide_eq_true_eq]
    omega

/-- what a piece denotes -/
def Item.covers : Item → Nat → Bool
  | .port p, q => decide (q = p)
  | .range a b, q => decide (a ≤ q) && decide (q ≤ b)

def Item.Valid : Item → Prop
  | .port p => 1 ≤ p ∧ p ≤ 65535
  | .range a b => 1 ≤ a ∧ a < b ∧ b ≤ 65535

/-- the decimal value of a digit string read from accumulator `n` -/
def decFrom (n : Nat) (s : Str) : Nat := s.foldl (fun n c => n * 10 + (c.toNat - 48)) n

theorem le_decFrom : ∀ (s : Str) (n : Nat), n ≤ decFrom n s
  | [], n => by simp [decFrom]
  | c :: cs, n => by
    have := le_decFrom cs (n * 10 + (c.toNat - 48))
    simp only [decFrom, List.foldl_cons] at this ⊢
    omega

/-- `parseDigits` is the fold `decFrom`, cut off as soon as the accumulator passes 65535 (it never gets smaller) -/
theorem parseDigits_iff (s : Str) (n m : Nat) (hn : n ≤ 65535) :
    parseDigits n s = some m ↔ ((∀ c ∈ s, 48 ≤ c.toNat ∧ c.toNat ≤ 57) ∧ decFrom n s = m ∧ m ≤ 65535) := by
  fun_induction parseDigits n s with
  | case1 n => exact ⟨fun h => ⟨nofun, Option.some.inj h, Option.some.inj h ▸ hn⟩, fun h => congrArg some h.2.1⟩
  | case2 n c cs hd n1 hbig => -- the accumulator has passed 65535
    refine iff_of_false nofun fun ⟨_, hv, hm⟩ => ?_
    have := le_decFrom cs n1
    rw [← hv] at hm
    exact Nat.lt_irrefl _ (Nat.lt_of_lt_of_le hbig (Nat.le_trans this hm))
  | case3 n c cs hd n1 hbig ih =>
    rw [ih (Nat.le_of_not_lt hbig), List.forall_mem_cons, and_iff_right hd]; rfl
  | case4 n c cs hd => exact iff_of_false nofun fun ⟨h, _⟩ => hd (h c List.mem_cons_self)

theorem parseUint16_iff (s : Str) (m : Nat) :
    parseUint16 s = some m ↔ (s ≠ [] ∧ (∀ c ∈ s, 48 ≤ c.toNat ∧ c.toNat ≤ 57) ∧ decFrom 0 s = m ∧ m ≤ 65535) := by
  unfold parseUint16
  by_cases hs : s = []
  · simp [hs]
  · simp only [hs, ↓reduceIte, ne_eq, not_false_eq_true, true_and]
    exact parseDigits_iff s 0 m (by decide)

theorem parseUint16_le {s : Str} {n : Nat} (h : parseUint16 s = some n) : n ≤ 65535 :=
  ((parseUint16_iff s n).mp h).2.2.2

theorem parseItem_valid {s : Str} {it : Item} (h : parseItem s = some it) : it.Valid := by
  revert h
  fun_cases parseItem s with
  | case3 _ _ p hp h0 =>
    -- no '-': one number, bounded by `ParseUint`, refused if 0
    rintro ⟨⟩; exact ⟨Nat.pos_of_ne_zero h0, parseUint16_le hp⟩
  | case8 _ _ _ f _ hf0 t ht hft =>
    -- `lo-hi`: two numbers, refused if `lo = 0` or `lo ≥ hi`
    rintro ⟨⟩; exact ⟨Nat.pos_of_ne_zero hf0, Nat.lt_of_not_le hft, parseUint16_le ht⟩
  | _ => nofun

theorem WF_applyItem {ws : Words} (h : WF ws) (it : Item) : WF (applyItem ws it) := by
  cases it with
  | port p => exact WF_add h p
  | range a b => exact WF_addRange h a (b + 1)

theorem bitAt_applyItem {ws : Words} (h : WF ws) {it : Item} (hv : it.Valid) {q : Nat} (hq : q < 65536) :
    bitAt (applyItem ws it) q = (bitAt ws q || it.covers q) := by
  cases it with
  | port p => exact bitAt_add h (by have := hv.2; omega) hq
  | range a b =>
    obtain ⟨h1, h2, h3⟩ := hv
    show bitAt (addRange ws a (b + 1)) q = _
    rw [bitAt_addRange h (by omega) (by omega) hq]
    have e : decide (q < b + 1) = decide (q ≤ b) := by apply decide_eq_decide.mpr; omega
    rw [e]; rfl

theorem parseItems_sound : ∀ (pieces : List Str) (ws ws' : Words), WF ws → parseItems ws pieces = (ws', true) →
    WF ws' ∧ ∃ its : List Item, pieces.mapM parseItem = some its ∧ (∀ it ∈ its, it.Valid) ∧
      ∀ q, q < 65536 → bitAt ws' q = (bitAt ws q || its.any (fun it => it.covers q)) := by
  intro pieces ws ws'
  fun_induction parseItems ws pieces with
  | case1 ws => rintro h ⟨⟩; exact ⟨h, [], rfl, nofun, fun _ _ => (Bool.or_false _).symm⟩
  | case2 => nofun -- a refused piece
  | case3 ws s rest it hs ih =>
    intro h hp
    have hv := parseItem_valid hs
    obtain ⟨hwf, its, hm, hval, hbits⟩ := ih (WF_applyItem h it) hp
    refine ⟨hwf, it :: its, by rw [List.mapM_cons, hs, hm]; rfl, List.forall_mem_cons.mpr ⟨hv, hval⟩, fun q hq => ?_⟩
    rw [hbits q hq, bitAt_applyItem h hv hq, List.any_cons, Bool.or_assoc]

theorem parseItems_reject : ∀ (pieces : List Str) (ws ws' : Words), parseItems ws pieces = (ws', false) →
    ∃ piece ∈ pieces, parseItem piece = none := by
  intro pieces ws ws'
  fun_induction parseItems ws pieces with
  | case1 => nofun
  | case2 ws s rest hs => exact fun _ => ⟨s, List.mem_cons_self, hs⟩
  | case3 ws s rest it hs ih => exact fun hp => (ih hp).imp fun p hp => ⟨List.mem_cons_of_mem _ hp.1, hp.2⟩

theorem covers_zero {it : Item} (hv : it.Valid) : it.covers 0 = false := by
  cases it with
  | port p | range a b => have := hv.1; simp [Item.covers]; omega

theorem mapM_some_mem {α β : Type} {f : α → Option β} : ∀ {l : List α} {r : List β}, l.mapM f = some r →
    ∀ b, b ∈ r ↔ ∃ a ∈ l, f a = some b := by
  intro l
  induction l with
  | nil => intro r h b; cases h; simp
  | cons a l ih =>
    intro r h b
    simp only [List.mapM_cons, Option.bind_eq_bind, Option.bind_eq_some_iff, Option.pure_def, Option.some.injEq] at h
    obtain ⟨b0, hb0, bs, hbs, rfl⟩ := h
    simp only [List.mem_cons, ih hbs b, or_and_right, exists_or, exists_eq_left, hb0, Option.some.injEq]
    rw [eq_comm]

/-- what a written piece denotes (nothing if it is malformed) -/
def pieceCovers (pc : Str) (q : Nat) : Bool := (parseItem pc).any (·.covers q)

/-- so the result of a successful `Parse` depends only on the *set* of pieces -/
theorem parse_bits {ws ws' : Words} {s : Str} (h : WF ws) (hp : parse ws s = (ws', true)) {q : Nat} (hq : q < 65536) :
    bitAt ws' q = (bitAt ws q || (items s).any (pieceCovers · q)) := by
  obtain ⟨_, its, hm, _, hb⟩ := parseItems_sound (items s) ws ws' h hp
  rw [hb q hq]
  congr 1
  rw [Bool.eq_iff_iff, List.any_eq_true, List.any_eq_true]
  simp only [mapM_some_mem hm, pieceCovers, Option.any_eq_true]
  constructor
  · rintro ⟨it, ⟨pc, hpc, hf⟩, hc⟩; exact ⟨pc, hpc, it, hf, hc⟩
  · rintro ⟨pc, hpc, it, hf, hc⟩; exact ⟨it, ⟨pc, hpc, hf⟩, hc⟩

end SSV.PortSet
