import SSV.Proofs.Stats
/-
C14 — whole configurations: the conserved quantity `mass` and well-formedness of all threads, carried through
every interleaving (`reach_ok`), against what a pool of calls records by the documentation (`specDelta`, `recorded`).
-/
namespace SSV.Stats
open SSV.Gen.C14

theorem genOK : GenOK where
  collect_adds := by intro i; cases i <;> decide
  reset_anon := by decide
  reset_user := by decide
  load_anon := by decide
  load_user := by decide
  add_pointwise := by intro tot lit f; cases f <;> rfl

/-- What one recorded session is worth, written from the documentation of `stats.Collector` (parameter names of
the interface), independently of the regenerated programs.
`CollectTCPSession(username, downlinkBytes, uplinkBytes)`: the bytes and one TCP session.
`CollectUDPSessionDownlink(username, downlinkPackets, downlinkBytes)`: packets, bytes and the UDP session itself.
`CollectUDPSessionUplink(username, uplinkPackets, uplinkBytes)`: packets and bytes. -/
def specDelta : Call → Nat → Nat → Field → Nat
  | .tcp, dl, _, .downlinkBytes => dl
  | .tcp, _, ul, .uplinkBytes => ul
  | .tcp, _, _, .tcpSessions => 1
  | .udpDown, pk, _, .downlinkPackets => pk
  | .udpDown, _, by_, .downlinkBytes => by_
  | .udpDown, _, _, .udpSessions => 1
  | .udpUp, pk, _, .uplinkPackets => pk
  | .udpUp, _, by_, .uplinkBytes => by_
  | _, _, _, _ => 0

theorem collect_adds_spec (c : Call) (x0 x1 : Nat) (f : Field) : pendPc f (collectPc c x0 x1) = specDelta c x0 x1 f := by
  cases c
  all_goals
    -- the bound program of the call, as a sum of `if`s over its adds
    simp only [collectPc, Call.wrapper, CollectTCPSession, CollectUDPSessionDownlink, CollectUDPSessionUplink,
      innerProg, collectTCPSession, collectUDPSessionDownlink, collectUDPSessionUplink, bindStep, Arg.eval, List.map,
      List.getD_cons_zero, List.getD_cons_succ, pendPc]
    cases f <;> simp only [specDelta, reduceCtorEq, if_true, if_false, Nat.add_zero, Nat.zero_add]

def sumOver (g : Thread → Nat) : List Thread → Nat
  | [] => 0
  | th :: r => g th + sumOver g r

theorem sumOver_append (g : Thread → Nat) (a b : List Thread) : sumOver g (a ++ b) = sumOver g a + sumOver g b := by
  induction a with
  | nil => simp only [List.nil_append, sumOver, Nat.zero_add]
  | cons x r ih => simp only [List.cons_append, sumOver, ih, Nat.add_assoc]

/-- per collector and counter: taken out by resetting snapshots + still in the counter + still to be added -/
def mass (cfg : Config) (t : Target) (f : Field) : Nat :=
  sumOver (Thread.got t f) cfg.threads + (cfg.sh.ctr t).get f + sumOver (Thread.pend t f) cfg.threads

theorem mass_middle (sh : Shared) (pre post : List Thread) (th : Thread) (t : Target) (f : Field) :
    mass ⟨sh, pre ++ th :: post⟩ t f =
      sumOver (Thread.got t f) (pre ++ post) + sumOver (Thread.pend t f) (pre ++ post) +
        (th.got t f + (sh.ctr t).get f + th.pend t f) := by
  simp only [mass, sumOver_append, sumOver]
  omega

def AllWF (cfg : Config) : Prop := ∀ th ∈ cfg.threads, th.WF

theorem step_ok {a b : Config} (hs : Step a b) (hwf : AllWF a) :
    AllWF b ∧ ∀ t f, ModLe (mass b t f) (mass a t f) := by
  cases hs with
  | mk pre post th th' sh sh' order _ hstep =>
    obtain ⟨hwf', hcons⟩ := thread_step_ok genOK hstep (hwf th List.mem_append_cons_self)
    refine ⟨?_, fun t f => ?_⟩
    · simp only [AllWF, List.forall_mem_append, List.forall_mem_cons] at hwf ⊢
      exact ⟨hwf.1, hwf', hwf.2.2⟩
    · rw [mass_middle, mass_middle]
      exact (ModLe.refl _).add (hcons t f)

theorem reach_ok {a b : Config} (hr : Reach a b) (hwf : AllWF a) :
    AllWF b ∧ ∀ t f, ModLe (mass b t f) (mass a t f) := by
  induction hr with
  | refl => exact ⟨hwf, fun _ _ => ModLe.refl _⟩
  | tail _ hstep ih =>
    obtain ⟨hw', hm'⟩ := step_ok hstep ih.1
    exact ⟨hw', fun t f => (hm' t f).trans (ih.2 t f)⟩

/-- a call of the public `stats.Collector` interface -/
inductive Op where
  | collect (c : Call) (u : String) (x0 x1 : Nat)
  | snapshot (reset : Bool)

def Op.thread : Op → Thread
  | .collect c u x0 x1 => .collect (mkCollect c u x0 x1)
  | .snapshot reset => .snap (mkSnap reset)

/-- every call of the pool is pending, all counters are zero, no user collector exists -/
def initCfg (ops : List Op) : Config := ⟨Shared.init, ops.map Op.thread⟩

/-- everything the pool records for collector `t`, counter `f` (by the documentation, not by the code) -/
def recorded (t : Target) (f : Field) : List Op → Nat
  | [] => 0
  | .collect c u x0 x1 :: r => (if target u = t then specDelta c x0 x1 f else 0) + recorded t f r
  | .snapshot _ :: r => recorded t f r

theorem initCfg_WF (ops : List Op) : AllWF (initCfg ops) := by
  intro th hth
  obtain ⟨op, _, rfl⟩ := List.mem_map.mp hth
  cases op with
  | collect c u x0 x1 => exact mkCollect_WF genOK c u x0 x1
  | snapshot r => exact mkSnap_WF genOK r

theorem mass_init (ops : List Op) (t : Target) (f : Field) : mass (initCfg ops) t f = recorded t f ops := by
  have h : sumOver (Thread.got t f) (ops.map Op.thread) = 0 ∧
      sumOver (Thread.pend t f) (ops.map Op.thread) = recorded t f ops := by
    induction ops with
    | nil => exact ⟨rfl, rfl⟩
    | cons op r ih =>
      cases op with
      | collect c u x0 x1 =>
        simp only [List.map_cons, sumOver, Op.thread, Thread.got, Thread.pend, mkCollect, recorded, ih,
          collect_adds_spec, and_self]
      | snapshot reset =>
        simp only [List.map_cons, sumOver, Op.thread, Thread.got, Thread.pend, mkSnap, recorded, ih, sumDone,
          Counters.get_zero, ite_self, Nat.zero_add, and_self]
  simp only [mass, initCfg, h, Shared.init, Counters.get_zero, Nat.zero_add]

/-- what a finished SnapshotAndReset call returned for collector `t`, counter `f` (0 for every other thread) -/
def returnedByReset (t : Target) (f : Field) : Thread → Nat
  | .snap s => if s.reset then sumDone t f s.done else 0
  | .collect _ => 0

theorem finished_got_pend (th : Thread) (hwf : th.WF) (hfin : th.finished) (t : Target) (f : Field) :
    th.got t f = returnedByReset t f th ∧ th.pend t f = 0 := by
  cases th with
  | collect c => simp only [Thread.got, Thread.pend, returnedByReset, hfin.2, pendPc, ite_self, and_self]
  | snap s =>
    simp only [Thread.got, Thread.pend, returnedByReset, hwf.idle (hfin ▸ trivial), idle_lit_get, Nat.add_zero, and_self]

theorem sum_finished (threads : List Thread) (hwf : ∀ th ∈ threads, th.WF) (hfin : ∀ th ∈ threads, th.finished)
    (t : Target) (f : Field) :
    sumOver (Thread.got t f) threads = sumOver (returnedByReset t f) threads ∧ sumOver (Thread.pend t f) threads = 0 := by
  induction threads with
  | nil => exact ⟨rfl, rfl⟩
  | cons th r ih =>
    rw [List.forall_mem_cons] at hwf hfin
    simp only [sumOver, finished_got_pend th hwf.1 hfin.1 t f, ih hwf.2 hfin.2, and_self]

end SSV.Stats
