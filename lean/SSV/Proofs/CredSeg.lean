import SSV.Proofs.Cred
/-
C08: the atomic segments of the regenerated programs. Every segment a thread can be about to run has one of
four shapes (`SegStep`); the invariant along sequential histories and along every interleaving follows from
that, and so does (in `SSV.Proofs.CredFile`) the file clause.
-/
namespace SSV.Cred
open SSV.Gen.C08
variable (H : Key → Hash)

/-- the thread has left a critical section and has not yet queued the save -/
def owes (t : Thread) : Bool := t.prog.head? == some Step.enqueueSave

structure Frame (st st' : St) : Prop where
  file : st'.file = st.file
  saverBusy : st'.saverBusy = st.saverBusy

/-- What one atomic segment of a call does to the manager's state: nothing (a step that only reads its
arguments, or a critical section left through a guard); queue the save; a successful add / update / delete
(the views change together, the save is owed); a successful LoadFromFile (the views and the synchronised
content become what the store file holds). -/
inductive SegStep (st : St) (t : Thread) : St × Thread → Prop
  | quiet (t' : Thread) : owes t = false → SegStep st t (st, t')
  | enqueue (t' : Thread) : SegStep st t ({ st with pending := true }, t')
  | commit (st' : St) (t' : Thread) : Inv H st' → Frame st st' → st'.cachedContent = st.cachedContent →
      owes t' = true → SegStep st t (st', t')
  | load (st' : St) (t' : Thread) : Inv H st' → Frame st st' → st'.cachedContent = st.file →
      Represents st.file st'.cache → SegStep st t (st', t')

variable {H} in
theorem SegStep.inv {st : St} {t : Thread} {out : St × Thread} (h : SegStep H st t out) (hi : Inv H st) : Inv H out.1 := by
  cases h with
  | quiet => exact hi
  | enqueue => exact hi.frame _ _ _ _
  | commit _ _ hi' | load _ _ hi' => exact hi'

/- the critical sections: the part of each regenerated program from its `lock` on -/
def csAdd : List Step := addProg.drop 2
def csUpdate : List Step := updateProg.drop 1
def csDelete : List Step := deleteProg
def csLoad : List Step := loadProg

section
/- the step semantics, unfolded by every symbolic run of a program below -/
attribute [local simp] runLocked exec touch liveUpd seg runThread call Op.thread

theorem csAdd_seg (st : St) (r : Regs) (res : Option Res) (hi : Inv H st) :
    SegStep H st ⟨csAdd, r, res⟩ (runLocked H csAdd st r) := by
  cases h1 : find st.cache r.name with
  | some _ =>
    simp [csAdd, addProg, h1]
    exact .quiet _ rfl
  | none =>
    cases h2 : find st.lookup (H r.key) with
    | some _ =>
      simp [csAdd, addProg, h1, h2]
      exact .quiet _ rfl
    | none =>
      simp [csAdd, addProg, h1, h2, if_pos hi.loaded]
      show SegStep H st _ (addSt H st r.name r.key, _)
      exact .commit _ _ (inv_add H hi r.name r.key h1 h2) ⟨rfl, rfl⟩ rfl rfl

theorem csUpdate_seg (st : St) (r : Regs) (res : Option Res) (hi : Inv H st) :
    SegStep H st ⟨csUpdate, r, res⟩ (runLocked H csUpdate st r) := by
  cases h0 : find st.cache r.name with
  | none =>
    simp [csUpdate, updateProg, h0]
    exact .quiet _ rfl
  | some k0 =>
    by_cases h1 : k0 = r.key
    · simp [csUpdate, updateProg, h0, h1]
      exact .quiet _ rfl
    cases h2 : find st.lookup (H r.key) with
    | some _ =>
      simp [csUpdate, updateProg, h0, h1, h2]
      exact .quiet _ rfl
    | none =>
      simp [csUpdate, updateProg, h0, h1, h2]
      show SegStep H st _ (updSt H st r.name r.key k0, _)
      exact .commit _ _ (inv_update H hi r.name r.key k0 h0 h2) ⟨rfl, rfl⟩ rfl rfl

theorem csDelete_seg (st : St) (r : Regs) (res : Option Res) (hi : Inv H st) :
    SegStep H st ⟨csDelete, r, res⟩ (runLocked H csDelete st r) := by
  cases h0 : find st.cache r.name with
  | none =>
    simp [csDelete, deleteProg, h0]
    exact .quiet _ rfl
  | some k0 =>
    simp [csDelete, deleteProg, h0]
    show SegStep H st _ (delSt H st r.name k0, _)
    exact .commit _ _ (inv_delete H hi r.name k0 h0) ⟨rfl, rfl⟩ rfl rfl

theorem installed_inv_rep (st : St) (hf : st.fault = false) (l : List Entry) (lk : ULM) (c : List Entry)
    (hd : decodeDoc st.file = some l) (hb : build H st.pskLen l = some (lk, c)) :
    Inv H (installed st lk c) ∧ Represents st.file c :=
  let ⟨hn, hc, hx⟩ := build_spec H hb
  ⟨inv_load H hf lk c hn (hx (decodeDoc_nodup hd)), l, hd, fun n => (hc n).symm⟩

theorem csLoad_seg (st : St) (r : Regs) (res : Option Res) (hf : st.fault = false) :
    SegStep H st ⟨csLoad, r, res⟩ (runLocked H csLoad st r) := by
  by_cases hskip : st.loaded = true ∧ st.file = st.cachedContent
  · simp [csLoad, loadProg, hskip.1, hskip.2]
    exact .quiet _ rfl
  cases hd : decodeDoc st.file with
  | none =>
    simp [csLoad, loadProg, hskip, hd]
    exact .quiet _ rfl
  | some l =>
    cases hb : build H st.pskLen l with
    | none =>
      simp [csLoad, loadProg, hskip, hd, hb]
      exact .quiet _ rfl
    | some pr =>
      obtain ⟨lk, c⟩ := pr
      simp [csLoad, loadProg, hskip, hd, hb]
      show SegStep H st _ (installed st lk c, _)
      have hk := installed_inv_rep H st hf l lk c hd hb
      exact .load _ _ hk.1 ⟨rfl, rfl⟩ rfl hk.2

theorem call_delete (st : St) (n : Name) (k : Key) (h : find st.cache n = some k) :
    call H st (.delete n) = ({ delSt H st n k with pending := true }, .ok) := by
  simp [deleteProg, h, delSt]

theorem call_update (st : St) (n : Name) (k k0 : Key) (h : find st.cache n = some k0) (hk : k0 ≠ k)
    (hl : k.len = st.pskLen) (hfree : find st.lookup (H k) = none) :
    call H st (.update n k) = ({ updSt H st n k k0 with pending := true }, .ok) := by
  simp [updateProg, h, hk, hl, hfree, updSt]

theorem call_add (st : St) (n : Name) (k : Key) (hn : n ≠ "") (hl : k.len = st.pskLen) (hld : st.loaded = true)
    (h : find st.cache n = none) (hfree : find st.lookup (H k) = none) :
    call H st (.add n k) =
      ({ st with cache := insert st.cache n k, lookup := insert st.lookup (H k) (n, k),
                 tcp := st.tcp.map (fun m => insert m (H k) (n, k)),
                 udp := st.udp.map (fun m => insert m (H k) (n, k)),
                 pending := true }, .ok) := by
  simp [addProg, h, hn, hl, hfree, hld]

/-- the refusal F6 asked for -/
theorem call_add_dup (st : St) (n : Name) (k : Key) (hn : n ≠ "") (hl : k.len = st.pskLen)
    (h : find st.cache n = none) (e : Entry) (hdup : find st.lookup (H k) = some e) :
    call H st (.add n k) = (st, .errDup) := by
  simp [addProg, h, hn, hl, hdup]

theorem call_reload (st : St) :
    call H st .reload =
      if st.loaded = true ∧ st.file = st.cachedContent then (st, .ok)
      else match decodeDoc st.file with
        | none => (st, .errParse)
        | some l =>
          match build H st.pskLen l with
          | none => (st, .errInvalid)
          | some (lk, c) => (installed st lk c, .ok) := by
  split
  · next hskip => simp [loadProg, hskip.1, hskip.2]
  · next hskip =>
    split
    · next hd => simp [loadProg, hskip, hd]
    · next l hd =>
      split
      · next hb => simp [loadProg, hskip, hd, hb]
      · next lk c hb => simp [loadProg, hskip, hd, hb, installed]

end

/-- the steps the regenerated programs take outside the lock: they touch nothing but the call's own arguments
and the save queue -/
def neutral : Step → Bool
  | .guardName | .guardLen | .enqueueSave | .ret => true
  | _ => false

/-- the next segment of `q` is a single neutral step or a whole critical section: the case split of `seg_cases`,
evaluated over `allCuts` -/
def okHead (q : List Step) : Bool :=
  match q with
  | [] => true
  | s :: _ => neutral s || q == csAdd || q == csUpdate || q == csDelete || q == csLoad

theorem allCuts_ok : ∀ q ∈ allCuts, okHead q = true := by decide

theorem allCuts_closed : ∀ q ∈ allCuts, dropSeg q ∈ allCuts := by decide

theorem progs_sub : ∀ p ∈ progs, p ∈ allCuts := by decide

theorem thread_mem (op : Op) : op.thread.prog ∈ allCuts := by
  cases op <;> exact progs_sub _ (by simp [Op.thread, progs])

theorem seg_cases (t : Thread) (ht : t.prog ∈ allCuts) (st : St) (hi : Inv H st) : SegStep H st t (seg H st t) := by
  obtain ⟨q, r, res⟩ := t
  have hk := allCuts_ok q ht
  cases q with
  | nil => exact .quiet _ rfl
  | cons s rest =>
    simp only [okHead, Bool.or_eq_true, beq_iff_eq] at hk
    rcases hk with (((hk | hk) | hk) | hk) | hk
    · revert hk
      fun_cases neutral s with
      | case1 =>   -- `guardName`
        intro _
        by_cases h : r.name = "" <;> simp only [seg, exec, h, ↓reduceIte] <;> exact .quiet _ rfl
      | case2 =>   -- `guardLen`
        intro _
        by_cases h : r.key.len = st.pskLen <;>
          simp only [seg, exec, ne_eq, h, not_true_eq_false, not_false_eq_true, ↓reduceIte] <;> exact .quiet _ rfl
      | case3 => exact fun _ => .enqueue _   -- `enqueueSave`
      | case4 => exact fun _ => .quiet _ rfl   -- `ret`
      | case5 => exact fun hk => nomatch hk   -- not a neutral step
    · rw [hk]; exact csAdd_seg H st r res hi
    · rw [hk]; exact csUpdate_seg H st r res hi
    · rw [hk]; exact csDelete_seg H st r res hi
    · rw [hk]; exact csLoad_seg H st r res hi.noFault

theorem runLocked_prog (p : List Step) (st : St) (r : Regs) :
    (runLocked H p st r).2.prog = afterUnlock p ∨ (runLocked H p st r).2.prog = [] := by
  -- the arms: program over, call ended (a failed guard, `ret`, the nil-map panic of `cacheSet`), `unlock`, any other step
  fun_induction runLocked H p st r with
  | case1 | case2 => right; rfl
  | case3 => left; exact (if_pos rfl).symm
  | case4 _ _ _ _ _ _ _ hs ih => rw [afterUnlock, if_neg hs]; exact ih

theorem seg_prog (t : Thread) (st : St) :
    (seg H st t).2.prog = dropSeg t.prog ∨ (seg H st t).2.prog = [] := by
  -- the arms: thread finished, critical section, single step ending the call, single step
  fun_cases seg H st t with
  | case1 h => right; exact h
  | case2 rest h => rw [h]; exact runLocked_prog H (.lock :: rest) st t.regs
  | case3 => right; rfl
  | case4 _ _ hl h =>
    left
    rw [h, dropSeg]
    exact hl

theorem seg_mem (t : Thread) (ht : t.prog ∈ allCuts) (st : St) : (seg H st t).2.prog ∈ allCuts := by
  rcases seg_prog H t st with h | h
  · rw [h]; exact allCuts_closed _ ht
  · rw [h]; decide

theorem afterUnlock_length (p : List Step) : (afterUnlock p).length ≤ p.length := by
  induction p with
  | nil => exact Nat.le_refl _
  | cons s r ih =>
    unfold afterUnlock
    split
    · exact Nat.le_succ _
    · exact Nat.le_succ_of_le ih

theorem dropSeg_length {p : List Step} (h : p ≠ []) : (dropSeg p).length < p.length := by
  fun_cases dropSeg p with
  | case1 => exact absurd rfl h
  | case2 rest => exact Nat.lt_succ_of_le (afterUnlock_length rest)
  | case3 => exact Nat.lt_succ_self _

theorem seg_length (st : St) (t : Thread) (h : t.prog ≠ []) : (seg H st t).2.prog.length < t.prog.length := by
  rcases seg_prog H t st with e | e
  · rw [e]
    exact dropSeg_length h
  · rw [e]
    exact List.length_pos_iff.2 h

theorem runThread_induct {P : St → Thread → Prop}
    (hP : ∀ st t, t.prog ∈ allCuts → P st t → P (seg H st t).1 (seg H st t).2)
    (n : Nat) (st : St) (t : Thread) (ht : t.prog ∈ allCuts) (h : P st t) :
    P (runThread H n st t).1 (runThread H n st t).2 := by
  induction n generalizing st t with
  | zero => exact h
  | succ n ih =>
    unfold runThread
    split
    · exact h
    · exact ih _ _ (seg_mem H t ht st) (hP st t ht h)

theorem runThread_done (n : Nat) (st : St) (t : Thread) (hn : t.prog.length ≤ n) :
    (runThread H n st t).2.prog = [] := by
  induction n generalizing st t with
  | zero => exact List.eq_nil_of_length_eq_zero (Nat.le_zero.1 hn)
  | succ n ih =>
    unfold runThread
    split
    · next h => exact h
    · next h =>
      have := seg_length H st t h
      exact ih (seg H st t).1 (seg H st t).2 (by omega)

theorem call_inv (st : St) (op : Op) (hi : Inv H st) : Inv H (call H st op).1 := by
  unfold call
  exact runThread_induct H (P := fun st _ => Inv H st) (fun st t ht hi => (seg_cases H t ht st hi).inv hi) _ st op.thread (thread_mem op) hi

theorem dequeue_inv (st : St) (hi : Inv H st) : Inv H (dequeue st) := by
  unfold dequeue
  split
  · exact hi.frame _ _ _ _
  · exact hi

theorem save_inv (st : St) (hi : Inv H st) : Inv H (save st) := by
  unfold save
  split
  · exact hi.frame _ _ _ _
  · exact hi

theorem applyEv_inv (st : St) (e : Ev) (hi : Inv H st) : Inv H (applyEv H st e) := by
  cases e with
  | api op => exact call_inv H st op hi
  | edit d => exact hi.frame _ _ _ _
  | tick => exact save_inv H _ (dequeue_inv H st hi)

theorem runHist_inv (evs : List Ev) (st : St) (hi : Inv H st) : Inv H (runHist H st evs) := by
  induction evs generalizing st with
  | nil => exact hi
  | cons e evs ih => exact ih _ (applyEv_inv H st e hi)

/-- what every interleaving keeps: `Inv` of the shared state, and every thread stands at a segment boundary of one of
the four programs (so `seg_cases` applies to whichever thread runs next) -/
structure SysInv (s : Sys) : Prop where
  inv : Inv H s.st
  cuts : ∀ t ∈ s.threads, t.prog ∈ allCuts

variable {H} in
theorem SysInv.seg {s : Sys} (hs : SysInv H s) {i : Nat} {t : Thread} (hti : s.threads[i]? = some t) :
    SegStep H s.st t (seg H s.st t) :=
  seg_cases H t (hs.cuts t (List.mem_of_getElem? hti)) s.st hs.inv

theorem act_inv (s : Sys) (a : Act) (hs : SysInv H s) : SysInv H (s.act H a) := by
  cases a with
  | thread i =>
    simp only [Sys.act]
    cases hti : s.threads[i]? with
    | none => exact hs
    | some t =>
      refine ⟨(hs.seg hti).inv hs.inv, fun t' ht' => ?_⟩
      rcases List.mem_or_eq_of_mem_set ht' with h | h
      · exact hs.cuts t' h
      · rw [h]; exact seg_mem H t (hs.cuts t (List.mem_of_getElem? hti)) s.st
  | dequeue => exact ⟨dequeue_inv H _ hs.inv, hs.cuts⟩
  | save => exact ⟨save_inv H _ hs.inv, hs.cuts⟩
  | edit d => exact ⟨hs.inv.frame _ _ _ _, hs.cuts⟩

theorem run_inv (as : List Act) (s : Sys) (hs : SysInv H s) : SysInv H (s.run H as) := by
  induction as generalizing s with
  | nil => exact hs
  | cons a as ih => exact ih _ (act_inv H s a hs)

theorem start_inv (st : St) (ops : List Op) (hi : Inv H st) : SysInv H (Sys.start st ops) := by
  refine ⟨hi, fun t ht => ?_⟩
  obtain ⟨op, _, rfl⟩ := List.mem_map.1 ht
  exact thread_mem op

end SSV.Cred
