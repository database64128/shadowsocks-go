import SSV.Model.PacketHistory
import SSV.Proofs.PacketSS
/- C05: histories through one packer/unpacker pair with a reused buffer and carried state, in both directions, and through
the direct client packer with its resolver cache. -/
namespace SSV.Packet
open SSV SSV.Gen.C05

theorem intern_value (c : DomainCache) (name : Bytes) : (c.intern name).2 = name := by
  unfold DomainCache.intern
  split
  · next k hk =>
    have := List.find?_some hk
    simpa using this
  · rfl

theorem internAddr_value (c : DomainCache) (a : Addr) : (c.internAddr a).2 = a := by
  cases a with
  | zero => rfl
  | ip ap => rfl
  | dom n p => simp [DomainCache.internAddr, intern_value]

theorem plainServerUnpackC_result (c : DomainCache) (hdr3 : Bool) (b : Bytes) (q n : Nat) :
    ∃ c', plainServerUnpackC c hdr3 b q n = (c', plainServerUnpack hdr3 b q n) := by
  unfold plainServerUnpackC
  split
  · next u h => exact ⟨(c.internAddr u.addr).1, by simp only [internAddr_value, h]⟩
  · exact ⟨c, rfl⟩

theorem ssServerUnpackC_result (dc : DomainCache) (c : Crypto) (block aeadKey : Bytes) (k : Nat) (lookup : Bool)
    (users : List (Bytes × Bytes)) (now : Int) (b : Bytes) (q n : Nat) :
    ∃ dc', ssServerUnpackC dc c block aeadKey k lookup users now b q n =
      (dc', ssServerUnpack c block aeadKey k lookup users now b q n) := by
  unfold ssServerUnpackC
  split
  · next u h => exact ⟨(dc.internAddr u.addr).1, by simp only [internAddr_value, h]⟩
  · exact ⟨dc, rfl⟩

/-- The induction of the deliver-or-refuse histories: `Deliv` enters through its `nil`/`cons` equations, `Inv` speaks
of the state and the packets to come. -/
theorem hist_delivered {σ X O : Type} (step : σ → X → σ × O) (hist : σ → List X → List O)
    (Deliv : List X → List O → Prop) (P : X → O → Prop) (Inv : σ → List X → Prop)
    (hnil : ∀ s, Deliv [] (hist s []))
    (hcons : ∀ s x t, P x (step s x).2 → Deliv t (hist (step s x).1 t) → Deliv (x :: t) (hist s (x :: t)))
    (hstep : ∀ s x t, Inv s (x :: t) → P x (step s x).2 ∧ Inv (step s x).1 t) :
    ∀ steps s, Inv s steps → Deliv steps (hist s steps)
  | [], s, _ => hnil s
  | x :: t, s, h => hcons s x t (hstep s x t h).1 (hist_delivered step hist Deliv P Inv hnil hcons hstep t _ (hstep s x t h).2)

def PlainStep.good (len : Nat) (x : PlainStep) : Prop := x.addr.wf ∧ x.ps + x.payload.length ≤ len

theorem plainHistStep_spec (hdr3 : Bool) (limit : Int) (c : DomainCache) (b : Bytes) (x : PlainStep) (hx : x.good b.length) :
    ((plainHistStep hdr3 limit (c, b) x).1.2).length = b.length ∧
    ((plainHistStep hdr3 limit (c, b) x).2 = none ∨ (plainHistStep hdr3 limit (c, b) x).2 = some (x.addr.norm, x.payload)) := by
  obtain ⟨hw, hfit⟩ := hx
  have hL : (splice b x.ps x.payload).length = b.length := splice_length _ _ _ hfit
  unfold plainHistStep
  simp only
  generalize hpk : plainClientPack hdr3 limit (splice b x.ps x.payload) x.addr x.ps x.payload.length = pk
  cases pk with
  | ok r =>
    rw [plainClientPack_eq hdr3 limit _ x.addr x.ps x.payload.length hw] at hpk
    obtain ⟨u, hu, hlen, hd⟩ := plain_delivered hdr3 _ x.addr.norm (decodeAddr_encodeAddr_len x.addr hw) hfit hpk
    obtain ⟨c', hc⟩ := plainServerUnpackC_result c hdr3 r.buf r.packetStart.toNat r.packetLen.toNat
    simp only [hc, plainServerUnpack_eq, hu]
    exact ⟨hlen, Or.inr (congrArg some hd)⟩
  | err _ | panic | noRoom => exact ⟨hL, Or.inl rfl⟩

/-- every packet of a history is delivered as packed (or refused), whatever came before -/
def PlainDelivered : List PlainStep → List (Option (Addr × Bytes)) → Prop
  | [], [] => True
  | x :: t, o :: os => (o = none ∨ o = some (x.addr.norm, x.payload)) ∧ PlainDelivered t os
  | _, _ => False

def SSStep.good (len : Nat) (x : SSStep) : Prop :=
  x.addr.wf ∧ x.ps + x.payload.length ≤ len ∧ x.ts.length = 8 ∧ x.pid.length = 8 ∧ tsOk x.ts x.now = true

def SSPair.good (p : SSPair) : Prop := p.c.Laws ∧ p.sid.length = 8 ∧ ∀ kh ∈ p.eih, kh.2.length = 16

theorem ssHistStep_spec (p : SSPair) (hp : p.good) (c : DomainCache) (b : Bytes) (x : SSStep) (hx : x.good b.length) :
    ((ssHistStep p (c, b) x).1.2).length = b.length ∧
    ((ssHistStep p (c, b) x).2 = none ∨ (ssHistStep p (c, b) x).2 = some (x.addr.norm, x.payload)) := by
  obtain ⟨hw, hfit, hts, hpid, hnow⟩ := hx
  obtain ⟨hLaws, hsid, hh⟩ := hp
  have hL : (splice b x.ps x.payload).length = b.length := splice_length _ _ _ hfit
  unfold ssHistStep
  simp only
  generalize hpk : ssClientPack p.c p.userBlock p.aeadKey p.eih p.mps p.pol (splice b x.ps x.payload) x.addr x.ps x.payload.length
    x.rand x.ts p.sid x.pid = pk
  cases pk with
  | ok r =>
    obtain ⟨u, hu, hlen, hd⟩ := (ss_roundtrip_up hLaws hw hts hsid hpid false [] p.aeadKey hh hnow rfl hpk).delivered hfit
    obtain ⟨c', hc⟩ := ssServerUnpackC_result c p.c (ssBlock p.userBlock p.eih) p.aeadKey p.eih.length false [] x.now r.buf
      r.packetStart.toNat r.packetLen.toNat
    simp only [hc, hu]
    exact ⟨hlen, Or.inr (congrArg some hd)⟩
  | err _ | panic | noRoom => exact ⟨hL, Or.inl rfl⟩

def SSDelivered : List SSStep → List (Option (Addr × Bytes)) → Prop
  | [], [] => True
  | x :: t, o :: os => (o = none ∨ o = some (x.addr.norm, x.payload)) ∧ SSDelivered t os
  | _, _ => False

/-- the answers the resolver has given so far: (name, address) -/
abbrev Answers := List (Bytes × IP)

def DirectStep.answers (known : Answers) (x : DirectStep) : Answers :=
  match x.addr, x.res with
  | .dom d _, some ip => (d, ip) :: known
  | _, _ => known

/-- what a packet of a history may be addressed to -/
def DirectStep.okFor (known' : Answers) (x : DirectStep) (mtu : Int) (r : DirectPacked) : Prop :=
  r.packetStart = x.ps ∧ r.packetLen = x.pl ∧
  match x.addr with
  | .ip ap => r.dest = some ap.ip ∧ (x.pl : Int) ≤ maxPacketSize mtu ap.ip
  | .dom d _ => ∃ ip, r.dest = some ip ∧ (d, ip) ∈ known' ∧ (x.pl : Int) ≤ maxPacketSize mtu ip
  | .zero => False

def DirectSound (mtu : Int) : Answers → List DirectStep → List (Outcome DirectPacked) → Prop
  | _, [], [] => True
  | known, x :: t, o :: os =>
    (∀ r, o = .ok r → x.okFor (x.answers known) mtu r) ∧ DirectSound mtu (x.answers known) t os
  | _, _, _ => False

/-- invariant of the cache: it is empty, or it holds a name together with an address the resolver gave for that name -/
def ResInv (known : Answers) (st : ResState) : Prop :=
  st.dom = [] ∨ ∃ ip, st.ip = some ip ∧ (st.dom, ip) ∈ known

/-- `updateDomainIPCache` as it is in the source -/
theorem updateDomainIPCache_eq (res : Option IP) (d : Bytes) (st : ResState) :
    updateDomainIPCache updateDomainIPCacheProg res d st =
      if st.dom = d then (st, false)
      else match res with
        | some ip => (⟨d, some ip⟩, false)
        | none => (st, true) := by
  by_cases hd : st.dom = d
  · simp [updateDomainIPCache, updateDomainIPCacheProg, resOp, hd]
  · cases res <;> simp [updateDomainIPCache, updateDomainIPCacheProg, resOp, hd]

theorem mem_answers {known : Answers} (x : DirectStep) {p : Bytes × IP} (h : p ∈ known) : p ∈ x.answers known := by
  unfold DirectStep.answers
  split
  · exact List.mem_cons_of_mem _ h
  · exact h

theorem ResInv.mono {known K : Answers} {st : ResState} (hK : ∀ p ∈ known, p ∈ K) (h : ResInv known st) : ResInv K st :=
  h.imp id fun ⟨ip, h1, h2⟩ => ⟨ip, h1, hK _ h2⟩

theorem updateDomainIPCache_sound {known K : Answers} {st : ResState} {res : Option IP} {d : Bytes} {u : ResState × Bool}
    (hu : updateDomainIPCache updateDomainIPCacheProg res d st = u) (hinv : ResInv known st)
    (hd : d ≠ []) (hK : ∀ p ∈ known, p ∈ K) (hres : ∀ ip, res = some ip → (d, ip) ∈ K) :
    ResInv K u.1 ∧ (u.2 = false → ∃ ip, u.1.ip = some ip ∧ (d, ip) ∈ K) := by
  subst hu
  rw [updateDomainIPCache_eq]
  by_cases hc : st.dom = d
  · -- cached: by the invariant the cached address was given for this very name
    rw [if_pos hc]
    rcases hinv with h0 | ⟨ip, hip, hmem⟩
    · exact absurd (hc ▸ h0) hd
    · exact ⟨Or.inr ⟨ip, hip, hK _ hmem⟩, fun _ => ⟨ip, hip, hc ▸ hK _ hmem⟩⟩
  · rw [if_neg hc]
    cases res with
    | none => exact ⟨hinv.mono hK, nofun⟩
    | some ip => exact ⟨Or.inr ⟨ip, rfl, hres ip rfl⟩, fun _ => ⟨ip, rfl, hres ip rfl⟩⟩

theorem directFinish_okFor (mtu : Int) (st : ResState) (dest : Option IP) (x : DirectStep) (K : Answers)
    (hdest : match x.addr with
      | .ip ap => dest = some ap.ip
      | .dom d _ => ∃ ip, dest = some ip ∧ (d, ip) ∈ K
      | .zero => False) :
    (directFinish mtu st dest x.ps x.pl).1 = st ∧
    ∀ r, (directFinish mtu st dest x.ps x.pl).2 = .ok r → x.okFor K mtu r := by
  unfold directFinish
  split
  · exact ⟨rfl, nofun⟩
  · next hbig =>
    simp only [directCTooBig, decide_eq_true_eq, Int.not_lt] at hbig
    refine ⟨rfl, fun r h => ?_⟩
    cases h
    refine ⟨rfl, rfl, ?_⟩
    split at hdest
    · subst hdest
      exact ⟨rfl, hbig⟩
    · obtain ⟨ip, rfl, hk⟩ := hdest
      exact ⟨ip, rfl, hk, hbig⟩
    · exact hdest

theorem directStep_sound (mtu : Int) (known : Answers) (st : ResState) (x : DirectStep) (hinv : ResInv known st) (hw : x.addr.wf) :
    ResInv (x.answers known) (directClientPackS updateDomainIPCacheProg mtu x.res st x.addr x.ps x.pl).1 ∧
    ∀ r, (directClientPackS updateDomainIPCacheProg mtu x.res st x.addr x.ps x.pl).2 = .ok r → x.okFor (x.answers known) mtu r := by
  have hmono : ResInv (x.answers known) st := hinv.mono fun _ => mem_answers x
  cases ha : x.addr with
  | zero => exact ⟨hmono, nofun⟩
  | ip ap =>
    obtain ⟨h1, h2⟩ := directFinish_okFor mtu st (some ap.ip) x (x.answers known) (by rw [ha])
    exact ⟨h1.symm ▸ hmono, h2⟩
  | dom d p =>
    rw [ha] at hw
    obtain ⟨hi, hc⟩ := updateDomainIPCache_sound (res := x.res) (d := d) rfl hinv (fun h => by have := hw.1; simp [h] at this)
      (fun _ => mem_answers x) (fun ip hr => by simp [DirectStep.answers, ha, hr])
    simp only [directClientPackS]
    split
    · exact ⟨hi, nofun⟩
    · next hf =>
      obtain ⟨h1, h2⟩ := directFinish_okFor mtu _ _ x (x.answers known) (by rw [ha]; exact hc (by simpa using hf))
      exact ⟨h1.symm ▸ hi, h2⟩

theorem directHist_sound (mtu : Int) (steps : List DirectStep) :
    ∀ (known : Answers) (st : ResState), ResInv known st → (∀ x ∈ steps, x.addr.wf) →
      DirectSound mtu known steps (directHist updateDomainIPCacheProg mtu st steps) := by
  induction steps with
  | nil => intro _ _ _ _; trivial
  | cons x t ih =>
    intro known st hinv hw
    obtain ⟨hinv', hok⟩ := directStep_sound mtu known st x hinv (hw x (by simp))
    simp only [directHist, DirectSound]
    exact ⟨hok, ih _ _ hinv' (fun y hy => hw y (by simp [hy]))⟩

def PlainDownStep.good (len : Nat) (x : PlainDownStep) : Prop := x.src.wf ∧ x.ps + x.payload.length ≤ len

theorem plainDownHistStep_spec (hdr3 : Bool) (limit : Int) (server pktSrc : AddrPort) (hfrom : mappedEqual pktSrc server = true)
    (b : Bytes) (x : PlainDownStep) (hx : x.good b.length) :
    ((plainDownHistStep hdr3 limit server pktSrc b x).1).length = b.length ∧
    ((plainDownHistStep hdr3 limit server pktSrc b x).2 = none ∨
     (plainDownHistStep hdr3 limit server pktSrc b x).2 = some (x.src.norm, x.payload)) := by
  obtain ⟨hw, hfit⟩ := hx
  have hL : (splice b x.ps x.payload).length = b.length := splice_length _ _ _ hfit
  unfold plainDownHistStep
  simp only
  generalize hpk : plainServerPack hdr3 (splice b x.ps x.payload) x.src x.ps x.payload.length limit = pk
  cases pk with
  | ok r =>
    rw [plainServerPack_ip, plainClientPack_eq hdr3 limit _ (.ip x.src) x.ps x.payload.length hw] at hpk
    obtain ⟨u, hu, hlen, hd⟩ := plain_delivered hdr3 _ x.src.norm (decodeAddrPort_encodeAddrPort_len x.src hw) hfit hpk
    simp only [plainClientUnpack_eq, if_neg (not_not_intro hfrom), hu]
    exact ⟨hlen, Or.inr (congrArg some hd)⟩
  | err _ | panic | noRoom => exact ⟨hL, Or.inl rfl⟩

def PlainDownDelivered : List PlainDownStep → List (Option (AddrPort × Bytes)) → Prop
  | [], [] => True
  | x :: t, o :: os => (o = none ∨ o = some (x.src.norm, x.payload)) ∧ PlainDownDelivered t os
  | _, _ => False

/-- the unpacker's state is fresh, or its current session is this packer's and it has only seen ids this packer used -/
def CUInv (ssid : Bytes) (used : List Bytes) (st : CUState) : Prop :=
  (st.cur = none ∧ st.old = none ∧ st.oldLastSeen = none) ∨ (st.cur = some ssid ∧ ∀ x ∈ st.curSeen, x ∈ used)

theorem ssClientUnpackS_of_inv (c : Crypto) (block : Bytes) (keyOf : Bytes → Bytes) (csid ssid spid : Bytes) (now : Int)
    (st : CUState) (used : List Bytes) (b : Bytes) (q n : Nat) (u : Unpacked AddrPort)
    (hssid : ssid.length = 8) (hinv : CUInv ssid used st) (hnew : spid ∉ used)
    (hsep : c.dec block (sub b q 16) = ssid ++ spid)
    (hu : ssClientUnpack c block (keyOf ssid) csid now b q n = .ok u) :
    ∃ st', ssClientUnpackS c block keyOf csid now st b q n = (st', .ok u) ∧ CUInv ssid (spid :: used) st' := by
  obtain ⟨g1, g2, g3⟩ := ssClientUnpack_guards hu
  have htake : (ssid ++ spid).take 8 = ssid := by simp [hssid]
  have hdrop : (ssid ++ spid).drop 8 = spid := by simp [hssid]
  unfold ssClientUnpackS
  simp only [g1, Bool.false_eq_true, if_false, g2, g3, not_true_eq_false, hsep, htake, hdrop]
  rcases hinv with ⟨hc, ho, hl⟩ | ⟨hc, hseen⟩
  · simp only [hc, ho, hl, reduceCtorEq, if_false, Bool.false_eq_true, hu]
    exact ⟨_, rfl, Or.inr ⟨rfl, fun x hx => List.mem_singleton.mp hx ▸ List.mem_cons_self⟩⟩
  · have hns : spid ∉ st.curSeen := fun hm => hnew (hseen spid hm)
    simp only [hc, if_true, hns, if_false, hu]
    refine ⟨_, rfl, Or.inr ⟨rfl, fun x hx => ?_⟩⟩
    rcases List.mem_cons.mp hx with h | h
    · exact h ▸ List.mem_cons_self
    · exact List.mem_cons_of_mem _ (hseen x h)

def SSDownStep.good (len : Nat) (x : SSDownStep) : Prop :=
  x.src.wf ∧ x.ps + x.payload.length ≤ len ∧ x.ts.length = 8 ∧ x.spid.length = 8 ∧ tsOk x.ts x.now = true

def SSDownPair.good (p : SSDownPair) : Prop := p.c.Laws ∧ p.ssid.length = 8 ∧ p.csid.length = 8

theorem ssDownHistStep_spec (p : SSDownPair) (hp : p.good) (used : List Bytes) (st : CUState) (hinv : CUInv p.ssid used st)
    (b : Bytes) (x : SSDownStep) (hx : x.good b.length) (hnew : x.spid ∉ used) :
    ((ssDownHistStep p (st, b) x).1.2).length = b.length ∧
    CUInv p.ssid (x.spid :: used) (ssDownHistStep p (st, b) x).1.1 ∧
    ((ssDownHistStep p (st, b) x).2 = none ∨ (ssDownHistStep p (st, b) x).2 = some (x.src.norm, x.payload)) := by
  obtain ⟨hw, hfit, hts, hspid, hnow⟩ := hx
  obtain ⟨hLaws, hssid, hcs⟩ := hp
  have hL : (splice b x.ps x.payload).length = b.length := splice_length _ _ _ hfit
  have hmono : CUInv p.ssid (x.spid :: used) st :=
    hinv.imp id fun ⟨h1, h2⟩ => ⟨h1, fun y hy => List.mem_cons_of_mem _ (h2 y hy)⟩
  unfold ssDownHistStep
  simp only
  generalize hpk : ssServerPack p.c p.block (p.keyOf p.ssid) p.pol (splice b x.ps x.payload) x.src x.ps x.payload.length p.lim
    x.rand x.ts p.ssid x.spid p.csid = pk
  cases pk with
  | ok r =>
    obtain ⟨u, hu, hlen, hd⟩ := (ss_roundtrip_down hLaws hw hts hssid hspid hcs hnow hpk).delivered hfit
    have hsep : p.c.dec p.block (sub r.buf r.packetStart.toNat 16) = p.ssid ++ x.spid := by
      obtain ⟨q, _, P, -, rfl, hst, -, hbuf, hfit, -, -⟩ := ssServerPack_packet hLaws hw hts hssid hspid hcs hpk
      rw [hst, Int.toNat_natCast, hbuf]
      exact spliced_sep p.c hLaws _ q _ _ _ (sep_length hssid hspid) hfit
    obtain ⟨st', hst, hinv'⟩ := ssClientUnpackS_of_inv p.c p.block p.keyOf p.csid p.ssid x.spid x.now st used r.buf
      r.packetStart.toNat r.packetLen.toNat u hssid hinv hnew hsep hu
    simp only [hst]
    exact ⟨hlen, hinv', Or.inr (congrArg some hd)⟩
  | err _ | panic | noRoom => exact ⟨hL, hmono, Or.inl rfl⟩

def SSDownDelivered : List SSDownStep → List (Option (AddrPort × Bytes)) → Prop
  | [], [] => True
  | x :: t, o :: os => (o = none ∨ o = some (x.src.norm, x.payload)) ∧ SSDownDelivered t os
  | _, _ => False

theorem ssDownHist_spec (p : SSDownPair) (hp : p.good) (steps : List SSDownStep) (used : List Bytes) (st : CUState)
    (b : Bytes) (hinv : CUInv p.ssid used st) (hgood : ∀ x ∈ steps, x.good b.length)
    (hnd : (steps.map (·.spid)).Nodup) (hdis : ∀ x ∈ steps, x.spid ∉ used) :
    SSDownDelivered steps (ssDownHist p (st, b) steps) :=
  hist_delivered (ssDownHistStep p) (ssDownHist p) SSDownDelivered
    (fun x o => o = none ∨ o = some (x.src.norm, x.payload))
    (fun s steps => ∃ used, CUInv p.ssid used s.1 ∧ (∀ x ∈ steps, x.good s.2.length) ∧
      (steps.map (·.spid)).Nodup ∧ ∀ x ∈ steps, x.spid ∉ used)
    (fun _ => trivial) (fun _ _ _ hp hd => ⟨hp, hd⟩)
    (fun s x t ⟨used, hinv, hgood, hnd, hdis⟩ => by
      obtain ⟨hlen, hinv', hout⟩ := ssDownHistStep_spec p hp used s.1 hinv s.2 x (hgood x (by simp)) (hdis x (by simp))
      simp only [List.map_cons, List.nodup_cons] at hnd
      refine ⟨hout, x.spid :: used, hinv', fun y hy => by rw [hlen]; exact hgood y (by simp [hy]), hnd.2, ?_⟩
      intro y hy hmem
      rcases List.mem_cons.mp hmem with h | h
      · exact hnd.1 (by rw [← h]; exact List.mem_map_of_mem hy)
      · exact hdis y (by simp [hy]) h)
    steps (st, b) ⟨used, hinv, hgood, hnd, hdis⟩

end SSV.Packet
