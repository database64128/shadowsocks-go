import SSV.Model.ClientGroups
/-
Lemmas for C19, the best-of scan: from any accumulator the strict-improvement scan either keeps its best
so far, which nothing then beats, or ends on the FIRST best entry (`scanFrom_spec`, for a strict
comparison); the result is always an index of the list, and the initial index when no score improves on
the initial best (for any comparison).
-/
namespace SSV.ClientGroups
open SSV.Gen.C19

/-- what the theorems need of an improvement test: a strict order on scores in which two scores neither of which beats the other are equal -/
structure StrictOrd (b : Nat → Nat → Bool) : Prop where
  irrefl : ∀ a, b a a = false
  trans : ∀ x y z, b x y = true → b y z = true → b x z = true
  tri : ∀ x y, b x y = false → b y x = false → x = y

theorem strictOrd_lt : StrictOrd (cmpTest .lt) where
  irrefl a := by simp [cmpTest]
  trans x y z h1 h2 := by simp [cmpTest] at *; omega
  tri x y h1 h2 := by simp [cmpTest] at *; omega

-- `cmpTest .gt a b` is `cmpTest .lt b a`
theorem strictOrd_gt : StrictOrd (cmpTest .gt) :=
  ⟨strictOrd_lt.irrefl, fun x y z h1 h2 => strictOrd_lt.trans z y x h2 h1, fun x y h1 h2 => strictOrd_lt.tri x y h2 h1⟩

theorem StrictOrd.asymm {b : Nat → Nat → Bool} (hb : StrictOrd b) {x y : Nat} (h : b x y = true) : b y x = false := by
  cases hyx : b y x with
  | false => rfl
  | true => exact absurd (hb.trans x y x h hyx) (by rw [hb.irrefl]; simp)

theorem StrictOrd.beats_of_not_beats {b : Nat → Nat → Bool} (hb : StrictOrd b) {x y z : Nat} (hx : b x z = true)
    (hy : b y z = false) : b x y = true := by
  cases hxy : b x y with
  | true => rfl
  | false =>
    cases hyx : b y x with
    | false => rw [hb.tri x y hxy hyx, hy] at hx; exact hx
    | true => rw [hb.trans y x z hyx hx] at hy; cases hy

/-- `i` is the first position of `l` whose entry no other entry beats -/
def FirstBest (b : Nat → Nat → Bool) (l : List Nat) (i : Nat) : Prop :=
  ∃ h : i < l.length, (∀ j (hj : j < l.length), b l[j] l[i] = false) ∧ (∀ j (hj : j < i), b l[i] (l[j]'(by omega)) = true)

theorem FirstBest.cons {b : Nat → Nat → Bool} (hb : StrictOrd b) {s : Nat} {rest : List Nat} {k : Nat} (h : FirstBest b rest k)
    (hs : b (rest[k]'h.1) s = true) : FirstBest b (s :: rest) (k + 1) := by
  obtain ⟨hk, h1, h2⟩ := h
  refine ⟨Nat.succ_lt_succ hk, fun j hj => ?_, fun j hj => ?_⟩
  · cases j with
    | zero => exact hb.asymm hs
    | succ j => exact h1 j _
  · cases j with
    | zero => exact hs
    | succ j => exact h2 j (Nat.lt_of_succ_lt_succ hj)

theorem scanFrom_spec (c : CmpOp) (hb : StrictOrd (cmpTest c)) : ∀ (l : List Nat) (i bi bs : Nat),
    (scanFrom c l i (bi, bs) = (bi, bs) ∧ ∀ x ∈ l, cmpTest c x bs = false) ∨
    ∃ k, ∃ h : FirstBest (cmpTest c) l k, scanFrom c l i (bi, bs) = (i + k, l[k]'h.1) ∧ cmpTest c (l[k]'h.1) bs = true
  | [], _, _, _ => .inl ⟨rfl, fun _ h => absurd h List.not_mem_nil⟩
  | s :: rest, i, bi, bs => by
    have step : ∀ k (h : FirstBest (cmpTest c) rest k), (i + 1 + k, rest[k]'h.1) = (i + (k + 1), (s :: rest)[k + 1]'(Nat.succ_lt_succ h.1)) :=
      fun k _ => by rw [Nat.add_right_comm, Nat.add_assoc]; rfl
    rw [scanFrom]
    cases hs : cmpTest c s bs with
    | true =>
      rw [if_pos rfl]
      rcases scanFrom_spec c hb rest (i + 1) i s with ⟨h1, h2⟩ | ⟨k, h, h1, h2⟩
      · refine .inr ⟨0, ⟨Nat.zero_lt_succ _, fun j hj => ?_, fun j hj => absurd hj (Nat.not_lt_zero j)⟩, h1, hs⟩
        cases j with
        | zero => exact hb.irrefl s
        | succ j => exact h2 _ (List.getElem_mem _)
      · -- a later entry that beats `s` beats the old best too
        exact .inr ⟨k + 1, h.cons hb h2, h1.trans (step k h), hb.trans _ _ _ h2 hs⟩
    | false =>
      rw [if_neg Bool.false_ne_true]
      rcases scanFrom_spec c hb rest (i + 1) bi bs with ⟨h1, h2⟩ | ⟨k, h, h1, h2⟩
      · exact .inl ⟨h1, fun x hx => (List.mem_cons.mp hx).elim (· ▸ hs) (h2 x)⟩
      · -- a later entry that beats the old best beats `s`, which does not
        exact .inr ⟨k + 1, h.cons hb (hb.beats_of_not_beats h2 hs), h1.trans (step k h), h2⟩

/-- `hinit` holds of the initial bests in use: `0` successes; the timeout, for latencies bounded by the timeout -/
theorem scan_firstBest (c : CmpOp) (hb : StrictOrd (cmpTest c)) (best0 : Nat) (l : List Nat) (hl : 0 < l.length)
    (hinit : ∀ x ∈ l, cmpTest c best0 x = false) :
    FirstBest (cmpTest c) l (scanFrom c l 0 (0, best0)).1 := by
  rcases scanFrom_spec c hb l 0 0 best0 with ⟨h1, h2⟩ | ⟨k, h, h1, -⟩
  · -- the initial best beats nothing and nothing beats it: every entry equals it, the index stays 0
    have he : ∀ x ∈ l, x = best0 := fun x hx => (hb.tri _ _ (hinit x hx) (h2 x hx)).symm
    rw [h1]
    refine ⟨hl, fun j hj => ?_, fun j hj => absurd hj (Nat.not_lt_zero j)⟩
    rw [he _ (List.getElem_mem _), he _ (List.getElem_mem _)]
    exact hb.irrefl _
  · rwa [h1, Nat.zero_add]

theorem scanFrom_index (c : CmpOp) : ∀ (rest : List Nat) (i : Nat) (acc : Nat × Nat),
    (scanFrom c rest i acc).1 = acc.1 ∨ (i ≤ (scanFrom c rest i acc).1 ∧ (scanFrom c rest i acc).1 < i + rest.length)
  | [], _, _ => Or.inl rfl
  | s :: rest, i, (bi, bs) => by
    simp only [scanFrom]
    split
    · right
      rcases scanFrom_index c rest (i + 1) (i, s) with h | ⟨h1, h2⟩
      · rw [h]; simp
      · simp only [List.length_cons]; omega
    · rcases scanFrom_index c rest (i + 1) (bi, bs) with h | ⟨h1, h2⟩
      · exact .inl h
      · right; simp only [List.length_cons]; omega

theorem bestIndex_lt (p : Policy) (timeout : Nat) (scores : List Nat) (h : 0 < scores.length) :
    bestIndex p timeout scores < scores.length := by
  unfold bestIndex
  rcases scanFrom_index (cmpOf p) scores 0 (0, valOf (initBestOf p) timeout) with h1 | ⟨_, h2⟩
  · rw [h1]; exact h
  · omega

theorem scanFrom_no_improvement (c : CmpOp) : ∀ (l : List Nat) (i : Nat) (acc : Nat × Nat),
    (∀ x ∈ l, cmpTest c x acc.2 = false) → scanFrom c l i acc = acc
  | [], _, _, _ => rfl
  | s :: rest, i, (bi, bs), h => by
    have hs : cmpTest c s bs = false := h s List.mem_cons_self
    simp only [scanFrom, hs, Bool.false_eq_true, if_false]
    exact scanFrom_no_improvement c rest (i + 1) (bi, bs) (fun x hx => h x (List.mem_cons_of_mem _ hx))

theorem bestIndex_sentinel (p : Policy) (timeout : Nat) (scores : List Nat)
    (h : ∀ x ∈ scores, cmpTest (cmpOf p) x (valOf (initBestOf p) timeout) = false) :
    bestIndex p timeout scores = 0 := by
  unfold bestIndex
  rw [scanFrom_no_improvement (cmpOf p) scores 0 _ h]

end SSV.ClientGroups
