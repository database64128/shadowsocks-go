import SSV.Proofs.RouterPorts
import SSV.Model.RouterSpec
import SSV.Proofs.PortSetParse
import SSV.Proofs.Split
/-
C09: `Loads` (what a step of loading yields), the translation `R.ofV` of the specification's verdicts with its algebra,
and the sections of `build` that do not involve addresses (network, servers, users, ports). Each produces criteria
whose `Meet` is the documented condition, and the ports section never reaches `panic("unreachable")` because a port list
that passed validation denotes at least one port.
-/
namespace SSV.Router
open SSV.Router.Spec SSV.Gen

/-- What a step of loading a configuration yields: a value with `P`, or an ordinary load error — never the
`panic("unreachable")` of `RouteConfig.Route`. `P` quantifies over requests where it speaks of them; a `_loads` theorem
itself has no hypothesis about a request. -/
inductive Loads {α : Type} : Except BuildErr α → (α → Prop) → Prop
  | pure {a : α} {P : α → Prop} (h : P a) : Loads (.ok a) P
  | fail {e : BuildErr} {P : α → Prop} (h : e ≠ .unreachable) : Loads (.error e) P

theorem Loads.ok {α : Type} {x : Except BuildErr α} {P : α → Prop} (h : Loads x P) {a : α} (e : x = .ok a) : P a := by
  subst e; cases h; assumption

theorem Loads.error {α β : Type} {x : Except BuildErr α} {P : α → Prop} (h : Loads x P) {e : BuildErr}
    {Q : β → Prop} (he : x = .error e) : Loads (.error e) Q := by
  subst he; cases h; exact .fail ‹_›

theorem Loads.ne {α : Type} {x : Except BuildErr α} {P : α → Prop} (h : Loads x P) : x ≠ .error .unreachable := by
  intro e; subst e; cases h; contradiction

theorem Loads.bind {α β : Type} {x : Except BuildErr α} {k : α → Except BuildErr β} {P : α → Prop} {Q : β → Prop}
    (hx : Loads x P) (hk : ∀ a, P a → Loads (k a) Q) : Loads (x.bind k) Q := by
  cases hx with
  | pure h => exact hk _ h
  | fail h => exact .fail h

theorem Loads.mono {α : Type} {x : Except BuildErr α} {P Q : α → Prop} (h : Loads x P) (hPQ : ∀ a, P a → Q a) :
    Loads x Q := by
  cases h with
  | pure h => exact .pure (hPQ _ h)
  | fail h => exact .fail h

theorem Loads.of_ne {α : Type} {x : Except BuildErr α} (h : x ≠ .error .unreachable) : Loads x fun a => x = .ok a := by
  cases x with
  | error e => exact .fail fun e => h (e ▸ rfl)
  | ok a => exact .pure rfl

def R.ofV : V → R
  | .t => .yes
  | .f => .no
  | .e x => .fail x

def R.inv (i : Bool) (r : R) : R := if i then r.invert else r

@[simp] theorem R.ofV_ofBool (b : Bool) : R.ofV (V.ofBool b) = R.ofBool b := by
  cases b <;> rfl

theorem R.ofV_eq_yes {v : V} : R.ofV v = .yes ↔ v = .t := by
  cases v <;> simp [R.ofV]

theorem R.inv_ofV (i : Bool) (v : V) : R.inv i (R.ofV v) = R.ofV (v.inv i) := by
  cases i <;> cases v <;> rfl

theorem R.ofV_and (v w : V) : R.ofV (v.and w) = (R.ofV v).andThen (R.ofV w) := by
  cases v <;> rfl

theorem R.ofV_or (v w : V) : R.ofV (v.or w) = (R.ofV v).orElse (R.ofV w) := by
  cases v <;> rfl

theorem R.andThen_yes (a : R) : a.andThen .yes = a := by
  cases a <;> rfl

theorem R.orElse_no (r : R) : r.orElse .no = r := by cases r <;> rfl

theorem meet_wrap (p : Params) (q : Req) (i : Bool) (c : Crit) : meet p q (wrap i c) = R.inv i (meet p q c) := by
  cases i <;> simp [wrap, R.inv, meet]

theorem meetAll_append (p : Params) (q : Req) (a b : List Crit) :
    meetAll p q (a ++ b) = (meetAll p q a).andThen (meetAll p q b) := by
  induction a with
  | nil => rfl
  | cons c cs ih =>
    simp only [List.cons_append, meetAll, ih]
    cases meet p q c <;> rfl

theorem meetAll_single (p : Params) (q : Req) (c : Crit) : meetAll p q [c] = meet p q c := by
  simp only [meetAll]; cases meet p q c <;> rfl

theorem meetAll_nil (p : Params) (q : Req) : meetAll p q [] = R.ofV .t := rfl

theorem secNetwork_loads (rc : RouteConfig) : Loads (secNetwork rc) fun cs =>
    (rc.network = "" ∨ rc.network = "tcp" ∨ rc.network = "udp") ∧ ∀ p q, meetAll p q cs = R.ofV (cNetwork rc q) := by
  fun_cases secNetwork rc
  · rename_i e
    exact .pure ⟨.inl e, fun p q => by simp [cNetwork, show rc.network = "" from e, meetAll_nil]⟩
  · rename_i e
    exact .pure ⟨.inr (.inl e), fun p q => by simp [cNetwork, show rc.network = "tcp" from e, meetAll_single, meet]⟩
  · rename_i e
    exact .pure ⟨.inr (.inr e), fun p q => by simp [cNetwork, show rc.network = "udp" from e, meetAll_single, meet]⟩
  · exact .fail nofun

theorem secUsers_sound (p : Params) (q : Req) (rc : RouteConfig) :
    meetAll p q (secUsers rc) = R.ofV (cUsers rc q) := by
  unfold cUsers
  fun_cases secUsers rc
  · rename_i e; rw [if_pos e]; rfl
  · rename_i e
    simp only [if_neg e, meetAll_single, meet_wrap, meet, ← R.ofV_ofBool, R.inv_ofV]

theorem contains_map_idxOf (servers fs : List String) (i : Nat) (hi : i < servers.length) (hnd : servers.Nodup)
    (hall : fs.all (fun s => servers.contains s) = true) :
    (fs.map (fun s => servers.idxOf s)).contains i = fs.contains servers[i] := by
  rw [Bool.eq_iff_iff, List.contains_iff_mem, List.contains_iff_mem, List.mem_map]
  rw [List.all_eq_true] at hall
  constructor
  · rintro ⟨n, hn, e⟩
    have hmem : n ∈ servers := List.contains_iff_mem.mp (hall n hn)
    have hlt : List.idxOf n servers < servers.length := List.idxOf_lt_length_iff.mpr hmem
    have := List.getElem_idxOf hlt
    subst e
    rw [this]; exact hn
  · intro hn
    exact ⟨servers[i], hn, hnd.idxOf_getElem i hi⟩

theorem secServers_loads (env : Env) (rc : RouteConfig) : Loads (secServers env rc) fun cs =>
    ∀ p q, q.server < env.servers.length → env.servers.Nodup → meetAll p q cs = R.ofV (cServers env rc q) := by
  fun_cases secServers env rc
  · rename_i e; exact .pure fun p q _ _ => by simp [cServers, e, meetAll_nil]
  · rename_i e hall
    refine .pure fun p q hsrv hnd => ?_
    simp only [cServers, e, meetAll_single, meet_wrap, meet, bitsetIsSet, Nat.not_le.mpr hsrv, if_false]
    rw [contains_map_idxOf env.servers rc.fromServers q.server hsrv hnd hall]
    simp only [List.getElem?_eq_getElem hsrv, ← R.ofV_ofBool, R.inv_ofV]
    rfl
  · exact .fail nofun

theorem addPorts_spec (bad : BuildErr) (ports : List Nat) (s s' : PortSet) (hs : s.WF)
    (h : addPorts bad s ports = .ok s') :
    s'.WF ∧ (∀ q, s'.mem q = (ports.contains q || s.mem q)) ∧ ∀ x ∈ ports, x ≠ 0 ∧ x < portSpace := by
  revert hs h
  fun_induction addPorts bad s ports with
  | case1 s => exact fun hs h => by cases h; exact ⟨hs, fun _ => (Bool.false_or _).symm, nofun⟩
  | case2 => exact fun _ h => nomatch h -- port 0 or above 65535
  | case3 s x xs hx ih =>
    intro hs h
    simp only [Bool.or_eq_true, decide_eq_true_eq, not_or] at hx
    obtain ⟨w, m, z⟩ := ih (PortSet.wf_add s hs x) h
    refine ⟨w, fun q => ?_, List.forall_mem_cons.mpr ⟨⟨hx.1, by omega⟩, z⟩⟩
    rw [m q, PortSet.mem_add s hs x q (by omega), List.contains_cons, BEq.comm (a := q), Bool.or_left_comm,
      Bool.or_assoc]

theorem itemCovers_eq (it : SSV.PortSet.Item) (q : Nat) : itemCovers it q = it.covers q := by
  cases it with
  | port p => exact Bool.eq_iff_iff.mpr (by rw [itemCovers, SSV.PortSet.Item.covers, beq_iff_eq, decide_eq_true_eq, eq_comm])
  | range a b => rfl

theorem pieceCovers_zero (pc : List UInt8) : pieceCovers pc 0 = false := by
  unfold pieceCovers
  cases hp : SSV.PortSet.parseItem pc with
  | none => rfl
  | some it => exact (itemCovers_eq it 0).trans (SSV.PortSet.covers_zero (SSV.PortSet.parseItem_valid hp))

theorem pieceCovers_witness (pc : List UInt8) (h : SSV.PortSet.parseItem pc ≠ none) :
    ∃ x, x < portSpace ∧ pieceCovers pc x = true := by
  unfold pieceCovers
  cases hp : SSV.PortSet.parseItem pc with
  | none => exact absurd hp h
  | some it =>
    have hv := SSV.PortSet.parseItem_valid hp
    cases it with
    | port x => exact ⟨x, by simp only [SSV.PortSet.Item.Valid, portSpace] at hv ⊢; omega, by simp [itemCovers]⟩
    | range a b => exact ⟨a, by simp only [SSV.PortSet.Item.Valid, portSpace] at hv ⊢; omega,
        by simp only [SSV.PortSet.Item.Valid] at hv; simp only [itemCovers, Bool.and_eq_true, decide_eq_true_eq]; omega⟩

theorem addPieces_spec (bad : BuildErr) (pieces : List (List UInt8)) (s s' : PortSet) (hs : s.WF)
    (h : addPieces bad s pieces = .ok s') :
    (∀ q, s'.mem q = (pieces.any (fun pc => pieceCovers pc q) || s.mem q)) ∧
      ∀ pc ∈ pieces, SSV.PortSet.parseItem pc ≠ none := by
  revert hs h
  fun_induction addPieces bad s pieces with
  | case1 s => exact fun _ h => by cases h; exact ⟨fun _ => (Bool.false_or _).symm, nofun⟩
  | case2 => exact fun _ h => nomatch h -- the piece does not parse
  | case3 s pc rest x hp ih => -- a port
    intro hs h
    have hv := SSV.PortSet.parseItem_valid hp
    simp only [SSV.PortSet.Item.Valid] at hv
    obtain ⟨m, pn⟩ := ih (PortSet.wf_add s hs x) h
    refine ⟨fun q => ?_, List.forall_mem_cons.mpr ⟨hp ▸ nofun, pn⟩⟩
    rw [m q, PortSet.mem_add s hs x q (by simp only [portSpace]; omega), List.any_cons, Bool.or_left_comm,
      Bool.or_assoc]
    simp only [pieceCovers, hp, itemCovers]
  | case4 s pc rest a b hp ih => -- a range
    intro hs h
    have hv := SSV.PortSet.parseItem_valid hp
    simp only [SSV.PortSet.Item.Valid] at hv
    obtain ⟨m, pn⟩ := ih (PortSet.wf_addRun s hs a _) h
    refine ⟨fun q => ?_, List.forall_mem_cons.mpr ⟨hp ▸ nofun, pn⟩⟩
    rw [m q, PortSet.mem_addRun s hs a _ q (by simp only [portSpace]; omega), List.any_cons, Bool.or_left_comm,
      Bool.or_assoc]
    simp only [pieceCovers, hp, itemCovers, Nat.add_sub_cancel' (Nat.le_succ_of_le (Nat.le_of_lt hv.2.1)),
      Nat.lt_succ_iff]

theorem portTable_spec (init : PortSet) (hw : init.WF) (hi : ∀ q, init.mem q = false)
    (b1 b2 : BuildErr) (ports : List Nat) (str : List UInt8) (s1 s2 : PortSet)
    (h1 : addPorts b1 init ports = .ok s1) (h2 : addPieces b2 s1 (SSV.PortSet.items str) = .ok s2) :
    (∀ q, s2.mem q = portsDenote ports str q) ∧ s2.mem 0 = false ∧ (∀ x ∈ ports, x ≠ 0 ∧ x < portSpace) ∧
      ∀ pc ∈ SSV.PortSet.items str, SSV.PortSet.parseItem pc ≠ none := by
  obtain ⟨w1, m1, z1⟩ := addPorts_spec b1 ports init s1 hw h1
  obtain ⟨m2, pn⟩ := addPieces_spec b2 _ s1 s2 w1 h2
  have key : ∀ q, s2.mem q = portsDenote ports str q := fun q => by
    rw [m2 q, m1 q, hi, Bool.or_false, Bool.or_comm]; rfl
  refine ⟨key, ?_, z1, pn⟩
  rw [key 0, portsDenote, rangesDenote, Bool.or_eq_false_iff]
  constructor
  · rw [Bool.eq_false_iff]
    intro h
    exact (z1 0 (List.contains_iff_mem.mp h)).1 rfl
  · exact List.any_eq_false.mpr fun pc _ => by rw [pieceCovers_zero]; nofun

theorem addPorts_ne_unreachable (bad : BuildErr) (hb : bad ≠ .unreachable) (ports : List Nat) (s : PortSet) :
    addPorts bad s ports ≠ .error .unreachable := by
  fun_induction addPorts bad s ports with
  | case1 => nofun
  | case2 => exact fun h => hb (by cases h; rfl)
  | case3 _ _ _ _ ih => exact ih

theorem addPieces_ne_unreachable (bad : BuildErr) (hb : bad ≠ .unreachable) (pieces : List (List UInt8)) (s : PortSet) :
    addPieces bad s pieces ≠ .error .unreachable := by
  fun_induction addPieces bad s pieces with
  | case1 => nofun
  | case2 => exact fun h => hb (by cases h; rfl)
  | case3 _ _ _ _ _ ih => exact ih
  | case4 _ _ _ _ _ _ ih => exact ih

theorem items_ne_nil (s : List UInt8) (h : s ≠ []) : SSV.PortSet.items s ≠ [] := by
  cases s with
  | nil => exact absurd rfl h
  | cons x xs =>
    obtain ⟨a, t, e, ht⟩ := SSV.splitOn_cons_shape 44 x xs
    unfold SSV.PortSet.items
    dsimp only
    rw [e]
    cases t with
    | nil =>
      have := ht rfl
      simp [this]
    | cons t1 t2 =>
      split
      · simp [List.dropLast]
      · simp

theorem portTable_count_ne_zero (ports : List Nat) (str : List UInt8) (hne : (ports.isEmpty && str.isEmpty) = false)
    (hp : ∀ x ∈ ports, x ≠ 0 ∧ x < portSpace) (hs : ∀ pc ∈ SSV.PortSet.items str, SSV.PortSet.parseItem pc ≠ none)
    (s : PortSet) (key : ∀ q, s.mem q = portsDenote ports str q) : s.count ≠ 0 := by
  cases ports with
  | cons x xs => exact s.count_ne_zero x (hp x List.mem_cons_self).2 (by simp [key, portsDenote])
  | nil =>
    have hstr : str ≠ [] := by intro e; simp [e] at hne
    obtain ⟨pc, rest, hi⟩ := List.exists_cons_of_ne_nil (items_ne_nil str hstr)
    obtain ⟨x, hx, hc⟩ := pieceCovers_witness pc (hs pc (hi ▸ List.mem_cons_self))
    exact s.count_ne_zero x hx
      (by simp only [key, portsDenote, rangesDenote, hi, List.any_cons, hc, Bool.true_or, Bool.or_true])

/-- `case 0` of the `switch portCount` is the only way to `.unreachable` -/
theorem portCrit_loads (s : PortSet) (one all maxR : Nat) (pl : BuildErr) (single : Nat → Crit)
    (ranges : List (Nat × Nat) → Crit) (set : PortSet → Crit) (h0 : s.count ≠ 0) (hpl : pl ≠ .unreachable) :
    Loads (portCrit s one all maxR pl single ranges set) fun cr =>
      (cr = single s.first ∧ s.count = one) ∨ cr = ranges s.rangeSet ∨ cr = set s := by
  fun_cases portCrit s one all maxR pl single ranges set
  · exact absurd ‹_› h0
  · exact .pure (.inl ⟨rfl, ‹_›⟩) -- one port
  · exact .fail hpl -- all ports
  · exact .pure (.inr (.inl rfl)) -- few ranges
  · exact .pure (.inr (.inr rfl))

/- `portsSection.match_3` and `portsSection.match_1` are the matchers Lean generated for the steps
`match x with | .error e => .error e | .ok a => k a` of `portsSection` (on a table, on the criterion). They are turned
into `Except.bind` here, once, with `x` and `k` variables: taking `portsSection` apart with `split` or `cases` instead
makes the kernel compare `match portCrit s … with …` with another form of itself by evaluation, and it evaluates
`Count` over all 65536 entries on the way. -/
theorem portsSection_matchTable_eq_bind {β : Type} (x : Except BuildErr PortSet) (k : PortSet → Except BuildErr β) :
    portsSection.match_3 (fun _ => Except BuildErr β) x (fun e => .error e) k = x.bind k := by
  cases x <;> rfl

theorem portsSection_matchCrit_eq_bind {β : Type} (x : Except BuildErr Crit) (k : Crit → Except BuildErr β) :
    portsSection.match_1 (fun _ => Except BuildErr β) x (fun e => .error e) k = x.bind k := by
  cases x <;> rfl

theorem portsSection_eq (init : PortSet) (ports : List Nat) (str : List UInt8) (invert : Bool)
    (b1 b2 pl : BuildErr) (one all maxR : Nat) (single : Nat → Crit) (ranges : List (Nat × Nat) → Crit)
    (set : PortSet → Crit) :
    portsSection init ports str invert b1 b2 pl one all maxR single ranges set =
      if ports.isEmpty && str.isEmpty then .ok []
      else (addPorts b1 init ports).bind fun s1 => (addPieces b2 s1 (SSV.PortSet.items str)).bind fun s2 =>
        (portCrit s2 one all maxR pl single ranges set).bind fun cr => .ok [wrap invert cr] := by
  unfold portsSection
  simp only [portsSection_matchTable_eq_bind, portsSection_matchCrit_eq_bind]

theorem portSetMeet_guarded (s : PortSet) (hs0 : s.mem 0 = false) (port : Nat) :
    portSetMeet true s port = R.ofBool (s.mem port) := by
  unfold portSetMeet PortSet.contains
  by_cases e : port = 0
  · subst e; simp [hs0, R.ofBool]
  · simp [e]

/-- the three criteria of one port field (source or destination): a single port, a range set, the bit set -/
structure PortCrits (p : Params) (q : Req) (port : Nat) (single : Nat → Crit) (ranges : List (Nat × Nat) → Crit)
    (set : PortSet → Crit) : Prop where
  ofSingle : ∀ x, meet p q (single x) = R.ofBool (x == port)
  ofRanges : ∀ rs, meet p q (ranges rs) = R.ofBool (rangesContain rs port)
  ofSet : ∀ s, meet p q (set s) = portSetMeet true s port

theorem srcPortCrits (p : Params) (q : Req) : PortCrits p q q.srcPort .srcPort .srcPortRanges .srcPortSet :=
  ⟨fun _ => by simp only [meet], fun _ => by simp only [meet], fun _ => by simp only [meet, C09.srcPortSetGuardsZero]⟩

theorem dstPortCrits (p : Params) (q : Req) : PortCrits p q q.dstPort .dstPort .dstPortRanges .dstPortSet :=
  ⟨fun _ => by simp only [meet], fun _ => by simp only [meet], fun _ => by simp only [meet, C09.dstPortSetGuardsZero]⟩

theorem PortCrits.agree {p : Params} {q : Req} {port : Nat} {single : Nat → Crit} {ranges : List (Nat × Nat) → Crit}
    {set : PortSet → Crit} (h : PortCrits p q port single ranges set) (s : PortSet) (hs0 : s.mem 0 = false)
    (hq : port < portSpace) :
    (s.count = 1 → meet p q (single s.first) = R.ofBool (s.mem port)) ∧
    meet p q (ranges s.rangeSet) = R.ofBool (s.mem port) ∧ meet p q (set s) = R.ofBool (s.mem port) :=
  ⟨fun h1 => by rw [h.ofSingle, PortSet.first_of_count_one s h1 _ hq], by rw [h.ofRanges, rangeSet_contains s _ hq],
    by rw [h.ofSet]; exact portSetMeet_guarded s hs0 _⟩

theorem portsSection_loads (init : PortSet) (hw : init.WF) (hi : ∀ x, init.mem x = false)
    {ports : List Nat} {str : List UInt8} {invert : Bool} {b1 b2 pl : BuildErr} {one all maxR : Nat}
    {single : Nat → Crit} {ranges : List (Nat × Nat) → Crit} {set : PortSet → Crit}
    (h1 : b1 ≠ .unreachable) (h2 : b2 ≠ .unreachable) (hpl : pl ≠ .unreachable) (hone : one = 1) :
    Loads (portsSection init ports str invert b1 b2 pl one all maxR single ranges set) fun cs =>
      (∀ pc ∈ SSV.PortSet.items str, SSV.PortSet.parseItem pc ≠ none) ∧
      ∀ p q port, port < portSpace → PortCrits p q port single ranges set → meetAll p q cs =
        R.ofV (if ports.isEmpty && str.isEmpty then .t else (V.ofBool (portsDenote ports str port)).inv invert) := by
  rw [portsSection_eq]
  cases hne : ports.isEmpty && str.isEmpty with
  | true =>
    simp only [Bool.and_eq_true, List.isEmpty_iff] at hne
    exact .pure ⟨by rw [hne.2]; nofun, fun _ _ _ _ _ => rfl⟩
  | false =>
    simp only [Bool.false_eq_true, if_false]
    refine (Loads.of_ne (addPorts_ne_unreachable _ h1 _ _)).bind fun s1 e1 =>
      (Loads.of_ne (addPieces_ne_unreachable _ h2 _ _)).bind fun s2 e2 => ?_
    obtain ⟨key, z, z1, pn⟩ := portTable_spec init hw hi _ _ _ _ _ _ e1 e2
    refine (portCrit_loads _ _ _ _ _ _ _ _ (portTable_count_ne_zero ports str hne z1 pn s2 key) hpl).bind fun cr hc => .pure ⟨pn, fun p q port hq hcr => ?_⟩
    obtain ⟨r1, r2, r3⟩ := hcr.agree s2 z hq
    have hm : meet p q cr = R.ofBool (s2.mem port) := by
      rcases hc with ⟨rfl, hc1⟩ | rfl | rfl
      · exact r1 (hc1.trans hone)
      · exact r2
      · exact r3
    rw [meetAll_single, meet_wrap, hm, key, ← R.ofV_ofBool, R.inv_ofV]

theorem secFromPorts_loads (rc : RouteConfig) : Loads (secFromPorts rc) fun cs =>
    (∀ pc ∈ SSV.PortSet.items rc.fromPortRanges, SSV.PortSet.parseItem pc ≠ none) ∧
    ∀ p q, q.srcPort < portSpace → meetAll p q cs = R.ofV (cFromPorts rc q) :=
  Loads.mono (x := secFromPorts rc)
    (portsSection_loads .empty PortSet.wf_empty PortSet.mem_empty nofun nofun nofun rfl)
    fun _ h => ⟨h.1, fun p q hq => h.2 p q _ hq (srcPortCrits p q)⟩

theorem secToPorts_loads (rc : RouteConfig) : Loads (secToPorts rc) fun cs =>
    (∀ pc ∈ SSV.PortSet.items rc.toPortRanges, SSV.PortSet.parseItem pc ≠ none) ∧
    ∀ p q, q.dstPort < portSpace → meetAll p q cs = R.ofV (cToPorts rc q) :=
  Loads.mono (x := secToPorts rc)
    (portsSection_loads .empty PortSet.wf_empty PortSet.mem_empty nofun nofun nofun rfl)
    fun _ h => ⟨h.1, fun p q hq => h.2 p q _ hq (dstPortCrits p q)⟩

end SSV.Router
