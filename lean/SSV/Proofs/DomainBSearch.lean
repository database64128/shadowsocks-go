import SSV.Proofs.DomainSuffix
/-
`DomainBinarySearchMatcher`: `Insert` keeps the slice strictly ascending (bytewise order) and `slices.BinarySearch`
finds exactly the members of an ascending slice.
-/
namespace SSV.DomainSet

theorem strLt_iff (a b : Str) : strLt a b = true ↔ a < b := by
  fun_induction strLt a b
  -- nothing is below `[]`, `[]` is below everything else; then the first bytes decide, or are equal
  case case1 | case2 => simp
  case case3 h => exact iff_of_true rfl (List.cons_lt_cons_iff.mpr (Or.inl (UInt8.lt_iff_toNat_lt.mpr h)))
  case case4 =>
    rw [List.cons_lt_cons_iff, UInt8.lt_iff_toNat_lt, ← UInt8.toNat_inj]
    simp only [Bool.false_eq_true, false_iff]; omega
  case case5 h1 _ ih =>
    rw [List.cons_lt_cons_iff, UInt8.lt_iff_toNat_lt, ← UInt8.toNat_inj, ih]
    exact ⟨fun h => Or.inr ⟨by omega, h⟩, fun h => h.elim (fun h => absurd h h1) (·.2)⟩

theorem strLt_irrefl (a : Str) : strLt a a = false :=
  Bool.eq_false_iff.mpr fun h => List.lt_irrefl a ((strLt_iff a a).mp h)

theorem strLt_trans (a b c : Str) (h1 : strLt a b = true) (h2 : strLt b c = true) : strLt a c = true :=
  (strLt_iff a c).mpr (List.lt_trans ((strLt_iff a b).mp h1) ((strLt_iff b c).mp h2))

theorem strLt_antisymm (a b : Str) (h1 : strLt a b = false) (h2 : strLt b a = false) : a = b :=
  List.le_antisymm (List.not_lt.mp fun h => Bool.eq_false_iff.mp h2 ((strLt_iff b a).mpr h))
    (List.not_lt.mp fun h => Bool.eq_false_iff.mp h1 ((strLt_iff a b).mpr h))

/-- strictly ascending in the bytewise order: what `Insert` maintains -/
def Ascending (x : List Str) : Prop := x.Pairwise (fun a b => strLt a b = true)

theorem Ascending.lt_of_le {x : List Str} (hs : Ascending x) {t : Str} {k m : Nat} (hk : k ≤ m) (hm : m < x.length)
    (h : strLt x[m] t = true) : strLt (x[k]'(Nat.lt_of_le_of_lt hk hm)) t = true := by
  rcases Nat.lt_or_eq_of_le hk with hlt | rfl
  · exact strLt_trans _ _ _ (List.pairwise_iff_getElem.mp hs k m _ hm hlt) h
  · exact h

theorem lowerBound_spec (x : List Str) (t : Str) (hs : Ascending x) (fuel i j : Nat) (hj : j ≤ x.length)
    (hf : j - i < fuel) (hlo : ∀ k (hk : k < x.length), k < i → strLt x[k] t = true)
    (hhi : ∀ k (hk : k < x.length), j ≤ k → strLt x[k] t = false) :
    let r := lowerBound x t fuel i j
    (∀ k (hk : k < x.length), k < r → strLt x[k] t = true) ∧ (∀ k (hk : k < x.length), r ≤ k → strLt x[k] t = false) := by
  fun_induction lowerBound x t fuel i j
  -- no fuel left: excluded by `hf`
  case case1 => omega
  -- the midpoint of `i < j ≤ x.length` is an index of `x`
  case case2 hn => exact absurd (List.getElem?_eq_none_iff.mp hn) (by omega)
  -- `x[h] < t`: everything up to `h` is below `t`; otherwise nothing from `h` on is
  case case3 he hc ih =>
    obtain ⟨hh, rfl⟩ := List.getElem?_eq_some_iff.mp he
    exact ih hj (by omega) (fun k _ hkl => hs.lt_of_le (Nat.le_of_lt_succ hkl) hh hc) hhi
  case case4 he hc ih =>
    obtain ⟨hh, rfl⟩ := List.getElem?_eq_some_iff.mp he
    exact ih (by omega) (by omega) hlo fun k hk hkl => Bool.eq_false_iff.mpr fun hkt => hc (hs.lt_of_le hkl hk hkt)
  -- `j ≤ i`: the search has ended at `i`
  case case5 => exact ⟨hlo, fun k hk hik => hhi k hk (by omega)⟩

theorem lowerBound_whole (x : List Str) (t : Str) (hs : Ascending x) :
    let r := lowerBound x t (x.length + 1) 0 x.length
    (∀ k (hk : k < x.length), k < r → strLt x[k] t = true) ∧ (∀ k (hk : k < x.length), r ≤ k → strLt x[k] t = false) :=
  lowerBound_spec x t hs (x.length + 1) 0 x.length (by omega) (by omega)
    (by intro k _ hk; omega) (by intro k hk hk'; omega)

theorem binarySearch_found (x : List Str) (t : Str) (hs : Ascending x) :
    (binarySearch x t).2 = x.contains t := by
  obtain ⟨hlo, hhi⟩ := lowerBound_whole x t hs
  have hpw := List.pairwise_iff_getElem.mp hs
  unfold binarySearch
  simp only
  generalize lowerBound x t (x.length + 1) 0 x.length = r at hlo hhi
  rw [Bool.eq_iff_iff, List.contains_iff_mem]
  simp only [beq_iff_eq]
  constructor
  · intro h; exact List.mem_of_getElem? h
  · intro hm
    obtain ⟨k, hk, rfl⟩ := List.getElem_of_mem hm
    have hkr : r ≤ k := by
      by_cases h : k < r
      · have := hlo k hk h
        rw [strLt_irrefl] at this; cases this
      · omega
    by_cases hrk : r = k
    · subst hrk; exact List.getElem?_eq_getElem hk
    · have hrlen : r < x.length := by omega
      have h1 := hpw r k hrlen hk (by omega)
      have h2 := hhi r hrlen (by omega)
      rw [h1] at h2; cases h2

theorem ascending_insert (x : List Str) (t : Str) (hs : Ascending x) : Ascending (bsearchInsert x t) := by
  obtain ⟨hlo, hhi⟩ := lowerBound_whole x t hs
  have hfound := binarySearch_found x t hs
  unfold bsearchInsert
  unfold binarySearch at hfound ⊢
  simp only at hfound ⊢
  generalize lowerBound x t (x.length + 1) 0 x.length = r at hlo hhi hfound
  split
  · exact hs
  · next hf =>
    -- `t` is not in `x`; everything before position `r` is below `t`, nothing from `r` on is
    have hnot : t ∉ x := fun hm => hf (hfound.trans (List.contains_iff_mem.mpr hm))
    have hp : (x.take r ++ x.drop r).Pairwise (fun a b => strLt a b = true) := (List.take_append_drop r x).symm ▸ hs
    obtain ⟨p1, p2, p3⟩ := List.pairwise_append.mp hp
    refine List.pairwise_append.mpr ⟨p1, List.pairwise_cons.mpr ⟨fun b hb => ?_, p2⟩, fun a ha b hb => ?_⟩
    · obtain ⟨k, hk, rfl⟩ := List.mem_drop_iff_getElem.mp hb
      cases hcmp : strLt t (x[r + k]'(Nat.add_comm k r ▸ hk)) with
      | true => rfl
      | false => exact absurd (strLt_antisymm _ _ (hhi _ _ (by omega)) hcmp ▸ List.getElem_mem _) hnot
    · rcases List.mem_cons.mp hb with rfl | hb
      · obtain ⟨k, hk, rfl⟩ := List.mem_take_iff_getElem.mp ha
        exact hlo k _ (by omega)
      · exact p3 a ha b hb

theorem mem_bsearchInsert (x : List Str) (t a : Str) : a ∈ bsearchInsert x t ↔ (a ∈ x ∨ a = t) := by
  fun_cases bsearchInsert x t
  -- found: `x` stays, and holds `t` already
  case case1 hf =>
    have ht : t ∈ x := List.mem_of_getElem? (beq_iff_eq.mp (congrArg Prod.snd hf))
    exact ⟨Or.inl, fun h => h.elim id (· ▸ ht)⟩
  case case2 => rw [List.mem_append, List.mem_cons, or_left_comm, ← List.mem_append, List.take_append_drop, or_comm]

end SSV.DomainSet
