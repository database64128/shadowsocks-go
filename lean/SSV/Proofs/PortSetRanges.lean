import SSV.Proofs.PortSetScan
import SSV.Proofs.PortBits
/-
`RangeSet()`: the word-level scan is the bit-by-bit scan of the set `bitAt ws` (`scanBlocks_eq`, `allBits_eq_map`), which
is the run scan `runs` of the bit table (`scanBits_eq_runs`), whose ranges are ascending, apart and cover exactly the
set bits (`runs_inv`). The binary search of `PortRangeSet.Contains` is correct on such a list; hence
`RangeSet().Contains p = bit p`.
-/
namespace SSV.PortSet

theorem bitAt_cons_lt (w : Nat) (rest : Words) {q : Nat} (hq : q < 64) : bitAt (w :: rest) q = w.testBit q := by
  rw [bitAt_eq_testBit, Nat.div_eq_of_lt hq, Nat.mod_eq_of_lt hq]; rfl

theorem bitAt_cons_add (w : Nat) (rest : Words) (q : Nat) : bitAt (w :: rest) (q + 64) = bitAt rest q := by
  rw [bitAt_eq_testBit, bitAt_eq_testBit, Nat.add_div_right q (by decide), Nat.add_mod_right]; rfl

theorem allBits_eq : ∀ ws : Words, allBits ws = (List.range' 0 (ws.length * 64)).map (bitAt ws)
  | [] => rfl
  | w :: rest => by
    -- the first 64 positions are the bits of `w`; the others stand 64 further on than in `rest`
    rw [allBits_cons, allBits_eq rest, show bitsOf w 64 = _ from bitsOf_shiftRight 64 w 0, List.length_cons, Nat.add_one_mul,
      Nat.add_comm, ← List.range'_append_1, List.map_append, Nat.zero_add,
      show List.range' 64 (rest.length * 64) = _ from (List.map_add_range' (a := 64) 0 _ 1).symm, List.map_map]
    congr 1
    · exact List.map_congr_left fun q hq => (bitAt_cons_lt w rest (by simpa using (List.mem_range'_1.mp hq).2)).symm
    · exact List.map_congr_left fun q _ => (Nat.add_comm q 64 ▸ bitAt_cons_add w rest q).symm

theorem allBits_eq_map {ws : Words} (h : WF ws) : allBits ws = (List.range' 0 65536).map (bitAt ws) := by
  rw [allBits_eq ws, h.1]

theorem rangeSet_eq_runs (ws : Words) (h : WF ws) :
    rangeSet ws = (SSV.Router.runs (bitAt ws) 65536 0 none).map SSV.Router.toRange := by
  have hw := scanBlocks_eq ws 0 ⟨false, 0, []⟩ (by rw [h.1]; omega) h.2 (fun _ => rfl)
  have hr := SSV.Router.scanBits_eq_runs (bitAt ws) 65536 0 ⟨false, 0, []⟩
  rw [← allBits_eq_map h] at hr
  rw [Nat.zero_mul] at hw
  have e : rangeSet ws = (closeAt (scanBits ⟨false, 0, []⟩ 0 (allBits ws)) 65536).acc.reverse := by
    unfold rangeSet closeAt
    simp only [hw]
    split <;> rfl
  rw [e, hr]
  simp [SSV.Router.openOf]

/-- ascending, pairwise disjoint, non-empty ranges: what the binary search needs -/
def SortedRanges (rs : List Range) : Prop :=
  rs.Pairwise (fun a b => a.hi < b.lo) ∧ ∀ r ∈ rs, r.lo ≤ r.hi

theorem rangeSet_spec (ws : Words) (h : WF ws) :
    SortedRanges (rangeSet ws) ∧ (∀ r ∈ rangeSet ws, r.hi ≤ 65535) ∧
    ∀ q, q < 65536 → (covered (rangeSet ws) q ↔ bitAt ws q = true) := by
  have hinv := (SSV.Router.runs_inv (bitAt ws) 65536 0).1
  have hcov : ∀ q, covered (rangeSet ws) q ↔ q < 65536 ∧ bitAt ws q = true := fun q => by
    rw [rangeSet_eq_runs ws h, SSV.Router.covered_map_toRange, hinv.covered_iff]
  have hs : SortedRanges (rangeSet ws) := by
    rw [rangeSet_eq_runs ws h]
    exact ⟨List.pairwise_map.mpr hinv.2.1,
      fun r hr => by obtain ⟨x, hx, rfl⟩ := List.mem_map.mp hr; exact (hinv.1 x hx).2⟩
  exact ⟨hs, fun r hr => Nat.le_of_lt_succ ((hcov r.hi).mp ⟨r, hr, hs.2 r hr, Nat.le_refl _⟩).1,
    fun q hq => (hcov q).trans (and_iff_right hq)⟩

theorem SortedRanges.mono {rs : List Range} (hs : SortedRanges rs) {k m : Nat} (hk : k ≤ m) (hm : m < rs.length) :
    (rs[k]'(Nat.lt_of_le_of_lt hk hm)).hi ≤ rs[m].hi ∧ (rs[k]'(Nat.lt_of_le_of_lt hk hm)).lo ≤ rs[m].lo := by
  rcases Nat.lt_or_eq_of_le hk with hlt | rfl
  · have h := List.pairwise_iff_getElem.mp hs.1 k m (Nat.lt_of_le_of_lt hk hm) hm hlt
    exact ⟨Nat.le_of_lt (Nat.lt_of_lt_of_le h (hs.2 _ (List.getElem_mem hm))),
      Nat.le_of_lt (Nat.lt_of_le_of_lt (hs.2 _ (List.getElem_mem _)) h)⟩
  · exact ⟨Nat.le_refl _, Nat.le_refl _⟩

theorem bsearch_spec (rs : List Range) (p : Nat) (hs : SortedRanges rs) (fuel i j : Nat) (hj : j ≤ rs.length)
    (hf : j - i < fuel) (hlo : ∀ k (hk : k < rs.length), k < i → rs[k].hi < p)
    (hhi : ∀ k (hk : k < rs.length), j ≤ k → p < rs[k].lo) :
    bsearch rs p fuel i j = true ↔ covered rs p := by
  fun_induction bsearch rs p fuel i j with
  | case1 => omega -- no fuel
  | case2 _ i j _ h hn => exact absurd (List.getElem?_eq_none_iff.mp hn) (by omega)
  | case3 _ i j _ h r hr h1 ih =>
    obtain ⟨hh, rfl⟩ := List.getElem?_eq_some_iff.mp hr
    exact ih hj (by omega) (fun k _ hkl => Nat.lt_of_le_of_lt (hs.mono (Nat.le_of_lt_succ hkl) hh).1 h1) hhi
  | case4 _ i j _ h r hr h1 h2 ih =>
    obtain ⟨hh, rfl⟩ := List.getElem?_eq_some_iff.mp hr
    exact ih (by omega) (by omega) hlo (fun k hk hkl => Nat.lt_of_lt_of_le h2 (hs.mono hkl hk).2)
  | case5 _ i j _ h r hr h1 h2 => exact iff_of_true rfl ⟨r, List.mem_of_getElem? hr, by omega, by omega⟩
  | case6 _ i j => -- `¬ i < j`
    refine iff_of_false nofun ?_
    rintro ⟨r, hrm, hq1, hq2⟩
    obtain ⟨k, hk, rfl⟩ := List.getElem_of_mem hrm
    by_cases hki : k < i
    · have := hlo k hk hki; omega
    · have := hhi k hk (by omega); omega

theorem rangesContain_spec (rs : List Range) (p : Nat) (hs : SortedRanges rs) :
    rangesContain rs p = true ↔ covered rs p := by
  unfold rangesContain
  apply bsearch_spec rs p hs _ 0 rs.length (by omega) (by omega)
  · intro k _ hk; omega
  · intro k hk hk'; omega

theorem rangeSet_contains (ws : Words) (h : WF ws) (p : Nat) (hp : p < 65536) :
    rangesContain (rangeSet ws) p = bitAt ws p := by
  obtain ⟨hs, _, hc⟩ := rangeSet_spec ws h
  rw [Bool.eq_iff_iff, rangesContain_spec _ _ hs, hc p hp]

def bound (st : Scan) (p : Nat) : Nat := if st.inRange then st.start else p

structure Inv (st : Scan) (p : Nat) : Prop where
  open_lt : st.inRange = true → st.start < p
  ranges : ∀ r ∈ st.acc, r.lo ≤ r.hi ∧ r.hi < bound st p
  sorted : st.acc.Pairwise (fun a b => b.hi < a.lo)

end SSV.PortSet
