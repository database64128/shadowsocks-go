import SSV.Proofs.StreamCodec
/-
C02, layer 2: what `HandleStream` / `initRead` accept.
-/
namespace SSV.Stream
open SSV.Gen.C01

/-- the bytes the transport holds (empty segments carry nothing) -/
def received (segs : List Bytes) : Bytes := (segs.filter (fun s => s.length ≠ 0)).flatten

theorem firstRead_received {a : Bool} {n : Nat} {segs : List Bytes} : ∀ {x : FirstRead}, firstRead a n segs = x →
    match x with
    | .ok b rest => received segs = b ++ rest
    | .fail _ got rs => received segs = got ++ rs.flatten := by
  intro x h
  subst h
  unfold received
  fun_cases firstRead a n segs
  -- `io.ReadFull`: enough bytes (1), too few (2)
  case case1 h => exact readFull_split h
  case case2 => exact (List.append_nil _).symm
  -- one `Read`: nothing there (3), a segment long enough (4), too short (5)
  case case3 h => exact congrArg List.flatten h
  case case4 h _ => exact (congrArg List.flatten h).trans (by rw [List.flatten_cons, ← List.append_assoc, List.take_append_drop])
  case case5 h _ => exact congrArg List.flatten h

/-- the server holds the key: its own PSK, or the uPSK of one of its users -/
def KeyHeld (cfg : ServerCfg) (upsk : Bytes) (name : String) : Prop :=
  (cfg.psk.length ≠ 0 ∧ upsk = cfg.psk) ∨ (cfg.psk.length = 0 ∧ ∃ u ∈ cfg.users, u.psk = upsk ∧ u.name = name)

/-- what a result of `HandleStream` says about the bytes it was given: a request means that both
headers opened under the session key of a PSK the server holds; a fallback payload is a prefix of the
received bytes, unmodified -/
def HandleRes.Sound (C : Crypto) (cfg : ServerCfg) (segs : List Bytes) : HandleRes → Prop
  | .request req r salt upsk =>
    ∃ ct c2 fh vh, C.dec (C.kdf upsk salt) 0 ct = some fh ∧ C.dec (C.kdf upsk salt) 1 c2 = some vh ∧
      parseVarHeader vh = .ok (req.addr, req.payload) ∧ KeyHeld cfg upsk req.user ∧
      r.key = C.kdf upsk salt ∧ r.nonce = 2 ∧ r.left = []
  | .fallback p => ∃ rest, received segs = p ++ rest
  | .error _ => True

theorem handle_sound (C : Crypto) (cfg : ServerCfg) (now : Int) (segs : List Bytes) :
    (handle C cfg now segs).Sound C cfg segs := by
  -- every exit before authentication hands the first read to the fallback, or fails
  have unauth : ∀ {n b rest} e, firstRead cfg.allowSeg n segs = .ok b rest →
      (if cfg.fallback = true then HandleRes.fallback b else .error e).Sound C cfg segs := by
    intro n b rest e hfr
    split
    · exact ⟨rest, firstRead_received hfr⟩
    · trivial
  fun_cases handle C cfg now segs
  -- the first read failed: its bytes go to the fallback
  case case1 hfr _ => exact ⟨_, firstRead_received hfr⟩
  -- an error: the first read without fallback (2), the variable-length header after authentication (8-10)
  case case2 | case8 | case9 | case10 => trivial
  case case11 =>
    -- authenticated: both headers opened under the key of `u`
    rename_i u hu _ fh hfh _ _ _ c2 _ _ vh hvh _ _ hpv
    refine ⟨_, c2, fh, vh, hfh, hvh, hpv, ?_, rfl, rfl, rfl⟩
    change ite _ _ _ = _ at hu
    by_cases hp : cfg.psk.length = 0
    · rw [if_pos hp] at hu
      exact Or.inr ⟨hp, u, List.mem_of_find?_eq_some hu, rfl, rfl⟩
    · rw [if_neg hp] at hu
      cases hu
      exact Or.inl ⟨hp, rfl⟩
  -- 3-7: prefix, user, fixed-length header, type, timestamp
  all_goals exact unauth _ ‹_›

theorem parseRespHeader_ok {h : Bytes} {now : Int} {reqSalt : Bytes} {n : Nat}
    (hp : parseRespHeader h now reqSalt = .ok n) :
    (h.headD 0).toNat = HeaderTypeServerStream ∧ (h.drop 9).take reqSalt.length = reqSalt ∧ n ≠ 0 := by
  revert hp
  fun_cases parseRespHeader h now reqSalt
  case case5 ht _ hs _ hn =>
    intro hp
    exact ⟨Decidable.not_not.mp ht, Decidable.not_not.mp hs, Except.ok.inj hp ▸ hn⟩
  all_goals nofun

theorem initRead_bound (C : Crypto) (c : CReader) (now : Int) (len : Nat) (c' : CReader)
    (h : initRead C c now = (.ok len, c')) :
    ∃ ct salt' hd, C.dec (C.kdf c.psk salt') 0 ct = some hd ∧
      (hd.headD 0).toNat = HeaderTypeServerStream ∧ (hd.drop 9).take c.reqSalt.length = c.reqSalt := by
  revert h
  fun_cases initRead C c now
  case case5 hd hdec _ hp =>
    intro _
    obtain ⟨h1, h2, _⟩ := parseRespHeader_ok hp
    exact ⟨_, _, hd, hdec, h1, h2⟩
  all_goals nofun

end SSV.Stream
