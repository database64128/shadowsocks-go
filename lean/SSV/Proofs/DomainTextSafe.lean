import SSV.Proofs.DomainText
import SSV.Proofs.DomainTrieKeys
/-
Everything the text parser produces can be written back on a line: the rules of a parsed builder are `lineSafe`,
its exact-domain slot is a map and its suffix slot a well-formed trie.
-/
namespace SSV.DomainSet

theorem mem_trimCR {s : Str} {x : UInt8} (h : x ∈ trimCR s) : x ∈ s := by
  unfold trimCR at h
  rw [List.mem_reverse] at h
  exact List.mem_reverse.mp ((List.dropWhile_sublist _).subset h)

theorem getLast?_trimCR (s : Str) : (trimCR s).getLast? ≠ some CR := by
  unfold trimCR
  rw [List.getLast?_reverse]
  intro h
  have hne : s.reverse.dropWhile (· = CR) ≠ [] := by
    intro h0; rw [h0] at h; simp at h
  have := @List.head_dropWhile_not _ (fun x => decide (x = CR)) s.reverse hne
  rw [List.head?_eq_some_head hne] at h
  injection h with h
  rw [h] at this
  simp at this

theorem lineSafe_of_mem_nonEmptyLines {text l : Str} (h : l ∈ nonEmptyLines text) : lineSafe l = true := by
  rw [nonEmptyLines_spec, List.mem_filter, List.mem_map] at h
  obtain ⟨⟨piece, hp, rfl⟩, hne⟩ := h
  rw [lineSafe_iff]
  refine ⟨by simpa [List.isEmpty_iff] using hne, ?_, getLast?_trimCR piece⟩
  intro hm
  exact mem_splitOn_no_sep LF text piece hp (mem_trimCR hm)

theorem lineSafe_drop {l : Str} {n : Nat} (h : lineSafe l = true) (hn : l.length > n) : lineSafe (l.drop n) = true := by
  obtain ⟨_, h2, h3⟩ := (lineSafe_iff l).mp h
  rw [lineSafe_iff]
  refine ⟨?_, ?_, ?_⟩
  · intro h0
    have := congrArg List.length h0
    simp at this; omega
  · intro hm; exact h2 (List.mem_of_mem_drop hm)
  · rw [List.getLast?_drop]
    have : ¬ l.length ≤ n := by omega
    simpa [this] using h3

theorem classify_safe {l : Str} (h : lineSafe l = true) : (classify l).Safe := by
  fun_cases classify l
  -- `suffix:`, `domain:`, `regexp:`: the rule is the line without its seven bytes
  case case1 hc | case2 hc | case3 hc => exact lineSafe_drop h hc.1
  -- `keyword:`: the guard of the arm says the line is longer than the eight bytes
  case case5 hk => exact lineSafe_drop h (Nat.lt_of_not_le fun hle => hk (Or.inl hle))
  -- `keyword` without its colon, no prefix at all, a comment: no rule
  case case4 | case6 | case7 => trivial

/-- what `BuilderFromText` produces: a map, a well-formed trie, and only rules a line can hold -/
structure TextBuilder (b : Builder) : Prop where
  domains : ∃ m, b.domains = .map m
  suffixes : ∃ root, b.suffixes = .trie root ∧ root.WF
  safeD : ∀ r ∈ b.domains.rules, lineSafe r = true
  safeS : ∀ r ∈ b.suffixes.rules, lineSafe r = true
  safeK : ∀ r ∈ b.keywords, lineSafe r = true
  safeR : ∀ r ∈ b.regexps, lineSafe r = true

theorem TextBuilder.emptyText : TextBuilder Builder.emptyText :=
  ⟨⟨[], rfl⟩, ⟨.nil, rfl, trivial⟩, by simp [Builder.emptyText, DomainB.rules],
    by simp [Builder.emptyText, SuffixB.rules, trieKeys, Children.paths], by simp [Builder.emptyText],
    by simp [Builder.emptyText]⟩

theorem TextBuilder.addRule {b : Builder} (hb : TextBuilder b) {ln : Line} (hs : ln.Safe) : TextBuilder (b.addRule ln) := by
  obtain ⟨⟨m, hm⟩, ⟨root, hroot, hwf⟩, hD, hS, hK, hR⟩ := hb
  obtain ⟨_, _, kws, res⟩ := b
  cases hm
  cases hroot
  cases ln with
  | domain r =>
    refine ⟨⟨_, rfl⟩, ⟨root, rfl, hwf⟩, fun k hk => ?_, hS, hK, hR⟩
    rcases (mem_mapInsert m r k).mp hk with h' | rfl
    · exact hD k h'
    · exact hs
  | suffix r =>
    refine ⟨⟨m, rfl⟩, ⟨_, rfl, trieInsert_WF root r hwf⟩, hD, fun k hk => ?_, hK, hR⟩
    rcases keys_trieInsert root r k hk with h' | rfl
    · exact hS k h'
    · exact hs
  | keyword r =>
    exact ⟨⟨m, rfl⟩, ⟨root, rfl, hwf⟩, hD, hS, List.forall_mem_append.mpr ⟨hK, List.forall_mem_singleton.mpr hs⟩, hR⟩
  | regexp r =>
    exact ⟨⟨m, rfl⟩, ⟨root, rfl, hwf⟩, hD, hS, hK, List.forall_mem_append.mpr ⟨hR, List.forall_mem_singleton.mpr hs⟩⟩
  | comment | invalid => exact ⟨⟨m, rfl⟩, ⟨root, rfl, hwf⟩, hD, hS, hK, hR⟩

theorem TextBuilder.foldl_addRule (lns : List Line) {b : Builder} (hb : TextBuilder b) (hs : ∀ ln ∈ lns, ln.Safe) :
    TextBuilder (lns.foldl Builder.addRule b) :=
  List.foldlRecOn lns Builder.addRule hb fun _ hb ln hln => hb.addRule (hs ln hln)

theorem addLines_textBuilder (ls : List Str) (b b' : Builder) (hb : TextBuilder b) (hl : ∀ l ∈ ls, lineSafe l = true)
    (h : addLines b ls = .ok b') : TextBuilder b' := by
  rw [addLines_eq] at h
  split at h
  · cases h
  · cases h
    refine hb.foldl_addRule _ fun ln hln => ?_
    obtain ⟨l, hl', rfl⟩ := List.mem_map.mp hln
    exact classify_safe (hl l hl')

theorem builderFromText_textBuilder {text : Str} {b : Builder} (h : builderFromText text = .ok b) : TextBuilder b := by
  revert h
  fun_cases builderFromText text
  -- a hint line and rules after it
  case case4 l rest hls _ _ _ =>
    exact addLines_textBuilder rest _ b TextBuilder.emptyText fun x hx =>
      lineSafe_of_mem_nonEmptyLines (hls ▸ List.mem_cons_of_mem _ hx)
  -- no hint line
  case case5 l rest hls _ =>
    exact addLines_textBuilder (l :: rest) _ b TextBuilder.emptyText fun x hx =>
      lineSafe_of_mem_nonEmptyLines (hls ▸ hx)
  -- no line, a bad hint, a hint alone: errors
  all_goals nofun

end SSV.DomainSet
