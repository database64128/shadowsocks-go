import SSV.Proofs.UdpSession
/-
Client unpacker (C04 `client_at_most_once`, `client_fresh_never_refused`, `client_change_rate`): a packet is delivered
at most once across the current, the old and dropped server sessions, on a monotone clock; at most one server-session
change per minute.

Ghost state: for every delivered packet an entry (sid, pid, ts, delivery time), filed under the life of
the session it was delivered in: current, old, or dropped.
-/
namespace SSV.UdpSession
open SSV.SWF

theorem interval_eq : sessionChangeInterval = 60000000000 := by decide
theorem ts_expire {ts : BitVec 64} {td t : Nat} (hck : ClockOk t)
    (hv : tsValid ts td = true) (ht : td + 61000000000 ≤ t) : tsValid ts t = false := by
  have hck' : ClockOk td := by
    simp only [ClockOk, SSV.SaltPool.unixSec, SSV.SaltPool.nsPerSec] at hck ⊢
    omega
  refine Bool.eq_false_iff.mpr fun hb => ?_
  -- a timestamp validates during less than `2 * MaxEpochDiff + 1` = 61 seconds
  have := SSV.SaltPool.valid_span tsParams ts td t hck' hck hv hb
  simp only [tsParams, show SSV.Gen.C04.MaxEpochDiff = 30 by decide, SSV.SaltPool.nsPerSec] at this
  omega

structure Entry where
  sid : Nat
  pid : Nat
  ts : BitVec 64
  td : Nat

structure Ghost where
  cur : List Entry
  old : List Entry
  dropped : List Entry

def Ghost.all (g : Ghost) : List Entry := g.cur ++ (g.old ++ g.dropped)

def SessInv (n : Nat) (s : Option Session) (log : List Entry) : Prop :=
  match s with
  | none => log = []
  | some s => Inv s.filter (log.map (·.pid)) ∧ s.filter.size = n ∧ ∀ e ∈ log, e.sid = s.sid

/-- The client unpacker `st` against the ghost log `g` of everything delivered so far; `T` is a clock reading not
before any delivery (the clock is monotone, so the next event is at `t ≥ T`).
* `cur`, `old`: each session's filter describes exactly the ids delivered in the present life of that session;
* `oldSeen`, `seenLe`, `curLe`: `oldServerSessionLastSeenTime` is no earlier than any delivery in the old session
  and, like the deliveries in the current one, not in the future;
* `dropped`: an entry of a dropped session is at least one `sessionChangeInterval` older than `oldLastSeen` (the
  change that dropped it passed the one-minute rule) — and two intervals older if its session id is current or old
  again, since coming back took a second change. With `valid` (its timestamp validated when it was delivered, so no
  longer does 61 s later) this is what refuses a replay of it;
* `distinct`: the current and the old session have different ids. -/
structure CInv (st : ClientState) (g : Ghost) (T : Nat) : Prop where
  cur : SessInv st.filterSize st.cur g.cur
  old : SessInv st.filterSize st.old g.old
  oldSeen : ∀ e ∈ g.old, ∃ L, st.oldLastSeen = some L ∧ e.td ≤ L
  dropped : ∀ e ∈ g.dropped, ∃ L, st.oldLastSeen = some L ∧ e.td + sessionChangeInterval ≤ L ∧
      ((isCur st e.sid = true ∨ isOld st e.sid = true) → e.td + 2 * sessionChangeInterval ≤ L)
  seenLe : ∀ L, st.oldLastSeen = some L → L ≤ T
  curLe : ∀ e ∈ g.cur, e.td ≤ T
  valid : ∀ e ∈ g.all, tsValid e.ts e.td = true
  distinct : ∀ s s', st.cur = some s → st.old = some s' → s.sid ≠ s'.sid

theorem CInv.mono {st : ClientState} {g : Ghost} {T t : Nat} (h : CInv st g T) (ht : T ≤ t) : CInv st g t :=
  { h with seenLe := fun L hL => Nat.le_trans (h.seenLe L hL) ht, curLe := fun e he => Nat.le_trans (h.curLe e he) ht }

/-- `isCur st sid` and `isOld st sid` are, by definition, `hasSid st.cur sid` and `hasSid st.old sid` -/
def hasSid (o : Option Session) (sid : Nat) : Bool :=
  match o with | some s => s.sid == sid | none => false

theorem hasSid_iff {o : Option Session} {sid : Nat} : hasSid o sid = true ↔ ∃ s, o = some s ∧ s.sid = sid := by
  unfold hasSid; cases o <;> simp

theorem hasSid_eq_beq {o : Option Session} {a : Nat} (h : hasSid o a = true) (x : Nat) : hasSid o x = (a == x) := by
  obtain ⟨s, rfl, rfl⟩ := hasSid_iff.mp h
  rfl

theorem hasSid_inj {o : Option Session} {a b : Nat} (ha : hasSid o a = true) (hb : hasSid o b = true) : a = b := by
  rw [hasSid_eq_beq ha] at hb; exact beq_iff_eq.mp hb

theorem classify_eq (st : ClientState) (now sid : Nat) :
    classify st now sid =
      if isCur st sid then some (.current, st.cur.map (·.filter))
      else if isOld st sid then some (.old, st.old.map (·.filter))
      else if changeTooSoon st now then none else some (.new, none) := by
  unfold classify classify.classifyOld classify.classifyNew isCur isOld
  cases st.cur <;> cases st.old <;> simp <;> split <;> simp

theorem SessInv.some_iff {n : Nat} {s : Session} {log : List Entry} :
    SessInv n (some s) log ↔ Sim n s.filter (log.map (·.pid)) ∧ ∀ e ∈ log, e.sid = s.sid :=
  ⟨fun h => ⟨⟨h.1, h.2.1⟩, h.2.2⟩, fun h => ⟨h.1.inv, h.1.size_eq, h.2⟩⟩

theorem SessInv.finv {n : Nat} {o : Option Session} {log : List Entry} (h : SessInv n o log) :
    FInv n (o.map (·.filter)) (log.map (·.pid)) := by
  cases o with
  | none => rw [show log = [] from h]; rfl
  | some s => exact (SessInv.some_iff.mp h).1

theorem SessInv.hasSid_of_mem {n : Nat} {o : Option Session} {log : List Entry} (h : SessInv n o log)
    {e : Entry} (he : e ∈ log) : hasSid o e.sid = true := by
  cases o with
  | none => rw [show log = [] from h] at he; cases he
  | some s => exact beq_iff_eq.mpr ((SessInv.some_iff.mp h).2 e he).symm

theorem CInv.not_cur_old {st : ClientState} {g : Ghost} {T : Nat} (h : CInv st g T) {x : Nat}
    (hc : isCur st x = true) (ho : isOld st x = true) : False := by
  obtain ⟨s, hs, e1⟩ := hasSid_iff.mp hc
  obtain ⟨s', hs', e2⟩ := hasSid_iff.mp ho
  exact h.distinct s s' hs hs' (e1.trans e2.symm)

theorem replayed_of_mem {n : Nat} {o : Option Session} {log : List Entry} (h : SessInv n o log)
    {e : Entry} (he : e ∈ log) : replayed (o.map (·.filter)) e.pid = true := by
  cases hr : replayed (o.map (·.filter)) e.pid with
  | true => rfl
  | false => exact absurd (List.mem_map_of_mem (f := (·.pid)) he) ((replayed_iff h.finv e.pid).mp hr).1

/-- what identifies a packet: the entries of `clientOkKeys` -/
def Entry.key (e : Entry) : Nat × Nat × BitVec 64 := (e.sid, e.pid, e.ts)

def entryOf (now : Nat) (p : Packet) : Entry := { sid := p.sid, pid := p.pid, ts := p.ts, td := now }

/-- the ghost state after a delivery; one in a new session moves the current log to `old` and the old one to `dropped` -/
def ghostStep (st : ClientState) (g : Ghost) (now : Nat) (p : Packet) : Ghost :=
  if isCur st p.sid then { g with cur := entryOf now p :: g.cur }
  else if isOld st p.sid then { g with old := entryOf now p :: g.old }
  else { cur := [entryOf now p], old := g.cur, dropped := g.old ++ g.dropped }

theorem ghostStep_all {st : ClientState} {g : Ghost} {now : Nat} {p : Packet} :
    ∀ e, e ∈ (ghostStep st g now p).all ↔ (e = entryOf now p ∨ e ∈ g.all) := by
  intro e
  unfold Ghost.all
  fun_cases ghostStep st g now p
  · simp
  · -- old session
    simp only [List.cons_append, List.mem_append, List.mem_cons, or_left_comm]
  · simp

theorem SessInv.deliver {n : Nat} (hnew : Sim n (new n) []) {o : Option Session} {log : List Entry}
    (h : SessInv n o log) (t : Nat) {p : Packet} (hsid : ∀ e ∈ log, e.sid = p.sid)
    (hrep : replayed (o.map (·.filter)) p.pid = false) :
    SessInv n (some { sid := p.sid, filter := mustAdd (filterOrNew (o.map (·.filter)) n) p.pid })
      (entryOf t p :: log) :=
  SessInv.some_iff.mpr ⟨filterOrNew_mustAdd hnew h.finv hrep, List.forall_mem_cons.mpr ⟨rfl, hsid⟩⟩

/-- A delivered packet is new: a copy delivered earlier in the current or the old session is refused by that session's
filter, and one delivered in a session dropped since is at least 61 s old, so that its timestamp validates no more. -/
theorem CInv.key_fresh {st : ClientState} {g : Ghost} {T t : Nat} {p : Packet} {status : Status} {sf : Option Filter}
    (hinv : CInv st g T) (ht : T ≤ t) (hck : ClockOk t) (htsv : tsValid p.ts t = true)
    (hcl : classify st t p.sid = some (status, sf)) (hrep : replayed sf p.pid = false) :
    ∀ e ∈ g.all, e.key ≠ (entryOf t p).key := by
  intro e he hk
  obtain ⟨hk1, hk2, hk3⟩ : e.sid = p.sid ∧ e.pid = p.pid ∧ e.ts = p.ts := by simpa [Entry.key, entryOf] using hk
  rw [classify_eq] at hcl
  rcases List.mem_append.mp he with he | he
  · rw [if_pos (hk1 ▸ hinv.cur.hasSid_of_mem he)] at hcl; cases hcl
    have := replayed_of_mem hinv.cur he
    rw [hk2, hrep] at this; cases this
  rcases List.mem_append.mp he with he | he
  · have ho : isOld st p.sid = true := hk1 ▸ hinv.old.hasSid_of_mem he
    rw [if_neg (fun hc => hinv.not_cur_old hc ho), if_pos ho] at hcl; cases hcl
    have := replayed_of_mem hinv.old he
    rw [hk2, hrep] at this; cases this
  · obtain ⟨L, hL, hle, hcond⟩ := hinv.dropped e he
    have hLt := Nat.le_trans (hinv.seenLe L hL) ht
    have hI := interval_eq  -- the value of the interval, for `omega`
    have hfar : e.td + 61000000000 ≤ t := by
      by_cases hco : isCur st p.sid = true ∨ isOld st p.sid = true
      · have := hcond (hk1 ▸ hco); omega
      -- a new session: the one-minute rule let it pass
      rw [if_neg fun hc => hco (Or.inl hc), if_neg fun ho => hco (Or.inr ho)] at hcl
      split at hcl
      · cases hcl
      · next hsoon => simp only [changeTooSoon, hL, decide_eq_true_eq] at hsoon; omega
    have := ts_expire hck (hinv.valid e (by unfold Ghost.all; simp [he])) hfar
    rw [hk3, htsv] at this; cases this

section deliver
variable {st : ClientState} {g : Ghost} {T t : Nat} {p : Packet}
  (hnew : Sim st.filterSize (new st.filterSize) []) (hinv : CInv st g T) (ht : T ≤ t)
  (htsv : tsValid p.ts t = true)
include hinv htsv

theorem ghostStep_valid : ∀ e ∈ (ghostStep st g t p).all, tsValid e.ts e.td = true := fun e he =>
  ((ghostStep_all e).mp he).elim (fun h => h ▸ htsv) (hinv.valid e)

include hnew ht

theorem CInv.deliver_cur (hc : isCur st p.sid = true)
    (hrep : replayed (st.cur.map (·.filter)) p.pid = false) : CInv (clientCommit st t p) (ghostStep st g t p) t := by
  have hinv' := hinv.mono ht
  have hvalid := ghostStep_valid hinv htsv
  simp only [clientCommit, ghostStep, classify_eq, if_pos hc] at hvalid ⊢
  refine ⟨hinv.cur.deliver hnew t (fun e he => hasSid_inj (hinv.cur.hasSid_of_mem he) hc) hrep, hinv.old, hinv.oldSeen,
    fun e he => ?_, hinv'.seenLe, List.forall_mem_cons.mpr ⟨Nat.le_refl _, hinv'.curLe⟩, hvalid, fun a b ha hb => ?_⟩
  · obtain ⟨L, hL, hle, hcond⟩ := hinv.dropped e he
    exact ⟨L, hL, hle, fun hx => hcond (hx.imp_left fun h => (hasSid_eq_beq hc _).trans h)⟩
  · cases ha
    exact fun e => hinv.not_cur_old hc (hasSid_iff.mpr ⟨b, hb, e.symm⟩)

theorem CInv.deliver_old (ho : isOld st p.sid = true) (hc : ¬isCur st p.sid = true)
    (hrep : replayed (st.old.map (·.filter)) p.pid = false) : CInv (clientCommit st t p) (ghostStep st g t p) t := by
  have hinv' := hinv.mono ht
  have hvalid := ghostStep_valid hinv htsv
  simp only [clientCommit, ghostStep, classify_eq, if_neg hc, if_pos ho] at hvalid ⊢
  refine ⟨hinv.cur, hinv.old.deliver hnew t (fun e he => hasSid_inj (hinv.old.hasSid_of_mem he) ho) hrep,
    fun e he => ⟨t, rfl, ?_⟩, fun e he => ?_, fun L hL => by cases hL; exact Nat.le_refl _, hinv'.curLe, hvalid,
    fun a b ha hb => ?_⟩
  · rcases List.mem_cons.mp he with rfl | he
    · exact Nat.le_refl _
    · obtain ⟨L, hL, hle⟩ := hinv.oldSeen e he
      exact Nat.le_trans hle (hinv'.seenLe L hL)
  · obtain ⟨L, hL, hle, hcond⟩ := hinv.dropped e he
    have hLt := hinv'.seenLe L hL
    refine ⟨t, rfl, by omega, fun hx => ?_⟩
    have := hcond (hx.imp_right fun h => (hasSid_eq_beq ho _).trans h)
    omega
  · cases hb
    exact fun e => hinv.not_cur_old (hasSid_iff.mpr ⟨a, ha, e⟩) ho

theorem CInv.deliver_new (hc : ¬isCur st p.sid = true) (ho : ¬isOld st p.sid = true)
    (hsoon : ¬changeTooSoon st t = true) : CInv (clientCommit st t p) (ghostStep st g t p) t := by
  have hI := interval_eq  -- the value of the interval, for the `omega` calls below
  have hinv' := hinv.mono ht
  have hvalid := ghostStep_valid hinv htsv
  simp only [clientCommit, ghostStep, classify_eq, if_neg hc, if_neg ho, if_neg hsoon] at hvalid ⊢
  have hnone : SessInv st.filterSize none [] := rfl
  refine ⟨hnone.deliver hnew t (List.forall_mem_nil _) rfl, hinv.cur, fun e he => ⟨t, rfl, hinv'.curLe e he⟩,
    fun e he => ⟨t, rfl, ?_⟩, fun L hL => by cases hL; exact Nat.le_refl _,
    List.forall_mem_cons.mpr ⟨Nat.le_refl _, List.forall_mem_nil _⟩, hvalid, fun a b ha hb => ?_⟩
  · rcases List.mem_append.mp he with he | he
    · -- entries of the session that is dropped now: its id is neither the new current nor the new old one
      obtain ⟨L, hL, hle⟩ := hinv.oldSeen e he
      simp only [changeTooSoon, hL, decide_eq_true_eq] at hsoon
      refine ⟨by omega, fun hx => False.elim ?_⟩
      have heo := hinv.old.hasSid_of_mem he
      rcases hx with hx | hx
      · exact ho ((show p.sid = e.sid from beq_iff_eq.mp hx) ▸ heo)
      · exact hinv.not_cur_old hx heo
    · obtain ⟨L, hL, hle, _⟩ := hinv.dropped e he
      simp only [changeTooSoon, hL, decide_eq_true_eq] at hsoon
      exact ⟨by omega, fun _ => by omega⟩
  · cases ha
    exact fun e => hc (hasSid_iff.mpr ⟨b, hb, e.symm⟩)

end deliver

theorem client_step {st : ClientState} {g : Ghost} {T t : Nat} {p : Packet}
    (hnew : Sim st.filterSize (new st.filterSize) []) (hinv : CInv st g T) (ht : T ≤ t)
    (hck : ClockOk t)
    (hok : clientVerdict st t p = .ok) :
    (∀ e ∈ g.all, e.key ≠ (entryOf t p).key) ∧ CInv (clientCommit st t p) (ghostStep st g t p) t := by
  obtain ⟨_, status, sf, hcl, hrep, _, hparse⟩ := clientVerdict_ok.mp hok
  have htsv : tsValid p.ts t = true := (parseServerHeader_none_iff.mp hparse).2.2.1
  refine ⟨hinv.key_fresh ht hck htsv hcl hrep, ?_⟩
  rw [classify_eq] at hcl
  by_cases hc : isCur st p.sid = true
  · rw [if_pos hc] at hcl; cases hcl
    exact hinv.deliver_cur hnew ht htsv hc hrep
  rw [if_neg hc] at hcl
  by_cases ho : isOld st p.sid = true
  · rw [if_pos ho] at hcl; cases hcl
    exact hinv.deliver_old hnew ht htsv ho hc hrep
  rw [if_neg ho] at hcl
  by_cases hsoon : changeTooSoon st t = true
  · -- refused by the one-minute rule: not a delivery
    rw [if_pos hsoon] at hcl; cases hcl
  rw [if_neg hsoon] at hcl; cases hcl
  exact hinv.deliver_new hnew ht htsv hc ho hsoon

/-- clock readings never go back -/
def MonoFrom : Nat → List Event → Prop
  | _, [] => True
  | T, (t, _) :: r => T ≤ t ∧ MonoFrom t r

def EvOk (e : Event) : Prop := ClockOk e.1

/-- (session id, packet id, timestamp) of the delivered packets of a run, in order -/
def clientOkKeys (st : ClientState) : List Event → List (Nat × Nat × BitVec 64)
  | [] => []
  | (t, p) :: r =>
    if (clientStep st t p).2 = .ok then (p.sid, p.pid, p.ts) :: clientOkKeys (clientStep st t p).1 r
    else clientOkKeys (clientStep st t p).1 r

def ghostAfter (st : ClientState) (g : Ghost) : List Event → Ghost
  | [] => g
  | (t, p) :: r =>
    if (clientStep st t p).2 = .ok then ghostAfter (clientStep st t p).1 (ghostStep st g t p) r
    else ghostAfter (clientStep st t p).1 g r

theorem client_run {st : ClientState} {g : Ghost} {T : Nat}
    (hnew : Sim st.filterSize (new st.filterSize) []) (hinv : CInv st g T)
    (evs : List Event) (hm : MonoFrom T evs) (hr : ∀ e ∈ evs, EvOk e) :
    (clientOkKeys st evs).Nodup ∧ (∀ k ∈ clientOkKeys st evs, ∀ e ∈ g.all, e.key ≠ k) ∧
    (∃ T', CInv (clientAfter st evs) (ghostAfter st g evs) T') ∧
    (clientAfter st evs).filterSize = st.filterSize ∧ (clientAfter st evs).csid = st.csid := by
  induction evs generalizing st g T with
  | nil => exact ⟨List.nodup_nil, List.forall_mem_nil _, ⟨T, hinv⟩, rfl, rfl⟩
  | cons ev r ih =>
    obtain ⟨t, p⟩ := ev
    obtain ⟨hTt, hm'⟩ := hm
    have hr' : ∀ e ∈ r, EvOk e := fun e he => hr e (List.mem_cons_of_mem _ he)
    have hfs := (clientStep_params st t p).2
    simp only [clientOkKeys, clientAfter, ghostAfter]
    by_cases hok : (clientStep st t p).2 = .ok
    · have hv : clientVerdict st t p = .ok := clientStep_res st t p ▸ hok
      obtain ⟨hfresh, hinv2⟩ := client_step hnew hinv hTt (hr _ List.mem_cons_self) hv
      rw [← clientStep_ok_state hv] at hinv2
      rw [if_pos hok, if_pos hok]
      obtain ⟨ihn, ihk, a, b, c⟩ := ih (hfs.symm ▸ hnew) hinv2 hm' hr'
      refine ⟨List.nodup_cons.mpr ⟨fun hmem => ?_, ihn⟩, fun k hk e he => ?_,
        a, b.trans hfs, c.trans (clientStep_params st t p).1⟩
      · exact ihk _ hmem (entryOf t p) ((ghostStep_all _).mpr (Or.inl rfl)) rfl
      · rcases List.mem_cons.mp hk with rfl | hk
        · exact hfresh e he
        · exact ihk k hk e ((ghostStep_all _).mpr (Or.inr he))
    · rw [if_neg hok, if_neg hok, clientStep_noop st t p hok]
      exact ih hnew (hinv.mono hTt) hm' hr'

theorem clientInit_inv (n csid : Nat) : CInv (clientInit n csid) { cur := [], old := [], dropped := [] } 0 := by
  -- nothing was delivered and there is no session: every clause quantifies over an empty list or `none = some _`
  exact ⟨rfl, rfl, List.forall_mem_nil _, List.forall_mem_nil _, nofun, List.forall_mem_nil _, List.forall_mem_nil _, nofun⟩

theorem client_fresh_accepted {st : ClientState} {g : Ghost} {T : Nat} (hinv : CInv st g T) (t : Nat) (p : Packet)
    (hl : p.long = true) (ha : p.authentic = true) (hp : parseServerHeader t st.csid p = none) :
    (isCur st p.sid = true → Fresh st.filterSize (g.cur.map (·.pid)) p.pid → clientVerdict st t p = .ok) ∧
    (isCur st p.sid = false → isOld st p.sid = true → Fresh st.filterSize (g.old.map (·.pid)) p.pid →
      clientVerdict st t p = .ok) := by
  refine ⟨fun hc hf => clientVerdict_ok.mpr ⟨hl, .current, _, ?_, (replayed_iff hinv.cur.finv p.pid).mpr hf, ha, hp⟩,
    fun hnc ho hf => clientVerdict_ok.mpr ⟨hl, .old, _, ?_, (replayed_iff hinv.old.finv p.pid).mpr hf, ha, hp⟩⟩
  · rw [classify_eq, if_pos hc]
  · rw [classify_eq, hnc, if_pos ho]; rfl

/-- clock readings of the deliveries that changed the current server session -/
def clientChanges (st : ClientState) : List Event → List Nat
  | [] => []
  | (t, p) :: r =>
    if (clientStep st t p).2 = .ok ∧ isCur st p.sid = false ∧ isOld st p.sid = false
    then t :: clientChanges (clientStep st t p).1 r
    else clientChanges (clientStep st t p).1 r

theorem oldLastSeen_step (st : ClientState) (t : Nat) (p : Packet) (L : Nat) (hL : st.oldLastSeen = some L) (hLt : L ≤ t) :
    ∃ L', (clientStep st t p).1.oldLastSeen = some L' ∧ L ≤ L' ∧ L' ≤ t := by
  -- every arm either leaves `oldLastSeen` alone or sets it to `t`
  have keep : ∃ L', st.oldLastSeen = some L' ∧ L ≤ L' ∧ L' ≤ t := ⟨L, hL, Nat.le_refl _, hLt⟩
  unfold clientStep
  split
  · unfold clientCommit
    cases classify st t p.sid with
    | none => exact keep
    | some v =>
      obtain ⟨status, sf⟩ := v
      cases status with
      | current => exact keep
      | old | new => exact ⟨t, rfl, hLt, Nat.le_refl _⟩
  · exact keep

theorem change_step {st : ClientState} {t : Nat} {p : Packet} (hok : (clientStep st t p).2 = .ok)
    (hnc : isCur st p.sid = false) (hno : isOld st p.sid = false) :
    changeTooSoon st t = false ∧ (clientStep st t p).1.oldLastSeen = some t := by
  rw [clientStep_res] at hok
  obtain ⟨_, status, sf, hcl, _⟩ := clientVerdict_ok.mp hok
  rw [clientStep_ok_state hok]
  unfold clientCommit
  rw [hcl]
  simp only [classify_eq, hnc, hno, Bool.false_eq_true, if_false] at hcl
  split at hcl
  · cases hcl
  · next hsoon => cases hcl; exact ⟨by simpa using hsoon, rfl⟩

theorem client_changes_spaced {st : ClientState} {T : Nat} (evs : List Event) (hm : MonoFrom T evs)
    (L : Nat) (hL : st.oldLastSeen = some L) (hLT : L ≤ T) :
    ∀ c ∈ clientChanges st evs, L + sessionChangeInterval ≤ c := by
  induction evs generalizing st T L with
  | nil => intro c hc; cases hc
  | cons ev r ih =>
    obtain ⟨t, p⟩ := ev
    obtain ⟨hTt, hm'⟩ := hm
    obtain ⟨L', hL', hLL', hL't⟩ := oldLastSeen_step st t p L hL (Nat.le_trans hLT hTt)
    have ihr := ih hm' L' hL' hL't
    intro c hc
    simp only [clientChanges] at hc
    split at hc
    · next hch =>
      rcases List.mem_cons.mp hc with rfl | hc
      · have hsoon := (change_step hch.1 hch.2.1 hch.2.2).1
        simp only [changeTooSoon, hL, decide_eq_false_iff_not] at hsoon
        omega
      · have := ihr c hc; omega
    · have := ihr c hc; omega

end SSV.UdpSession
