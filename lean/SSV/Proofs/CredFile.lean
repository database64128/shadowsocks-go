import SSV.Proofs.CredSeg
/-
C08: the file clause. Sequentially: the content the manager last synchronised with the store file represents
the cache unless a save is pending (`Synced`). Under concurrency the same holds whenever no call stands
between its critical section and its `enqueueSave` (`FileInv`), and `file = cachedContent` is stable while
nobody else edits the file.
-/
namespace SSV.Cred
open SSV.Gen.C08
variable (H : Key → Hash)

variable {H} in
theorem SegStep.saverBusy {st : St} {t : Thread} {out : St × Thread} (h : SegStep H st t out) :
    out.1.saverBusy = st.saverBusy := by
  cases h with
  | quiet | enqueue => rfl
  | commit _ _ _ hf | load _ _ _ hf => exact hf.saverBusy

variable {H} in
/-- the content clause is suspended while the running thread owes its save -/
theorem SegStep.rep {st : St} {t : Thread} {out : St × Thread} (h : SegStep H st t out)
    (hr : owes t = false → st.pending = false → Represents st.cachedContent st.cache) :
    owes out.2 = false → out.1.pending = false → Represents out.1.cachedContent out.1.cache := by
  cases h with
  | quiet _ ho => exact fun _ => hr ho
  | enqueue => exact fun _ hp => nomatch hp
  | commit _ _ _ _ _ ho => exact fun h => nomatch ho.symm.trans h
  | load _ _ _ _ hc hrep => exact fun _ _ => hc ▸ hrep

/-- between sequential calls: the saver is not in its cool-down, and unless a save is queued the content last
synchronised with the store file decodes to the cache -/
structure Synced (st : St) : Prop where
  idle : st.saverBusy = false
  rep : st.pending = false → Represents st.cachedContent st.cache

theorem call_synced (st : St) (op : Op) (hi : Inv H st) (hs : Synced st) : Synced (call H st op).1 := by
  unfold call
  have key := runThread_induct H (P := fun st t => Inv H st ∧ st.saverBusy = false ∧
      (owes t = false → st.pending = false → Represents st.cachedContent st.cache))
    (fun st t ht ⟨hi, hb, hr⟩ =>
      have h := seg_cases H t ht st hi
      ⟨h.inv hi, h.saverBusy.trans hb, h.rep hr⟩)
    (op.thread.prog.length + 1) st op.thread (thread_mem op) ⟨hi, hs.idle, fun _ => hs.rep⟩
  -- the call has returned, so it does not owe a save
  have hd := runThread_done H _ st op.thread (Nat.le_succ _)
  exact ⟨key.2.1, key.2.2 (by rw [owes, hd]; rfl)⟩

theorem tick_pending (st : St) (hp : st.pending = true) :
    tick st = { st with pending := false, saverBusy := false, file := render st.cache, cachedContent := render st.cache } := by
  simp [tick, dequeue, save, hp]

theorem tick_synced (st : St) (hn : (st.cache.map Prod.fst).Nodup) (hs : Synced st) :
    Synced (tick st) ∧ (tick st).pending = false ∧ (tick st).cache = st.cache := by
  by_cases hp : st.pending = true
  · rw [tick_pending st hp]
    exact ⟨⟨rfl, fun _ => render_represents st.cache hn⟩, rfl, rfl⟩
  · have hp' : st.pending = false := by simpa using hp
    rw [show tick st = st by simp [tick, dequeue, save, hp', hs.idle]]
    exact ⟨hs, hp', rfl⟩

theorem applyEv_synced (st : St) (e : Ev) (hi : Inv H st) (hs : Synced st) : Synced (applyEv H st e) := by
  cases e with
  | api op => exact call_synced H st op hi hs
  | edit d => exact ⟨hs.idle, hs.rep⟩
  | tick => exact (tick_synced st hi.nodup hs).1

theorem runHist_synced (evs : List Ev) (st : St) (hi : Inv H st) (hs : Synced st) :
    Synced (runHist H st evs) := by
  induction evs generalizing st with
  | nil => exact hs
  | cons e evs ih => exact ih _ (applyEv_inv H st e hi) (applyEv_synced H st e hi hs)

/-- registration: the first LoadFromFile of a manager whose maps are not made yet -/
theorem first_load (s0 : St) (hl : s0.loaded = false) (hf : s0.fault = false) (hb0 : s0.saverBusy = false)
    (st : St) (h : call H s0 .reload = (st, .ok)) : Inv H st ∧ Synced st := by
  rw [call_reload, if_neg (by simp [hl])] at h
  split at h
  · cases h
  · next l hd =>
    split at h
    · cases h
    · next lk c hb =>
      cases h
      have hk := installed_inv_rep H s0 hf l lk c hd hb
      exact ⟨hk.1, hb0, fun _ => hk.2⟩

/-- the debt of a change travels thread (`owes`) → queue (`pending`) → saver (`saverBusy`) → file; when it is nowhere,
the synchronised content decodes to the cache -/
def FileInv (s : Sys) : Prop :=
  (∀ t ∈ s.threads, owes t = false) → s.st.pending = false → s.st.saverBusy = false →
    Represents s.st.cachedContent s.st.cache

theorem mem_set_cases {α : Type} {l : List α} {i : Nat} {y : α} (h : l[i]? = some y) (a x : α) (hx : x ∈ l) :
    x = y ∨ x ∈ l.set i a := by
  obtain ⟨j, hj, rfl⟩ := List.mem_iff_getElem.1 hx
  by_cases e : i = j
  · subst e; exact .inl ((List.getElem_eq_iff hj).2 h)
  · exact .inr (List.mem_iff_getElem.2 ⟨j, by simpa using hj, by simp [List.getElem_set_ne e]⟩)

theorem act_file (s : Sys) (a : Act) (hs : SysInv H s) (hf : FileInv s) : FileInv (s.act H a) := by
  cases a with
  | dequeue =>
    show FileInv ⟨dequeue s.st, s.threads⟩
    unfold dequeue
    split
    · -- the dequeue took the token: the saver is now busy
      exact fun _ _ h3 => nomatch h3
    · exact hf
  | edit d => exact hf
  | save =>
    show FileInv ⟨save s.st, s.threads⟩
    unfold save
    split
    · -- the save just wrote `render cache` to file and `cachedContent`
      exact fun _ _ _ => render_represents _ hs.inv.nodup
    · exact hf
  | thread i =>
    simp only [Sys.act]
    cases hti : s.threads[i]? with
    | none => exact hf
    | some t =>
      intro h1 h2 h3
      refine (hs.seg hti).rep (fun ho hp => hf (fun x hx => ?_) hp ((hs.seg hti).saverBusy.symm.trans h3))
        (h1 _ (List.mem_set (List.getElem?_eq_some_iff.1 hti).1 _)) h2
      -- no thread owed before the step: `t` by `ho`, the others because they still do not
      rcases mem_set_cases hti (seg H s.st t).2 x hx with rfl | hx'
      · exact ho
      · exact h1 x hx'

theorem run_file (as : List Act) (s : Sys) (hs : SysInv H s) (hf : FileInv s) : FileInv (s.run H as) := by
  induction as generalizing s with
  | nil => exact hf
  | cons a as ih => exact ih _ (act_inv H s a hs) (act_file H s a hs hf)

theorem start_file (st : St) (ops : List Op) (hsy : Synced st) : FileInv (Sys.start st ops) :=
  fun _ h2 _ => hsy.rep h2

/- `file = cachedContent`: with the read of the store file inside the critical section (regenerated `loadProg`
starts with `lock`), a reload installs exactly what is on disk at that moment, and a save writes what it records. -/

variable {H} in
theorem SegStep.fileEq {st : St} {t : Thread} {out : St × Thread} (h : SegStep H st t out)
    (he : st.file = st.cachedContent) : out.1.file = out.1.cachedContent := by
  cases h with
  | quiet | enqueue => exact he
  | commit _ _ _ hf hc => exact hf.file.trans (he.trans hc.symm)
  | load _ _ _ hf hc => exact hf.file.trans hc.symm

theorem act_fileEq (s : Sys) (a : Act) (hs : SysInv H s) (hne : a.isEdit = false)
    (he : s.st.file = s.st.cachedContent) : (s.act H a).st.file = (s.act H a).st.cachedContent := by
  cases a with
  | edit d => cases hne
  | dequeue =>
    simp only [Sys.act, dequeue]
    split <;> exact he
  | save =>
    simp only [Sys.act, save]
    split
    · rfl
    · exact he
  | thread i =>
    simp only [Sys.act]
    cases hti : s.threads[i]? with
    | none => exact he
    | some t => exact (hs.seg hti).fileEq he

theorem run_fileEq (as : List Act) (s : Sys) (hs : SysInv H s) (hne : ∀ a ∈ as, a.isEdit = false)
    (he : s.st.file = s.st.cachedContent) : (s.run H as).st.file = (s.run H as).st.cachedContent := by
  induction as generalizing s with
  | nil => exact he
  | cons a as ih =>
    exact ih _ (act_inv H s a hs) (fun b hb => hne b (List.mem_cons_of_mem a hb))
      (act_fileEq H s a hs (hne a (List.mem_cons_self)) he)

end SSV.Cred
