import SSV.Proofs.PacketShapes
import SSV.Model.PacketRelay
import SSV.Model.PacketLimit
/- C05: the relay step (unpack, then re-pack in place) under the layout the services compute. `relay_safe_core` says what
the step needs of an unpacker, of a packer and of the headroom; the rest provides these for the four protocols in both
directions. Also the downlink limit the session relay caches. -/
namespace SSV.Packet
open SSV SSV.Gen.C05

/-- The relay step for any pair: an unpacker that strips at least `needU a` in front and exactly `rearU` behind, then a
packer that is safe with `needP a` in front and `rearP` behind, on a buffer laid out as `F + recv + R` with the packet
received at `F`. `hfront`/`hrear` are what `UDPRelayHeadroom` has to provide. -/
theorem relay_safe_core {α : Type} (un : Bytes → Nat → Nat → Outcome (Unpacked α))
    (pk : Bytes → α → Nat → Nat → Outcome Packed) (Ok : α → Prop) (needU needP : α → Int) (rearU rearP F R recv : Int)
    (hun_safe : ∀ b q n, q + n ≤ b.length → (un b q n).safe)
    (hun_shape : ∀ b q n u, un b q n = .ok u → u.buf.length = b.length ∧ Ok u.addr ∧
        ∃ hdr : Nat, u.payloadStart = (q + hdr : Nat) ∧ u.payloadLen + hdr + rearU = n ∧ 0 ≤ u.payloadLen ∧ needU u.addr ≤ hdr)
    (hpk_safe : ∀ (b : Bytes) a (ps pl : Nat), Ok a → needP a ≤ ps → ps ≤ b.length → (ps : Int) + pl + rearP ≤ b.length →
      (pk b a ps pl).safe)
    (hfront : ∀ a (hdr : Int), Ok a → needU a ≤ hdr → needP a - hdr ≤ F) (hrear : rearP - rearU ≤ R)
    (hF : 0 ≤ F) (hR : 0 ≤ R) (hrU : 0 ≤ rearU)
    (b : Bytes) (n : Nat) (hb : (b.length : Int) = F + recv + R) (hn : (n : Int) ≤ recv) :
    ((un b F.toNat n).bind fun u => pk u.buf u.addr u.payloadStart.toNat u.payloadLen.toNat).safe := by
  refine Outcome.safe_bind (hun_safe b F.toNat n (by omega)) fun u hrun => ?_
  obtain ⟨hlen, hok, hdr, hps, hpl, hpl0, hneed⟩ := hun_shape b F.toNat n u hrun
  have := hfront u.addr hdr hok hneed
  -- front: the payload starts at `F + hdr`; rear: `payloadLen + hdr + rearU = n ≤ recv` and `hrear`
  exact hpk_safe u.buf u.addr _ _ hok (by omega) (by omega) (by omega)

theorem relayUplink_eq (s : ServerU) (cp : ClientP) (b : Bytes) (front n : Nat) :
    relayUplink s cp b front n =
      (s.run b front n).bind fun u => cp.run u.buf u.addr u.payloadStart.toNat u.payloadLen.toNat := by
  unfold relayUplink
  cases s.run b front n <;> rfl

theorem relayDownlink_eq (cu : ClientU) (sp : ServerP) (src : AddrPort) (b : Bytes) (front n : Nat) (lim : Int) :
    relayDownlink cu sp src b front n lim =
      (cu.run src b front n).bind fun u => sp.run u.buf u.addr u.payloadStart.toNat u.payloadLen.toNat lim := by
  unfold relayDownlink
  cases cu.run src b front n <;> rfl

/-- front bytes a client packer of protocol `p` needs for address `a` without padding -/
def clientNeed : Proto → Addr → Int
  | .direct, _ => 0
  | .none, a => addrLen a
  | .socks5, a => 3 + addrLen a
  | .ss2022 k, a => 16 + 16 * k + 11 + addrLen a

/-- bytes a packer of protocol `p` needs behind the payload -/
def rearNeed : Proto → Int
  | .ss2022 _ => 16
  | _ => 0

def ServerU.ok : ServerU → Prop
  | .direct target => target.wf ∧ target ≠ .zero
  | .plain _ => True
  | .ss c _ _ _ _ _ _ => c.Laws

theorem serverU_shape (s : ServerU) (hs : s.ok) (b : Bytes) (front n : Nat) (u : Unpacked Addr)
    (h : s.run b front n = .ok u) :
    u.buf.length = b.length ∧ u.addr.wf ∧ u.addr ≠ .zero ∧
    ∃ hdr : Nat, u.payloadStart = (front + hdr : Nat) ∧ u.payloadLen + hdr + rearNeed s.proto = n ∧ 0 ≤ u.payloadLen ∧
      clientNeed s.proto u.addr ≤ hdr := by
  cases s with
  | direct target =>
    simp only [ServerU.run, directServerUnpack, Outcome.ok.injEq] at h
    subst h
    exact ⟨rfl, hs.1, hs.2, 0, by simp, by simp [ServerU.proto, rearNeed], by simp, by simp [ServerU.proto, clientNeed]⟩
  | plain hdr3 =>
    rw [ServerU.run, plainServerUnpack_eq] at h
    obtain ⟨⟨h2, h3⟩, hdr, h5, h6, h7, h8⟩ := plainUnpack_ok (wf := fun a => a.wf ∧ a ≠ .zero) (len := addrLen)
      (fun _ _ _ hd => by obtain ⟨hw, hl, hn, hz⟩ := decodeAddr_ok hd; exact ⟨⟨hw, hz⟩, hl, hn⟩) h
    refine ⟨by rw [plainUnpack_buf h], h2, h3, hdr, h5, ?_, h7, ?_⟩
    · cases hdr3 <;> simp only [ServerU.proto, rearNeed] <;> omega
    · cases hdr3 <;> simp only [ServerU.proto, clientNeed] <;> simp at h8 <;> omega
  | ss c block key k lookup users now =>
    obtain ⟨h1, h2, h3, hdr, h5, h6, h7, h8⟩ := ssServerUnpack_ok hs h
    refine ⟨h1, h2, h3, hdr, h5, ?_, h7, ?_⟩
    · simp only [ServerU.proto, rearNeed]; omega
    · simp only [ServerU.proto, clientNeed]; omega

theorem serverU_safe (s : ServerU) (b : Bytes) (front n : Nat) (hfit : front + n ≤ b.length) : (s.run b front n).safe := by
  cases s with
  | direct target => exact Outcome.safe_ok _
  | plain hdr3 =>
    rw [ServerU.run, plainServerUnpack_eq]
    exact plainUnpack_safe decodeAddr_safe hdr3 b front n hfit
  | ss c block key k lookup users now => exact ssServerUnpack_safe c block key k lookup users now b front n hfit

theorem clientP_safe (cp : ClientP) (b : Bytes) (a : Addr) (ps pl : Nat) (ha : a.wf) (hz : a ≠ .zero)
    (hfront : clientNeed cp.proto a ≤ ps) (hps : ps ≤ b.length) (hrear : (ps : Int) + pl + rearNeed cp.proto ≤ b.length) :
    (cp.run b a ps pl).safe := by
  cases cp with
  | direct mtu resolved =>
    simp only [ClientP.run, directClientPack]
    cases a with
    | zero => exact absurd rfl hz
    | ip ap => exact Outcome.safe_ite (Outcome.safe_err _) fun _ => Outcome.safe_ok _
    | dom nm p =>
      cases resolved with
      | none => exact Outcome.safe_err _
      | some ip => exact Outcome.safe_ite (Outcome.safe_err _) fun _ => Outcome.safe_ok _
  | plain hdr3 limit =>
    have hl := encodeAddr_length a ha
    have hp := plainHead_length hdr3 (encodeAddr a)
    rw [ClientP.run, plainClientPack_eq hdr3 limit b a ps pl ha]
    apply plainPack_safe _ limit b ps pl _ hps
    cases hdr3 <;> simp only [ClientP.proto, clientNeed] at hfront <;> simp at hp <;> omega
  | ss c userBlock aeadKey eih mps pol rand ts sid pid =>
    apply ssClientPack_safe _ _ _ _ _ _ _ _ _ _ _ _ _ _ ha
    simp only [ClientP.proto, rearNeed] at hrear
    omega

/-- How the front headroom `F` a packer declares relates to the front space `need` it uses for an address of length
`al` (at most `M`): the direct packer uses and declares nothing; none / SOCKS5 use `al` to `al + 3` and declare room for
the longest address; ss2022 uses at least `al + 3` and declares room for `P` bytes of padding as well. That the class
which leaves more unused also uses more (`al + 3 ≤ need`) is what `front_core` hinges on. -/
def FrontClass (al M P need F : Int) : Prop :=
  (need = 0 ∧ F = 0) ∨ (al ≤ need ∧ need ≤ al + 3 ∧ F = need + (M - al)) ∨ (al + 3 ≤ need ∧ F = need + (M - al) + P)

/-- the arithmetic core of `UDPRelayHeadroom`, front -/
theorem front_core {al M P nc Fc ns Fs : Int} (hal : 0 ≤ al) (hM : al ≤ M) (hP : 0 ≤ P)
    (hc : FrontClass al M P nc Fc) (hs : FrontClass al M P ns Fs) : nc - ns ≤ max 0 (Fc - Fs) := by
  unfold FrontClass at hc hs
  omega

theorem clientNeed_class (p : Proto) (a : Addr) :
    FrontClass (addrLen a) MaxAddrLen MaxPaddingLength (clientNeed p a) (clientPackerHeadroom p).front := by
  cases p with
  | direct => exact Or.inl ⟨rfl, rfl⟩
  | none | socks5 | ss2022 k =>
    simp only [FrontClass, clientNeed, clientPackerHeadroom, noneClientHeadroomFront, socks5ClientHeadroomFront,
      ssClientHeadroomFront, IdentityHeaderLength, MaxAddrLen, MaxPaddingLength]
    omega

theorem relay_front_up (s c : Proto) (a : Addr) (ha : a.wf) (hdr : Int) (hhdr : clientNeed s a ≤ hdr) (maxClient : Headroom)
    (hmax : (clientPackerHeadroom c).front ≤ maxClient.front) :
    clientNeed c a - hdr ≤ (relayHeadroom maxClient (serverUnpackerHeadroom s)).front := by
  obtain ⟨hal1, hal2⟩ := addrLen_bounds a ha
  have := front_core (by omega) hal2 (by omega) (clientNeed_class c a) (clientNeed_class s a)
  simp only [relayHeadroom, relayHeadroomFront, serverUnpackerHeadroom]
  omega

/- The two lemmas below serve the unpackers as well: their headrooms are those of the packers of the other side
(`serverUnpackerHeadroom = clientPackerHeadroom`, `clientUnpackerHeadroom = serverPackerHeadroom`). -/
theorem clientHeadroom_rear (p : Proto) : (clientPackerHeadroom p).rear = rearNeed p := by
  cases p <;> rfl

theorem serverHeadroom_rear (p : Proto) : (serverPackerHeadroom p).rear = rearNeed p := by
  cases p <;> rfl

theorem rearNeed_nonneg (p : Proto) : 0 ≤ rearNeed p := by
  cases p <;> simp only [rearNeed] <;> omega

theorem relay_rear_core (P U : Headroom) (x y : Int) (hP : x ≤ P.rear) (hU : U.rear ≤ y) :
    x - y ≤ (relayHeadroom P U).rear := by
  simp only [relayHeadroom, relayHeadroomRear]; omega

/-- front bytes a server packer of protocol `p` needs for source address `a` without padding -/
def serverNeed : Proto → AddrPort → Int
  | .direct, _ => 0
  | .none, a => addrPortLen a
  | .socks5, a => 3 + addrPortLen a
  | .ss2022 _, a => 16 + 19 + addrPortLen a

def ClientU.ok : ClientU → Prop
  | .ss c _ _ _ _ => c.Laws
  | _ => True

/-- `tunnelUDPTargetOnly` requires an IP tunnel address (a domain makes `p.targetAddr.IPPort()` panic: finding F4,
decided under C06/C18); this is the precondition under which the direct server packer is modelled as safe -/
def ServerP.ok : ServerP → Prop
  | .direct target only => only = true → ∃ t, target = .ip t
  | _ => True

theorem clientU_shape (cu : ClientU) (hc : cu.ok) (src : AddrPort) (hsrc : src.wf) (b : Bytes) (front n : Nat)
    (u : Unpacked AddrPort) (h : cu.run src b front n = .ok u) :
    u.buf.length = b.length ∧ u.addr.wf ∧
    ∃ hdr : Nat, u.payloadStart = (front + hdr : Nat) ∧ u.payloadLen + hdr + rearNeed cu.proto = n ∧ 0 ≤ u.payloadLen ∧
      serverNeed cu.proto u.addr ≤ hdr := by
  cases cu with
  | direct =>
    simp only [ClientU.run, directClientUnpack, Outcome.ok.injEq] at h
    subst h
    exact ⟨rfl, hsrc, 0, by simp, by simp [ClientU.proto, rearNeed], by simp, by simp [ClientU.proto, serverNeed]⟩
  | plain hdr3 server =>
    rw [ClientU.run, plainClientUnpack_eq, ite_err_eq_ok] at h
    obtain ⟨h2, hdr, h5, h6, h7, h8⟩ := plainUnpack_ok (fun _ _ _ hd => decodeAddrPort_ok hd) h.2
    refine ⟨by rw [plainUnpack_buf h.2], h2, hdr, h5, ?_, h7, ?_⟩
    · cases hdr3 <;> simp only [ClientU.proto, rearNeed] <;> omega
    · cases hdr3 <;> simp only [ClientU.proto, serverNeed] <;> simp at h8 <;> omega
  | ss c block key csid now =>
    obtain ⟨h1, h2, hdr, h5, h6, h7, h8⟩ := ssClientUnpack_ok hc h
    refine ⟨h1, h2, hdr, h5, ?_, h7, ?_⟩
    · simp only [ClientU.proto, rearNeed]; omega
    · simp only [ClientU.proto, serverNeed]; omega

theorem clientU_safe (cu : ClientU) (src : AddrPort) (b : Bytes) (front n : Nat) (hfit : front + n ≤ b.length) :
    (cu.run src b front n).safe := by
  cases cu with
  | direct => exact Outcome.safe_ok _
  | plain hdr3 server =>
    rw [ClientU.run, plainClientUnpack_eq]
    exact Outcome.safe_ite (Outcome.safe_err _) fun _ => plainUnpack_safe decodeAddrPort_safe hdr3 b front n hfit
  | ss c block key csid now => exact ssClientUnpack_safe c block key csid now b front n hfit

theorem serverP_safe (sp : ServerP) (hsp : sp.ok) (b : Bytes) (a : AddrPort) (ps pl : Nat) (lim : Int) (ha : a.wf)
    (hfront : serverNeed sp.proto a ≤ ps) (hps : ps ≤ b.length) (hrear : (ps : Int) + pl + rearNeed sp.proto ≤ b.length) :
    (sp.run b a ps pl lim).safe := by
  cases sp with
  | direct target only =>
    simp only [ServerP.run, directServerPack]
    cases only
    · rw [if_neg Bool.false_ne_true]
      exact Outcome.safe_ite (Outcome.safe_err _) fun _ => Outcome.safe_ok _
    · obtain ⟨t, rfl⟩ := hsp rfl
      rw [if_pos rfl]
      exact Outcome.safe_ite (Outcome.safe_err _) fun _ => Outcome.safe_ite (Outcome.safe_err _) fun _ => Outcome.safe_ok _
  | plain hdr3 =>
    rw [ServerP.run, plainServerPack_ip]
    cases hdr3 <;> exact clientP_safe (.plain _ lim) b (.ip a) ps pl ha nofun hfront hps hrear
  | ss c block key pol rand ts ssid spid csid =>
    apply ssServerPack_safe
    simp only [ServerP.proto, rearNeed] at hrear
    omega

theorem serverNeed_class (p : Proto) (a : AddrPort) :
    FrontClass (addrPortLen a) IPv6AddrLen MaxPaddingLength (serverNeed p a) (serverPackerHeadroom p).front := by
  cases p with
  | direct => exact Or.inl ⟨rfl, rfl⟩
  | none | socks5 | ss2022 k =>
    simp only [FrontClass, serverNeed, serverPackerHeadroom, noneServerHeadroomFront, socks5ServerHeadroomFront,
      ssServerHeadroomFront, IPv6AddrLen, MaxPaddingLength]
    omega

theorem relay_front_down (sp cu : Proto) (a : AddrPort) (hdr : Int) (hhdr : serverNeed cu a ≤ hdr) :
    serverNeed sp a - hdr ≤ (relayHeadroom (serverPackerHeadroom sp) (clientUnpackerHeadroom cu)).front := by
  obtain ⟨hal1, hal2⟩ := addrPortLen_bounds a
  have := front_core (by omega) hal2 (by omega) (serverNeed_class sp a) (serverNeed_class cu a)
  simp only [relayHeadroom, relayHeadroomFront, clientUnpackerHeadroom]
  omega

/-- a refresh program is *current* if after it the destination is the new address and the limit is the one of the new address -/
def LimProgCurrent (mtu : Int) (prog : List LimStmt) : Prop :=
  ∀ st new, limRefresh mtu prog st new = ⟨new, new, maxPacketSize mtu new.ip⟩

theorem limRun_current (mtu : Int) (prog : List LimStmt) (h : LimProgCurrent mtu prog) (a0 : AddrPort) (events : List AddrPort) :
    limRun mtu prog a0 events = limInit mtu ((events.getLast?).getD a0) := by
  unfold limRun
  induction events generalizing a0 with
  | nil => rfl
  | cons e t ih =>
    simp only [List.foldl_cons]
    have : limRefresh mtu prog (limInit mtu a0) e = limInit mtu e := h _ _
    rw [this, ih e, List.getLast?_cons]
    rfl

theorem sessionRefresh_current (mtu : Int) {prog : List LimStmt} (h : prog = sessionRefreshGeneric ∨ prog = sessionRefreshMmsg) :
    LimProgCurrent mtu prog := by
  intro st new
  rcases h with rfl | rfl
  · simp [limRefresh, sessionRefreshGeneric, limStep]
  · simp [limRefresh, sessionRefreshMmsg, limStep]

end SSV.Packet
