import SSV.Model.ClientGroups
/-
C19, round-robin: counter arithmetic and the invariant of the interleavings.
-/
namespace SSV.ClientGroups
open SSV.Gen.C19

theorem rrMask_eq : rrMask = 2 ^ 63 - 1 := by decide
theorem rrWord_eq : rrWord = 2 ^ 64 := by decide
theorem rrInit_eq : rrInit = 2 ^ 64 - 1 := by decide

theorem rrAdd_succ (c j : Nat) (h : rrAdd c = j % 2 ^ 64) : rrAdd (rrAdd c) = (j + 1) % 2 ^ 64 := by
  rw [h, rrAdd, rrWord_eq, Nat.mod_add_mod]

theorem rrAdd_init : rrAdd rrInit = 0 % 2 ^ 64 := by decide

theorem rrPick_eq (v n : Nat) : rrPick v n = v % 2 ^ 63 % n := by
  unfold rrPick
  rw [rrMask_eq, Nat.and_two_pow_sub_one_eq_mod]

theorem rrPick_small (v n : Nat) (hv : v < 2 ^ 63) : rrPick v n = v % n := by
  rw [rrPick_eq, Nat.mod_eq_of_lt hv]

/-- the value returned by the `t`-th `Add(1)` (0-based) since initialisation, masked and reduced -/
def pickOfTicket (n t : Nat) : Nat := rrPick (t % 2 ^ 64) n

theorem pickOfTicket_eq (n t : Nat) : pickOfTicket n t = t % 2 ^ 63 % n := by
  unfold pickOfTicket
  rw [rrPick_eq]
  have : t % 2 ^ 64 % 2 ^ 63 = t % 2 ^ 63 := Nat.mod_mod_of_dvd t ⟨2, by decide⟩
  rw [this]

theorem pickOfTicket_small (n t : Nat) (ht : t < 2 ^ 63) : pickOfTicket n t = t % n := by
  rw [pickOfTicket_eq, Nat.mod_eq_of_lt ht]

theorem rrRun_from (n : Nat) : ∀ (m j c : Nat), rrAdd c = j % 2 ^ 64 →
    rrRun c n m = (List.range' j m).map (pickOfTicket n)
  | 0, _, _, _ => rfl
  | m + 1, j, c, h => by
    simp only [rrRun, rrSelect, List.range', List.map_cons]
    rw [rrRun_from n m (j + 1) _ (rrAdd_succ c j h), h]
    rfl

theorem rrRun_init (n m : Nat) : rrRun rrInit n m = (List.range m).map (pickOfTicket n) := by
  rw [rrRun_from n m 0 _ rrAdd_init, List.range_eq_range']

theorem pickOfTicket_range (n m : Nat) (hm : m ≤ 2 ^ 63) :
    (List.range m).map (pickOfTicket n) = (List.range m).map (fun k => k % n) :=
  List.map_congr_left fun k hk => pickOfTicket_small n k (Nat.lt_of_lt_of_le (List.mem_range.mp hk) hm)

def addCount : List RREvent → Nat
  | [] => 0
  | .add _ :: r => addCount r + 1
  | .fin _ :: r => addCount r

theorem addCount_append (a b : List RREvent) : addCount (a ++ b) = addCount a + addCount b := by
  induction a with
  | nil => simp [addCount]
  | cons e r ih => cases e <;> simp [addCount, ih] <;> omega

theorem takePending_perm {tid : Nat} {l : List (Nat × Nat)} {v : Nat} {r : List (Nat × Nat)}
    (h : takePending tid l = some (v, r)) : l.Perm ((tid, v) :: r) := by
  fun_induction takePending tid l generalizing v r with
  | case1 => cases h
  -- the head is `tid`'s
  | case2 w rest => cases h; exact .refl _
  -- it is not, the tail has one
  | case3 t w rest ht w' r' hrec ih => cases h; exact ((ih hrec).cons _).trans (.swap _ _ _)
  -- it is not, the tail has none
  | case4 t w rest ht hrec => cases h

/-- the invariant of every interleaving: tickets handed out so far = in flight + returned -/
structure RRInv (n : Nat) (a : Nat) (s : RRState) : Prop where
  /-- the next `Add(1)` returns ticket `a` -/
  ctr : rrAdd s.ctr = a % 2 ^ 64
  perm : (s.pending.map (fun q => rrPick q.2 n) ++ s.done).Perm ((List.range a).map (pickOfTicket n))

theorem rrInv_init (n : Nat) : RRInv n 0 rrInitState :=
  ⟨rrAdd_init, by simp [rrInitState]⟩

theorem rrInv_step (n a : Nat) (s : RRState) (e : RREvent) (h : RRInv n a s) :
    RRInv n (a + addCount [e]) (rrStep n s e) := by
  cases e with
  | add tid =>
    simp only [rrStep, addCount]
    refine ⟨?_, ?_⟩
    · exact rrAdd_succ _ _ h.ctr
    · -- the new ticket goes in flight: it moves to the end of the tickets handed out
      simp only [h.ctr, List.map_append, List.map_cons, List.map_nil, List.range_succ, List.append_assoc,
        List.singleton_append]
      exact List.perm_middle.trans ((h.perm.cons _).trans (List.perm_append_singleton _ _).symm)
  | fin tid =>
    simp only [rrStep, addCount, Nat.add_zero]
    cases htp : takePending tid s.pending with
    | none => exact h
    | some pr =>
      obtain ⟨v, rest⟩ := pr
      refine ⟨h.ctr, ?_⟩
      -- the selection leaves the pending list for the end of the done list
      have hp : (s.pending.map (fun q => rrPick q.2 n)).Perm (rrPick v n :: rest.map (fun q => rrPick q.2 n)) :=
        (takePending_perm htp).map _
      rw [← List.append_assoc]
      exact (List.perm_append_singleton _ _).trans ((hp.symm.append_right s.done).trans h.perm)

theorem rrInv_exec (n : Nat) : ∀ (evs : List RREvent) (a : Nat) (s : RRState), RRInv n a s →
    RRInv n (a + addCount evs) (rrExec n s evs)
  | [], a, s, h => by simpa [rrExec, addCount] using h
  | e :: r, a, s, h => by
    have h2 := rrInv_exec n r _ _ (rrInv_step n a s e h)
    rw [Nat.add_assoc, ← addCount_append] at h2
    exact h2

theorem rrExec_perm (n : Nat) (evs : List RREvent) (hm : addCount evs ≤ 2 ^ 63) :
    ((rrExec n rrInitState evs).pending.map (fun q => rrPick q.2 n) ++ (rrExec n rrInitState evs).done).Perm
      ((List.range (addCount evs)).map (fun k => k % n)) := by
  have h := (rrInv_exec n evs 0 rrInitState (rrInv_init n)).perm
  rw [Nat.zero_add] at h
  exact pickOfTicket_range n _ hm ▸ h

end SSV.ClientGroups
