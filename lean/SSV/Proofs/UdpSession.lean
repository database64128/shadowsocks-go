import SSV.Model.UdpSession
import SSV.Proofs.SWF
import SSV.Proofs.SaltPoolTs
/-
Lemmas about the UDP unpacker session model (C04): rejected packets are no-ops, the server
unpacker refines "Fresh w.r.t. the delivered ids", junk can be removed from a history.
-/
namespace SSV.UdpSession
open SSV.SWF

theorem serverStep_noop (st : ServerState) (now : Nat) (p : Packet)
    (h : (serverStep st now p).2 ≠ .ok) : (serverStep st now p).1 = st := by
  unfold serverStep at h ⊢
  split
  · next hv => simp [hv] at h
  · rfl

theorem clientStep_noop (st : ClientState) (now : Nat) (p : Packet)
    (h : (clientStep st now p).2 ≠ .ok) : (clientStep st now p).1 = st := by
  unfold clientStep at h ⊢
  split
  · next hv => simp [hv] at h
  · rfl

theorem serverStep_res (st : ServerState) (now : Nat) (p : Packet) : (serverStep st now p).2 = serverVerdict st now p := by
  unfold serverStep; split
  · next h => exact h.symm
  · rfl

theorem clientStep_res (st : ClientState) (now : Nat) (p : Packet) : (clientStep st now p).2 = clientVerdict st now p := by
  unfold clientStep; split
  · next h => exact h.symm
  · rfl

theorem serverStep_ok_state {st : ServerState} {now : Nat} {p : Packet} (h : serverVerdict st now p = .ok) :
    (serverStep st now p).1 = serverCommit st p := by
  unfold serverStep; rw [if_pos h]

theorem clientStep_ok_state {st : ClientState} {now : Nat} {p : Packet} (h : clientVerdict st now p = .ok) :
    (clientStep st now p).1 = clientCommit st now p := by
  unfold clientStep; rw [if_pos h]

theorem runChecks_eq_none_iff (f : SSV.Gen.C04.HdrCheck → Option Res) (l : List SSV.Gen.C04.HdrCheck) :
    runChecks f l = none ↔ ∀ c ∈ l, f c = none := by
  induction l with
  | nil => simp [runChecks]
  | cons c r ih => cases h : f c <;> simp [runChecks, h, ih]

theorem runChecks_ne_ok {now csid typ : Nat} {p : Packet} {l : List SSV.Gen.C04.HdrCheck} {e : Res}
    (he : runChecks (checkFails now csid typ p) l = some e) : e ≠ .ok := by
  induction l with
  | nil => cases he
  | cons c r ih =>
    unfold runChecks at he
    split at he
    · next hc =>
      cases he
      cases c <;> simp only [checkFails] at hc <;> split at hc <;> cases hc <;> simp
    · exact ih he

theorem parseClientHeader_none_iff {now : Nat} {p : Packet} :
    parseClientHeader now p = none ↔
      (p.hdr = true ∧ p.typ = headerTypeClientPacket ∧ tsValid p.ts now = true ∧ p.padOk = true ∧ p.addrOk = true) := by
  -- no check of the program fails: one condition per check
  simp [parseClientHeader, runChecks_eq_none_iff, SSV.Gen.C04.udpClientHeaderOrder, checkFails]

theorem parseServerHeader_none_iff {now csid : Nat} {p : Packet} :
    parseServerHeader now csid p = none ↔
      (p.hdr = true ∧ p.typ = headerTypeServerPacket ∧ tsValid p.ts now = true ∧ p.csid = csid ∧ p.padOk = true ∧
        p.addrOk = true) := by
  simp [parseServerHeader, runChecks_eq_none_iff, SSV.Gen.C04.udpServerHeaderOrder, checkFails]

/-- the common tail of both `UnpackInPlace` chains: `IsOk` guard, AEAD open, header parse (which never reports `ok`) -/
theorem verdict_tail_ok {rep auth : Bool} {parse : Option Res} :
    (∀ e, parse = some e → e ≠ .ok) →
    ((if rep then Res.replay else if !auth then .authFail else match parse with | some e => e | none => .ok) = .ok ↔
      (rep = false ∧ auth = true ∧ parse = none)) := by
  intro hne
  cases rep
  · cases auth
    · simp
    · cases parse with
      | none => simp
      | some e => simpa using hne e rfl
  · simp

theorem serverVerdict_ok {st : ServerState} {now : Nat} {p : Packet} :
    serverVerdict st now p = .ok ↔
    (p.long = true ∧ replayed st.filter p.pid = false ∧ p.authentic = true ∧ parseClientHeader now p = none) := by
  unfold serverVerdict
  cases p.long
  · simp
  · simp only [Bool.not_true, Bool.false_eq_true, if_false, true_and]
    exact verdict_tail_ok fun e => runChecks_ne_ok

theorem clientVerdict_ok {st : ClientState} {now : Nat} {p : Packet} :
    clientVerdict st now p = .ok ↔
    (p.long = true ∧ ∃ status sf, classify st now p.sid = some (status, sf) ∧ replayed sf p.pid = false ∧
      p.authentic = true ∧ parseServerHeader now st.csid p = none) := by
  unfold clientVerdict
  cases p.long
  · simp
  · cases classify st now p.sid with
    | none => simp
    | some v =>
      obtain ⟨status, sf⟩ := v
      simp only [Bool.not_true, Bool.false_eq_true, if_false, true_and, Option.some.injEq, Prod.mk.injEq]
      have tail := verdict_tail_ok (rep := replayed sf p.pid) (auth := p.authentic)
        (parse := parseServerHeader now st.csid p) fun e => runChecks_ne_ok
      exact ⟨fun h => ⟨status, sf, ⟨rfl, rfl⟩, tail.mp h⟩, fun ⟨_, _, ⟨rfl, rfl⟩, h⟩ => tail.mpr h⟩

theorem serverStep_ok {st : ServerState} {now : Nat} {p : Packet}
    (h : (serverStep st now p).2 = .ok) :
    p.authentic = true ∧ parseClientHeader now p = none := by
  rw [serverStep_res, serverVerdict_ok] at h
  exact h.2.2

theorem clientStep_ok {st : ClientState} {now : Nat} {p : Packet}
    (h : (clientStep st now p).2 = .ok) :
    p.authentic = true ∧ parseServerHeader now st.csid p = none := by
  rw [clientStep_res, clientVerdict_ok] at h
  obtain ⟨_, _, _, _, _, ha, hp⟩ := h
  exact ⟨ha, hp⟩

/-- sane clock: `now.Unix() + MaxEpochDiff` is an `int64` -/
def ClockOk (now : Nat) : Prop := SSV.SaltPool.unixSec now + tsParams.maxEpochDiff < 2 ^ 63

instance (now : Nat) : Decidable (ClockOk now) := by unfold ClockOk; infer_instance

/-- the timestamp word, read as `int64`, is within `MaxEpochDiff` seconds of the clock -/
def tsNear (ts : BitVec 64) (now : Nat) : Prop :=
  ts.toInt - (SSV.SaltPool.unixSec now : Int) ≤ (SSV.Gen.C04.MaxEpochDiff : Nat) ∧
  (SSV.SaltPool.unixSec now : Int) - ts.toInt ≤ (SSV.Gen.C04.MaxEpochDiff : Nat)

instance (ts : BitVec 64) (now : Nat) : Decidable (tsNear ts now) := by unfold tsNear; infer_instance

theorem tsValid_iff_near (ts : BitVec 64) {now : Nat} (h : ClockOk now) : tsValid ts now = true ↔ tsNear ts now :=
  SSV.SaltPool.tsValid_iff tsParams ts now h

/-- forged, wrong-type or stale (more than `MaxEpochDiff` s from the clock, any 64-bit value) packets -/
def serverJunk (now : Nat) (p : Packet) : Bool :=
  !p.authentic || p.typ != headerTypeClientPacket || !decide (tsNear p.ts now)

/-- the same for the client unpacker, and packets that name another client session -/
def clientJunk (csid : Nat) (now : Nat) (p : Packet) : Bool :=
  !p.authentic || p.typ != headerTypeServerPacket || !decide (tsNear p.ts now) || p.csid != csid

theorem serverStep_near {st : ServerState} {now : Nat} {p : Packet} (hc : ClockOk now) (h : (serverStep st now p).2 = .ok) :
    tsNear p.ts now :=
  (tsValid_iff_near p.ts hc).mp (parseClientHeader_none_iff.mp (serverStep_ok h).2).2.2.1

theorem clientStep_near {st : ClientState} {now : Nat} {p : Packet} (hc : ClockOk now) (h : (clientStep st now p).2 = .ok) :
    tsNear p.ts now :=
  (tsValid_iff_near p.ts hc).mp (parseServerHeader_none_iff.mp (clientStep_ok h).2).2.2.1

theorem serverJunk_rejected {st : ServerState} {now : Nat} {p : Packet} (hc : ClockOk now) (h : serverJunk now p = true) :
    (serverStep st now p).2 ≠ .ok := by
  intro hok
  obtain ⟨ha, hp⟩ := serverStep_ok hok
  simp [serverJunk, ha, (parseClientHeader_none_iff.mp hp).2.1, serverStep_near hc hok] at h

theorem clientJunk_rejected {st : ClientState} {now : Nat} {p : Packet} (hck : ClockOk now) (h : clientJunk st.csid now p = true) :
    (clientStep st now p).2 ≠ .ok := by
  intro hok
  obtain ⟨ha, hp⟩ := clientStep_ok hok
  obtain ⟨_, ht, _, hc, _⟩ := parseServerHeader_none_iff.mp hp
  simp [clientJunk, ha, ht, clientStep_near hck hok, hc] at h

theorem clientCommit_params (st : ClientState) (now : Nat) (p : Packet) :
    (clientCommit st now p).csid = st.csid ∧ (clientCommit st now p).filterSize = st.filterSize := by
  unfold clientCommit
  cases classify st now p.sid with
  | none => exact ⟨rfl, rfl⟩
  | some v => obtain ⟨status, sf⟩ := v; cases status <;> exact ⟨rfl, rfl⟩

theorem clientStep_params (st : ClientState) (now : Nat) (p : Packet) :
    (clientStep st now p).1.csid = st.csid ∧ (clientStep st now p).1.filterSize = st.filterSize := by
  unfold clientStep; split
  · exact clientCommit_params st now p
  · exact ⟨rfl, rfl⟩

/-- Removing junk from a history leaves the other verdicts as they were, for any unpacker `step` with its `run`. -/
theorem junk_filter {σ : Type} (step : σ → Nat → Packet → σ × Res) (run : σ → List Event → List Res)
    (hnil : ∀ st, run st [] = [])
    (hcons : ∀ st now p r, run st ((now, p) :: r) = (step st now p).2 :: run (step st now p).1 r)
    (junk : σ → Nat → Packet → Bool) (hjunk : ∀ st now p, junk (step st now p).1 = junk st)
    (hnoop : ∀ st now p, ClockOk now → junk st now p = true → (step st now p).1 = st)
    (st : σ) (evs : List Event) (hck : ∀ e ∈ evs, ClockOk e.1) :
    ((evs.zip (run st evs)).filter (fun e => !junk st e.1.1 e.1.2)).map (·.2) =
      run st (evs.filter (fun e => !junk st e.1 e.2)) := by
  induction evs generalizing st with
  | nil => simp [hnil]
  | cons e r ih =>
    obtain ⟨now, p⟩ := e
    have ih' := fun st => ih st fun e he => hck e (List.mem_cons_of_mem _ he)
    rw [hcons]
    simp only [List.zip_cons_cons, List.filter_cons]
    by_cases hj : junk st now p = true
    · simp only [hj, Bool.not_true, Bool.false_eq_true, if_false]
      rw [hnoop st now p (hck (now, p) List.mem_cons_self) hj]
      exact ih' st
    · simp only [hj, Bool.not_false, if_true, List.map_cons, hcons]
      rw [← hjunk st now p, ih']

/-- ids delivered by the server unpacker along a run (most recent first) -/
def serverDelivered (st : ServerState) (d : List Nat) : List Event → List Nat
  | [] => d
  | (now, p) :: r =>
    serverDelivered (serverStep st now p).1 (if (serverStep st now p).2 = .ok then p.pid :: d else d) r

/-- the filter (once it exists) describes exactly the delivered ids; before that nothing was delivered -/
def FInv (n : Nat) (sf : Option Filter) (d : List Nat) : Prop :=
  match sf with
  | none => d = []
  | some f => Sim n f d

/-- a `nil` filter stands for the new one `MustAdd` will be called on -/
theorem FInv.sim {sf : Option Filter} {d : List Nat} {n : Nat} (hnew : Sim n (new n) []) (h : FInv n sf d) :
    Sim n (filterOrNew sf n) d := by
  cases sf with
  | none => rw [show d = [] from h]; exact hnew
  | some f => exact h

theorem replayed_iff {sf : Option Filter} {d : List Nat} {n : Nat} (hinv : FInv n sf d) (pid : Nat) :
    replayed sf pid = false ↔ Fresh n d pid := by
  cases sf with
  | none => rw [show d = [] from hinv]; exact iff_of_true rfl (fresh_nil n pid)
  | some f => simp only [replayed, Bool.not_eq_false']; exact Sim.isOk_iff hinv pid

theorem filterOrNew_mustAdd {sf : Option Filter} {d : List Nat} {n : Nat} (hnew : Sim n (new n) [])
    (hinv : FInv n sf d) {pid : Nat} (hr : replayed sf pid = false) :
    Sim n (mustAdd (filterOrNew sf n) pid) (pid :: d) :=
  (hinv.sim hnew).mustAdd (((hinv.sim hnew).isOk_iff pid).mpr ((replayed_iff hinv pid).mp hr))

/-- the unpacker `st`, of configured filter size `n`, against the ids `d` it delivered -/
def SInv (n : Nat) (st : ServerState) (d : List Nat) : Prop := st.filterSize = n ∧ FInv n st.filter d

theorem serverInit_inv (n : Nat) : SInv n (serverInit n) [] := ⟨rfl, rfl⟩

theorem serverStep_spec {n : Nat} {st : ServerState} {d : List Nat} (hnew : Sim n (new n) [])
    (hinv : SInv n st d) (now : Nat) (p : Packet) :
    ((serverStep st now p).2 = .ok ↔
      (p.long = true ∧ p.authentic = true ∧ parseClientHeader now p = none ∧ Fresh n d p.pid)) ∧
    SInv n (serverStep st now p).1 (if (serverStep st now p).2 = .ok then p.pid :: d else d) := by
  obtain ⟨rfl, hF⟩ := hinv
  rw [serverStep_res]
  refine ⟨?_, ?_⟩
  · rw [serverVerdict_ok, replayed_iff hF]
    exact ⟨fun ⟨a, b, c, e⟩ => ⟨a, c, e, b⟩, fun ⟨a, c, e, b⟩ => ⟨a, b, c, e⟩⟩
  · by_cases hv : serverVerdict st now p = .ok
    · rw [if_pos hv, serverStep_ok_state hv]
      exact ⟨rfl, filterOrNew_mustAdd hnew hF (serverVerdict_ok.mp hv).2.1⟩
    · rw [if_neg hv, serverStep_noop st now p (by rw [serverStep_res]; exact hv)]
      exact ⟨rfl, hF⟩

theorem serverRun_inv {n : Nat} {st : ServerState} {d : List Nat} (hnew : Sim n (new n) [])
    (hinv : SInv n st d) (hd : d.Nodup) (evs : List Event) :
    SInv n (serverAfter st evs) (serverDelivered st d evs) ∧ (serverDelivered st d evs).Nodup := by
  induction evs generalizing st d with
  | nil => exact ⟨hinv, hd⟩
  | cons e r ih =>
    obtain ⟨now, p⟩ := e
    obtain ⟨hiff, hI⟩ := serverStep_spec hnew hinv now p
    refine ih hI ?_
    split
    · next hok => exact List.nodup_cons.mpr ⟨(hiff.mp hok).2.2.2.1, hd⟩
    · exact hd

end SSV.UdpSession
