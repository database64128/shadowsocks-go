import SSV.Proofs.RelayLifeInv
/-
C12: a ranking function of the relay.  `measure` strictly decreases on every step of a goroutine of the relay
(`Ev.internal`); only the environment (a client datagram, the next message of a received batch, a datagram from the
target, the call of Stop) and the NAT timer are not counted.  Hence between two environment events the relay makes at
most `measure s` steps, and after Stop was called (no client datagram is accepted any more) every run of the relay's own
steps ends within `measure s` steps — a bound in terms of queued packets and program positions (in-flight work), in which
the NAT timeout does not occur.
-/
namespace SSV.RelayLife

/-- steps I_i has left (`dProc` above `dRead`: a datagram from the target is an event of the environment, the send that
follows is the relay's own step).  Against `IPc.idx`, which counts from the start: `rank = 15 - idx` but for these two and
`done`; the initialiser is `9 ≤ rank` (`idx ≤ 6`), the deferred clean-up `rank ≤ 6` (`9 ≤ idx`). -/
def IPc.rank : IPc → Nat
  | .getClient => 15 | .newSession => 14 | .listen => 13 | .setDl => 12 | .newPacker => 11 | .swap => 10 | .spawn => 9
  | .dProc => 8 | .dRead => 7 | .cLock => 6 | .cClose => 5 | .cDelete => 4 | .cUnlock => 3 | .cDrain => 2 | .done => 0
def UPc.rank : UPc → Nat
  | .none => 7 | .send => 6 | .arm => 5 | .check => 4 | .force => 3 | .recv => 2 | .closeSock => 1 | .done => 0
/-- `hold` is above `unlock` by more than the share of a fresh entry (15 + 7 + 7 + 2 = 31), which `rProc` may create -/
def RPc.rank : RPc → Nat
  | .done => 0 | .read => 1 | .unlock => 2 | .hold _ => 40 | .wantLock _ => 41
def SPc.rank : SPc → Nat
  | .idle => 50 | .dlServer => 40 | .waitMwg => 38 | .lock => 36 | .iter => 34 | .pend _ => 33 | .unlock => 32
  | .waitWg => 30 | .closeSrv => 28 | .done => 0
theorem IPc.rank_getClient : IPc.rank .getClient = 15 := rfl
theorem IPc.rank_newSession : IPc.rank .newSession = 14 := rfl
theorem IPc.rank_listen : IPc.rank .listen = 13 := rfl
theorem IPc.rank_setDl : IPc.rank .setDl = 12 := rfl
theorem IPc.rank_newPacker : IPc.rank .newPacker = 11 := rfl
theorem IPc.rank_swap : IPc.rank .swap = 10 := rfl
theorem IPc.rank_spawn : IPc.rank .spawn = 9 := rfl
theorem IPc.rank_dProc : IPc.rank .dProc = 8 := rfl
theorem IPc.rank_dRead : IPc.rank .dRead = 7 := rfl
theorem IPc.rank_cLock : IPc.rank .cLock = 6 := rfl
theorem IPc.rank_cClose : IPc.rank .cClose = 5 := rfl
theorem IPc.rank_cDelete : IPc.rank .cDelete = 4 := rfl
theorem IPc.rank_cUnlock : IPc.rank .cUnlock = 3 := rfl
theorem IPc.rank_cDrain : IPc.rank .cDrain = 2 := rfl
theorem IPc.rank_done : IPc.rank .done = 0 := rfl
theorem UPc.rank_none : UPc.rank .none = 7 := rfl
theorem UPc.rank_send : UPc.rank .send = 6 := rfl
theorem UPc.rank_arm : UPc.rank .arm = 5 := rfl
theorem UPc.rank_check : UPc.rank .check = 4 := rfl
theorem UPc.rank_force : UPc.rank .force = 3 := rfl
theorem UPc.rank_recv : UPc.rank .recv = 2 := rfl
theorem UPc.rank_closeSock : UPc.rank .closeSock = 1 := rfl
theorem UPc.rank_done : UPc.rank .done = 0 := rfl
theorem RPc.rank_done : RPc.rank .done = 0 := rfl
theorem RPc.rank_read : RPc.rank .read = 1 := rfl
theorem RPc.rank_unlock : RPc.rank .unlock = 2 := rfl
theorem RPc.rank_hold (c : Nat) : RPc.rank (.hold c) = 40 := rfl
theorem RPc.rank_wantLock (c : Nat) : RPc.rank (.wantLock c) = 41 := rfl
theorem SPc.rank_idle : SPc.rank .idle = 50 := rfl
theorem SPc.rank_dlServer : SPc.rank .dlServer = 40 := rfl
theorem SPc.rank_waitMwg : SPc.rank .waitMwg = 38 := rfl
theorem SPc.rank_lock : SPc.rank .lock = 36 := rfl
theorem SPc.rank_iter : SPc.rank .iter = 34 := rfl
theorem SPc.rank_unlock : SPc.rank .unlock = 32 := rfl
theorem SPc.rank_waitWg : SPc.rank .waitWg = 30 := rfl
theorem SPc.rank_closeSrv : SPc.rank .closeSrv = 28 := rfl
theorem SPc.rank_done : SPc.rank .done = 0 := rfl
theorem SPc.rank_pend (i : Nat) : SPc.rank (.pend i) = 33 := rfl

def Entry.uplinkWork (e : Entry) : Nat := e.q * 7 + e.upc.rank

/-- the session's share of the measure: a queued packet costs one lap of the uplink loop (at most 7 steps); the last
summand pays for Stop's `pend → iter` step, which raises Stop's own rank by one -/
def Entry.mu (e : Entry) : Nat := e.ipc.rank + (e.q * 7 + e.upc.rank) + (if e.visited then 0 else 2)

def emuF : Nat → (Nat → Entry) → Nat
  | 0, _ => 0
  | n + 1, ent => emuF n ent + (ent n).mu

def measure (s : State) : Nat := s.spc.rank + s.rpc.rank + emuF s.n s.ent

theorem emuF_congr (n : Nat) (f g : Nat → Entry) (h : ∀ j, j < n → f j = g j) : emuF n f = emuF n g := by
  induction n with
  | zero => rfl
  | succ n ih => simp only [emuF]; rw [ih (fun j hj => h j (by omega)), h n (by omega)]

theorem emuF_upd (n : Nat) (ent : Nat → Entry) (i : Nat) (e' : Entry) (hi : i < n) :
    emuF n (fun j => if j = i then e' else ent j) + (ent i).mu = emuF n ent + e'.mu := by
  induction n with
  | zero => omega
  | succ n ih =>
    simp only [emuF]
    by_cases h : i = n
    · subst h
      rw [emuF_congr i _ ent (fun j hj => by simp; omega), if_pos rfl]
      omega
    · have h1 := ih (by omega)
      rw [if_neg (Ne.symm h)]
      omega

theorem emuF_new (n : Nat) (ent : Nat → Entry) (e' : Entry) :
    emuF (n + 1) (fun j => if j = n then e' else ent j) = emuF n ent + e'.mu := by
  simp only [emuF, if_true]
  rw [emuF_congr n _ ent (fun j hj => by simp; omega)]

variable (cfg : Cfg)

/-- The hypothesis inside the first disjunct: `spawn` overwrites the position of U_i, which has not started before. -/
theorem Own.delta {e e' : Entry} {b : Bool} (o : Own cfg e b e') :
    e'.visited = e.visited ∧
    ((b = true ∧ e'.ipc.rank < e.ipc.rank ∧ ((e.ipc.idx ≤ 6 → e.upc = .none) → e'.uplinkWork ≤ e.uplinkWork)) ∨
     (b = true ∧ e'.ipc = e.ipc ∧ e'.uplinkWork < e.uplinkWork) ∨
     (b = false ∧ e'.uplinkWork = e.uplinkWork ∧ (e'.ipc = e.ipc ∨ e.ipc = .dRead))) := by
  unfold Entry.uplinkWork
  -- `omega` but for `uArm`, `uCheck` (the new `upc` is an `if`) and `failEarly` (`ipc` is known only through `idx ≤ 2`)
  cases o <;> simp_all [Entry.closeIf, IPc.idx, apply_ite UPc.rank] <;> simp only [IPc.rank, UPc.rank] <;>
    first | omega | (split <;> omega) | (cases hp : e.ipc <;> simp_all)

theorem Own.mu_lt {e e' : Entry} (o : Own cfg e true e') (hu : e.ipc.idx ≤ 6 → e.upc = .none) : e'.mu < e.mu := by
  obtain ⟨hv, h | h | h⟩ := Own.delta cfg o
  · have := h.2.2 hu; simp only [Entry.mu, Entry.uplinkWork, hv] at *; omega
  · simp only [Entry.mu, Entry.uplinkWork, hv, h.2.1] at *; omega
  · cases h.1

theorem measure_decreases {s s' : State} (h : Reachable cfg s) (e : Ev) (he : e.internal = true) (hs : step cfg s e = some s') :
    measure s' < measure s := by
  have st : Step cfg s true s' := he ▸ step_Step hs
  have G := inv_reachable h
  have upd : ∀ {i : Nat} {e' : Entry} (p q : Nat), i < s.n → e'.mu + p < (s.ent i).mu + q →
      p + emuF s.n (fun j => if j = i then e' else s.ent j) < q + emuF s.n s.ent := by
    intro i e' p q hi hlt
    have := emuF_upd s.n s.ent i e' hi
    omega
  cases st <;> simp only [measure, State.setE]
  case own i e' hi o => exact upd _ _ hi (by have := Own.mu_lt cfg o (einv_reachable h hi).uplinkNotYet; omega)
  case rEnqueue c i hr ht hc =>
    exact upd _ _ (G.tab c i ht).1 (by simp only [Entry.mu, hr, RPc.rank]; omega)
  case rNew c hr ht => rw [emuF_new]; simp only [hr, RPc.rank, Entry.mu, Entry.fresh, IPc.rank, UPc.rank]; simp; omega
  case stopForce i hp =>
    obtain ⟨hi, hv⟩ := G.inv6.p2 i hp
    exact upd _ _ hi (by simp [Entry.mu, hp, hv, SPc.rank]; omega)
  case visitNil i hg hn => exact upd _ _ hg.2.1 (by simp only [Entry.mu, hg.2.2.2]; simp)
  case visit i hg hn =>
    refine upd _ _ hg.2.1 ?_
    simp only [Entry.mu, hg.1, SPc.rank]
    omega
  case cLock i hi hp _ | cCloseAgain i hi hp _ | cDelete i hi hp =>
    exact upd _ _ hi (by simp only [Entry.mu, hp, IPc.rank]; omega)
  case cUnlock i hi hp => exact upd _ _ hi (by
    cases hc : (s.ent i).clean <;> simp only [Entry.mu, hp, IPc.rank, if_true, if_false, Bool.false_eq_true] <;> omega)
  all_goals (simp only [*, RPc.rank, SPc.rank]; omega)

theorem internal_run_bounded {s s' : State} (h : Reachable cfg s) (es : List Ev) (hint : ∀ e ∈ es, e.internal = true)
    (hr : run cfg s es = some s') : es.length + measure s' ≤ measure s := by
  induction es generalizing s with
  | nil => simp [run] at hr; subst hr; simp
  | cons e es ih =>
    simp only [run] at hr
    split at hr
    · next s1 h1 =>
      have hd := measure_decreases cfg h e (hint e (by simp)) h1
      have := ih (Reachable.step e h h1) (fun e' he' => hint e' (by simp [he'])) hr
      simp only [List.length_cons]; omega
    · simp at hr

end SSV.RelayLife
