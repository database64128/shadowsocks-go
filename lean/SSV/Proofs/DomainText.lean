import SSV.Proofs.DomainBuilder
import SSV.Proofs.Decimal
/-
Text form: `WriteText` writes the capacity hint and then `Builder.ruleList` line by line, and `BuilderFromText` folds
`Builder.addRule` over the same list; the clamped hint values stay below `make`'s limit.
-/
namespace SSV.DomainSet

/-- a rule a text line can hold -/
def lineSafe (r : Str) : Bool := !r.isEmpty && !r.contains LF && r.getLast? != some CR

theorem lineSafe_iff (r : Str) : lineSafe r = true ↔ (r ≠ [] ∧ LF ∉ r ∧ r.getLast? ≠ some CR) := by
  unfold lineSafe
  simp [and_assoc]

theorem lineSafe_prefixed (pre r : Str) (hp : LF ∉ pre) (h : lineSafe r = true) : lineSafe (pre ++ r) = true := by
  obtain ⟨h1, h2, h3⟩ := (lineSafe_iff r).mp h
  rw [lineSafe_iff]
  refine ⟨by simp [h1], ?_, ?_⟩
  · exact fun hm => (List.mem_append.mp hm).elim hp h2
  · rw [List.getLast?_append]
    cases hr : r.getLast? with
    | none => exact absurd (List.getLast?_eq_none_iff.mp hr) h1
    | some x =>
      rw [hr] at h3
      simpa using h3

theorem trimCR_of_getLast (s : Str) (h : s.getLast? ≠ some CR) : trimCR s = s := by
  unfold trimCR
  cases hs : s.reverse with
  | nil => simp [List.reverse_eq_nil_iff.mp hs]
  | cons x xs =>
    have hx : s.getLast? = some x := by
      rw [← List.head?_reverse, hs]; rfl
    have : ¬ x = CR := by intro h'; subst h'; exact h hx
    rw [List.dropWhile_cons]
    simp only [this, decide_false, Bool.false_eq_true, ↓reduceIte]
    rw [← hs, List.reverse_reverse]

theorem nonEmptyLinesAux_spec (text acc : Str) :
    nonEmptyLinesAux acc text =
      ((match splitOn LF text with
        | [] => [acc.reverse]
        | h :: t => (acc.reverse ++ h) :: t).map trimCR).filter (fun l => !l.isEmpty) := by
  fun_induction nonEmptyLinesAux acc text
  -- the end of the text and an LF each close a piece, which is empty (dropped) or not; any other byte joins the piece
  case case1 line h => simp [splitOn, show (trimCR _).isEmpty = true from h]
  case case2 line h => simp [splitOn, show ¬ (trimCR _).isEmpty = true from h, line]
  case case3 acc cs line h ih =>
    obtain ⟨hd, tl, hs⟩ := splitOn_eq_cons LF cs
    simp [splitOn, show (trimCR _).isEmpty = true from h, ih, hs]
  case case4 acc cs line h ih =>
    obtain ⟨hd, tl, hs⟩ := splitOn_eq_cons LF cs
    simp [splitOn, show ¬ (trimCR _).isEmpty = true from h, ih, hs, line]
  case case5 acc c cs hc ih =>
    obtain ⟨hd, tl, hs⟩ := splitOn_eq_cons LF cs
    simp [splitOn, hc, ih, hs]

theorem nonEmptyLines_spec (text : Str) :
    nonEmptyLines text = ((splitOn LF text).map trimCR).filter (fun l => !l.isEmpty) := by
  unfold nonEmptyLines
  rw [nonEmptyLinesAux_spec]
  obtain ⟨h, t, hs⟩ := splitOn_eq_cons LF text
  simp [hs]

theorem nonEmptyLines_of_safe (ls : List Str) (h : ∀ l ∈ ls, lineSafe l = true) :
    nonEmptyLines (ls.flatMap (fun l => l ++ [LF])) = ls := by
  have h' := fun l hl => (lineSafe_iff l).mp (h l hl)
  -- the pieces are the lines and one empty piece after the last LF; `trimCR` and the filter leave safe lines alone
  rw [nonEmptyLines_spec, splitOn_unlines LF ls fun l hl => (h' l hl).2.1, List.map_append, List.filter_append,
    List.map_congr_left (g := id) fun l hl => trimCR_of_getLast l (h' l hl).2.2, List.map_id,
    List.filter_eq_self.mpr fun l hl => by simpa [List.isEmpty_iff] using (h' l hl).1]
  simp [trimCR]

theorem digitsVal_eq_foldl : ∀ (s : Str) (n : Nat), digitsVal n s = s.foldl (fun a c => a * 10 + (c.toNat - 48)) n
  | [], _ => rfl
  | _ :: s, _ => digitsVal_eq_foldl s _

theorem natToDec_spec (n : Nat) :
    natToDec n ≠ [] ∧ (∀ c ∈ natToDec n, 48 ≤ c.toNat ∧ c.toNat ≤ 57) ∧ digitsVal 0 (natToDec n) = n := by
  obtain ⟨ds, h1, h⟩ := decimal_spec (p := natToDecAux) (fun f n acc => by simp [natToDecAux]) (n + 1) n [] (by omega)
  rwa [natToDec, h1, List.append_nil, digitsVal_eq_foldl]

theorem atoiNonneg_natToDec (n : Nat) (h : n < 2 ^ 63) : atoiNonneg (natToDec n) = some n := by
  obtain ⟨h1, h2, h3⟩ := natToDec_spec n
  unfold atoiNonneg
  cases hs : natToDec n with
  | nil => exact absurd hs h1
  | cons c cs =>
    rw [hs] at h2 h3
    have hc := h2 c (by simp)
    have hall : (c :: cs).all isDigit = true := by
      rw [List.all_eq_true]
      intro x hx
      have := h2 x hx
      simp [isDigit, this]
    have h43 : (c == 43) = false := by
      rw [beq_eq_false_iff_ne]; intro h'; subst h'; simp at hc
    have h45 : (c == 45) = false := by
      rw [beq_eq_false_iff_ne]; intro h'; subst h'; simp at hc
    simp only [List.head?_cons, Option.some_beq_some, h43, h45, Bool.or_self, Bool.false_eq_true, ↓reduceIte,
      List.isEmpty_cons, hall, Bool.not_true, h3]
    simp [h]

theorem cutAt_digits (ds rest : Str) (h : ∀ c ∈ ds, 48 ≤ c.toNat ∧ c.toNat ≤ 57) :
    cutAt space (ds ++ space :: rest) = (ds, some rest) := by
  rw [cutAt_no_sep_append space ds _ fun hm => by simpa [space] using h space hm]
  simp [cutAt]

/-- the capacity-hint line `WriteText` writes -/
def hintLine (a b c d : Nat) : Str :=
  SSV.Gen.C10.capacityHintPrefix ++ (natToDec a ++ space :: (natToDec b ++ space :: (natToDec c ++ space ::
    (natToDec d ++ space :: SSV.Gen.C10.capacityHintSuffix))))

theorem parseHintFields_dec (n a : Nat) (ha : a < 2 ^ 63) (rest : Str) :
    parseHintFields (n + 1) (natToDec a ++ space :: rest) = (parseHintFields n rest).map (a :: ·) := by
  rw [parseHintFields, cutAt_digits _ _ (natToDec_spec a).2.1]
  simp only [atoiNonneg_natToDec a ha]

theorem parseCapacityHint_written (a b c d : Nat) (ha : a < 2 ^ 63) (hb : b < 2 ^ 63) (hc : c < 2 ^ 63) (hd : d < 2 ^ 63) :
    parseCapacityHint (hintLine a b c d) = .found [a, b, c, d] := by
  have hlen : ∀ r : Str, (SSV.Gen.C10.capacityHintPrefix ++ (natToDec a ++ r)).length
      > SSV.Gen.C10.capacityHintPrefix.length := by
    intro r
    have := List.length_pos_iff.mpr (natToDec_spec a).1
    rw [List.length_append, List.length_append]
    omega
  simp only [parseCapacityHint, hintLine, hlen, List.take_left', List.drop_left', true_and, ↓reduceIte]
  rw [parseHintFields_dec _ _ ha, parseHintFields_dec _ _ hb, parseHintFields_dec _ _ hc, parseHintFields_dec _ _ hd]
  simp [parseHintFields]

theorem lineSafe_hintLine (a b c d : Nat) : lineSafe (hintLine a b c d) = true := by
  have step : ∀ (n : Nat) (r : Str), lineSafe r = true → lineSafe (natToDec n ++ space :: r) = true := by
    intro n r h
    refine lineSafe_prefixed _ _ (fun hm => ?_) (lineSafe_prefixed [space] r (by decide) h)
    have := (natToDec_spec n).2.1 LF hm
    simp [LF] at this
  exact lineSafe_prefixed _ _ (by decide) (step a _ (step b _ (step c _ (step d _ (by decide)))))

theorem addLines_eq (ls : List Str) (b : Builder) : addLines b ls =
    if Line.invalid ∈ ls.map classify then .error .invalidLine else .ok ((ls.map classify).foldl Builder.addRule b) := by
  fun_induction addLines b ls <;> simp [*, Builder.addRule]

/-- `Rules()` of the four slots as classified lines, in the order `WriteText` writes them -/
def Builder.ruleList (b : Builder) : List Line :=
  b.domains.rules.map .domain ++ b.suffixes.rules.map .suffix ++ b.keywords.map .keyword ++ b.regexps.map .regexp

/-- the line `WriteText` writes for a rule; a line that is no rule has none -/
def Line.render : Line → Str
  | .domain r => SSV.Gen.C10.domainPrefix ++ r
  | .suffix r => SSV.Gen.C10.suffixPrefix ++ r
  | .keyword r => SSV.Gen.C10.keywordPrefix ++ r
  | .regexp r => SSV.Gen.C10.regexpPrefix ++ r
  | _ => []

/-- the rule of a classified line, if it is one, can be written on a line (what the parser guarantees) -/
def Line.Safe : Line → Prop
  | .domain r | .suffix r | .keyword r | .regexp r => lineSafe r = true
  | _ => True

/-- a line that is a rule (no comment, no invalid line) whose text can be written on a line (what the writer needs) -/
def Line.SafeRule : Line → Prop
  | .domain r | .suffix r | .keyword r | .regexp r => lineSafe r = true
  | _ => False

open SSV.Gen.C10 in
theorem Line.SafeRule.classify_render {ln : Line} (h : ln.SafeRule) : classify ln.render = ln := by
  cases ln with
  | comment | invalid => exact h.elim
  | domain r | suffix r | keyword r | regexp r =>
    cases r with
    | nil => cases h
    | cons x xs => simp [Line.render, classify, suffixPrefix, domainPrefix, regexpPrefix, keywordPrefix, textProbeLen]

theorem Line.SafeRule.render_safe {ln : Line} (h : ln.SafeRule) : lineSafe ln.render = true := by
  cases ln with
  | domain r | suffix r | keyword r | regexp r => exact lineSafe_prefixed _ r (by decide) h
  | comment | invalid => exact h.elim

theorem addLines_render (lns : List Line) (h : ∀ ln ∈ lns, ln.SafeRule) (b : Builder) :
    addLines b (lns.map Line.render) = .ok (lns.foldl Builder.addRule b) := by
  have e : (lns.map Line.render).map classify = lns := by
    rw [List.map_map]; exact (List.map_congr_left fun ln hl => (h ln hl).classify_render).trans (List.map_id _)
  rw [addLines_eq, e, if_neg fun hm => h .invalid hm]

theorem writeText_lines (b : Builder) :
    b.writeText = (hintLine b.domains.rules.length b.suffixes.rules.length b.keywords.length b.regexps.length
      :: b.ruleList.map Line.render).flatMap (fun l => l ++ [LF]) := by
  unfold Builder.writeText Builder.ruleList hintLine
  simp only [ruleLines, List.flatMap_map, List.flatMap_cons, List.flatMap_append, List.append_assoc, List.cons_append,
    List.nil_append, List.map_append, List.map_map, Function.comp_def, Line.render]

theorem Builder.safeRules {b : Builder}
    (hd : ∀ r ∈ b.domains.rules, lineSafe r = true) (hs : ∀ r ∈ b.suffixes.rules, lineSafe r = true)
    (hk : ∀ r ∈ b.keywords, lineSafe r = true) (hr : ∀ r ∈ b.regexps, lineSafe r = true) :
    ∀ ln ∈ b.ruleList, ln.SafeRule := by
  intro ln hl
  simp only [Builder.ruleList, List.mem_append, List.mem_map] at hl
  rcases hl with ((⟨r, h, rfl⟩ | ⟨r, h, rfl⟩) | ⟨r, h, rfl⟩) | ⟨r, h, rfl⟩
  · exact hd r h
  · exact hs r h
  · exact hk r h
  · exact hr r h

theorem builderFromText_writeText (b : Builder) (h : ∀ ln ∈ b.ruleList, ln.SafeRule)
    (hsz : b.domains.rules.length < 2 ^ 63 ∧ b.suffixes.rules.length < 2 ^ 63 ∧ b.keywords.length < 2 ^ 63
      ∧ b.regexps.length < 2 ^ 63) :
    builderFromText b.writeText =
      if b.ruleList = [] then .error .emptySet else .ok (b.ruleList.foldl Builder.addRule Builder.emptyText) := by
  unfold builderFromText
  rw [writeText_lines, nonEmptyLines_of_safe _ (by
    intro l hl
    rcases List.mem_cons.mp hl with rfl | hl
    · exact lineSafe_hintLine _ _ _ _
    · obtain ⟨ln, hln, rfl⟩ := List.mem_map.mp hl
      exact (h ln hln).render_safe)]
  simp only [parseCapacityHint_written _ _ _ _ hsz.1 hsz.2.1 hsz.2.2.1 hsz.2.2.2]
  cases hrl : b.ruleList with
  | nil => rfl
  | cons l ls =>
    rw [if_neg (List.cons_ne_nil _ _)]
    show addLines Builder.emptyText ((l :: ls).map Line.render) = _
    rw [← hrl]; exact addLines_render _ h _

theorem Builder.ruleList_ne_nil_iff (b : Builder) :
    b.ruleList ≠ [] ↔ (b.domains.rules ≠ [] ∨ b.suffixes.rules ≠ [] ∨ b.keywords ≠ [] ∨ b.regexps ≠ []) := by
  simp only [Builder.ruleList, ne_eq, List.append_eq_nil_iff, List.map_eq_nil_iff, Classical.not_and_iff_not_or_not,
    or_assoc]

theorem clampHint_le (text : Str) (h : Nat) : clampHint text h ≤ text.length / 8 + 1 := by
  unfold clampHint
  simp only [SSV.Gen.C10.hintClampDiv, SSV.Gen.C10.hintClampAdd]
  omega

theorem clampHint_le_maxSliceCap (text : Str) (hlen : text.length < 2 ^ 47) (h : Nat) : clampHint text h ≤ maxSliceCap := by
  have := clampHint_le text h
  unfold maxSliceCap
  omega

/-- for every text shorter than 2^47 bytes (128 TiB) and every hint value, loading never panics in `make`: the outcome
is exactly the error / builder of the panic-free model -/
theorem builderFromTextX_eq (text : Str) (hlen : text.length < 2 ^ 47) :
    builderFromTextX text = Load.ofExcept (builderFromText text) := by
  unfold builderFromTextX builderFromText
  cases nonEmptyLines text with
  | nil => rfl
  | cons first rest =>
    simp only
    cases parseCapacityHint first with
    | absent => rfl
    | bad => rfl
    | found dskr =>
      simp only
      cases rest with
      | nil => rfl
      | cons x xs => simp [Nat.not_lt.mpr (clampHint_le_maxSliceCap text hlen _)]

end SSV.DomainSet
