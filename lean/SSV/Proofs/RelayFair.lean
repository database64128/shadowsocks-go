import SSV.Proofs.RelayFate
/-
Progress: every enabled uplink turn of a session strictly raises its potential and no step of any thread lowers it;
hence, under fairness, everything pending in a started session's queue gets a fate (FIFO, documented fates only).
-/
namespace SSV.Relay

variable {cfg : Config}

/-- uplink turns needed to give a fate to everything pending now -/
def work (s : Sess) : Nat := 4 * s.queue.length + (match s.pc with | .idle => 0 | p => 4 - prog p)

/-- number of enabled uplink turns of `sid` along a run -/
def upTurns (cfg : Config) (sid : Nat) : State → List Act → Nat
  | _, [] => 0
  | st, a :: rest => (if enabledUpB st sid a then 1 else 0) + upTurns cfg sid (step cfg st a) rest

theorem fstep_run (acts : List Act) {st : State} (hI : FInv st) :
    (∃ X Y, (run cfg st acts).enq = st.enq ++ X ∧ (run cfg st acts).fate = st.fate ++ Y) ∧
    ∀ sid, potential st sid + upTurns cfg sid st acts ≤ potential (run cfg st acts) sid := by
  induction acts generalizing st with
  | nil => exact ⟨⟨[], [], by simp [run], by simp [run]⟩, fun _ => by simp [upTurns, run]⟩
  | cons a rest ih =>
    obtain ⟨hI1, ⟨X1, Y1, h1, h2⟩, hp1⟩ := fstep (cfg := cfg) hI a
    obtain ⟨⟨X2, Y2, h3, h4⟩, hp2⟩ := ih hI1
    simp only [upTurns, run, List.foldl] at h3 h4 hp2 ⊢
    refine ⟨⟨X1 ++ X2, Y1 ++ Y2, by rw [h3, h1, List.append_assoc], by rw [h4, h2, List.append_assoc]⟩, fun sid => ?_⟩
    have := hp1 sid; have := hp2 sid
    omega

theorem progOf_le (o : Option Sess) : progOf o ≤ 3 := by
  cases o with
  | none => simp [progOf]
  | some s => simp only [progOf]; cases s.pc <;> simp [prog]

theorem work_add_prog (s : Sess) : 4 * (pend s).length = work s + prog s.pc := by
  simp only [pend, work, List.length_append]
  cases s.pc <;> simp +arith [inflight, prog]

theorem pending_get_fates {st : State} (hI : FInv st) (acts : List Act) (sid : Nat) (s : Sess)
    (hs : st.sess sid = some s) (hfair : work s ≤ upTurns cfg sid st acts) :
    ∃ Z, fateOf (run cfg st acts) sid = fateOf st sid ++ pend s ++ Z := by
  have hI' : FInv (run cfg st acts) := finv_run acts hI
  have hcnt : (fateOf st sid).length + (pend s).length ≤ (fateOf (run cfg st acts) sid).length := by
    have hrise := (fstep_run (cfg := cfg) acts hI).2 sid
    have hprog := progOf_le ((run cfg st acts).sess sid)
    have hwork := work_add_prog s
    simp only [potential, hs, progOf] at hrise
    simp only [progOf] at hprog
    omega
  obtain ⟨X, Y, hX, hY⟩ := (fstep_run (cfg := cfg) acts hI).1
  have hE := enqOf_append hX sid
  have hF := fateOf_append hY sid
  have hfifo := hI.fifo_some hs
  have hfifo' := hI'.fifo sid
  rw [hF, List.length_append] at hcnt
  -- both logs only grew, and at both ends the fate log is a prefix of the enq log
  rw [hE, hF, hfifo, List.append_assoc, List.append_assoc] at hfifo'
  obtain ⟨Z, hZ⟩ := List.prefix_of_prefix_length_le ⟨_, List.append_cancel_left hfifo'⟩ (List.prefix_append _ _)
    (by omega)
  exact ⟨Z, by rw [hF, ← hZ, List.append_assoc]⟩

end SSV.Relay
