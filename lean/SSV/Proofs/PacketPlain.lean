import SSV.Proofs.Packet
/-
C05: Shadowsocks-none / SOCKS5 packers and unpackers. The server packer is the client packer at an IP
address; the packers are `plainPack` of the header they write, and shape, refusal, frame and the packet window are proved
once about `plainPack`. The unpackers of both sides are `plainUnpack` of their address decoder.
-/
namespace SSV.Packet
open SSV SSV.Gen.C05

def plainHead (hdr3 : Bool) (enc : Bytes) : Bytes := (if hdr3 then [0, 0, 0] else []) ++ enc

theorem plainHead_length (hdr3 : Bool) (enc : Bytes) :
    (plainHead hdr3 enc).length = (if hdr3 then 3 else 0) + enc.length := by
  cases hdr3 <;> simp [plainHead]; omega

theorem wf_not_domTooLong {a : Addr} (ha : a.wf) : a.domTooLong = false := by
  cases a with
  | zero => rfl
  | ip ap => rfl
  | dom n p => simp [Addr.domTooLong]; exact ha.2.1

/-- What the none / SOCKS5 packers do with the header `head` they write in front of the payload: the range check of
the header window, then the size check — and the header is written also when the packet is refused. -/
def plainPack (head : Bytes) (limit : Int) (b : Bytes) (ps pl : Nat) : Outcome Packed :=
  if ¬ (head.length ≤ ps ∧ ps ≤ b.length) then .panic else
  if (pl : Int) + head.length > limit then .err .tooBig else
  .ok ⟨splice b (ps - head.length) head, (ps : Int) - head.length, (pl : Int) + head.length, head ++ sub b ps pl⟩

/-- the packers' own form: start, length and size verdict computed by the translated offset functions -/
theorem plainPack_of_offsets (head : Bytes) (limit : Int) (b : Bytes) (ps pl : Nat) (start len : Int) (big : Bool)
    (hs : start = ps - head.length) (hl : len = pl + head.length) (hb : big = decide (len > limit)) :
    (if ¬ sliceOk b start (start + head.length) then Outcome.panic else if big then .err .tooBig else
      .ok ⟨splice b start.toNat head, start, len, head ++ sub b ps pl⟩) = plainPack head limit b ps pl := by
  subst hs hl hb
  unfold plainPack
  by_cases hr : head.length ≤ ps ∧ ps ≤ b.length
  · have e : ((ps : Int) - head.length).toNat = ps - head.length := by omega
    rw [if_neg (not_not_intro hr), if_neg (by simp only [Decidable.not_not, sliceOk]; omega), e]
    simp only [decide_eq_true_eq]
  · rw [if_pos hr, if_pos (by simp only [sliceOk]; omega)]

theorem plainClientPack_eq (hdr3 : Bool) (limit : Int) (b : Bytes) (a : Addr) (ps pl : Nat) (ha : a.wf) :
    plainClientPack hdr3 limit b a ps pl = plainPack (plainHead hdr3 (encodeAddr a)) limit b ps pl := by
  have hlen := encodeAddr_length a ha
  have hh := plainHead_length hdr3 (encodeAddr a)
  unfold plainClientPack
  rw [wf_not_domTooLong ha, if_neg Bool.false_ne_true]
  refine plainPack_of_offsets (plainHead hdr3 (encodeAddr a)) limit b ps pl _ _ _ ?_ ?_ ?_
  · cases hdr3 <;> simp only [noneCPacketStart, socks5CPacketStart, Bool.false_eq_true, if_true, if_false] at hh ⊢ <;> omega
  · cases hdr3 <;> simp only [noneCPacketLen, socks5CPacketLen, Bool.false_eq_true, if_true, if_false] at hh ⊢ <;> omega
  · cases hdr3 <;> rfl

/-- `WriteAddrFromAddrPort` / `LengthOfAddrFromAddrPort` are `WriteAddrFromConnAddr` / `LengthOfAddrFromConnAddr` at an IP address -/
theorem plainServerPack_ip (hdr3 : Bool) (b : Bytes) (src : AddrPort) (ps pl : Nat) (lim : Int) :
    plainServerPack hdr3 b src ps pl lim = plainClientPack hdr3 lim b (.ip src) ps pl := by
  unfold plainServerPack plainClientPack
  cases hdr3 <;> rfl

theorem plainPack_ok {head : Bytes} {limit : Int} {b : Bytes} {ps pl : Nat} {r : Packed}
    (h : plainPack head limit b ps pl = .ok r) :
    head.length ≤ ps ∧ ps ≤ b.length ∧ r.packetStart = (ps : Int) - head.length ∧
    r.packetLen = (pl : Int) + head.length ∧ r.packetLen ≤ limit ∧ r.buf = splice b (ps - head.length) head := by
  unfold plainPack at h
  simp only [ite_panic_eq_ok, ite_err_eq_ok, Decidable.not_not, Outcome.ok.injEq] at h
  obtain ⟨⟨h1, h2⟩, hb, rfl⟩ := h
  exact ⟨h1, h2, rfl, rfl, Int.not_lt.mp hb, rfl⟩

theorem plainPack_safe (head : Bytes) (limit : Int) (b : Bytes) (ps pl : Nat) (h1 : head.length ≤ ps) (h2 : ps ≤ b.length) :
    (plainPack head limit b ps pl).safe :=
  Outcome.safe_guard ⟨h1, h2⟩ (Outcome.safe_ite (Outcome.safe_err _) fun _ => Outcome.safe_ok _)

theorem plainPack_tooBig_iff (head : Bytes) (limit : Int) (b : Bytes) (ps pl : Nat) (h1 : head.length ≤ ps) (h2 : ps ≤ b.length) :
    plainPack head limit b ps pl = .err .tooBig ↔ (pl : Int) + head.length > limit := by
  unfold plainPack
  rw [if_neg (not_not_intro ⟨h1, h2⟩)]
  constructor
  · intro h
    by_cases hb : (pl : Int) + head.length > limit
    · exact hb
    · rw [if_neg hb] at h
      cases h
  · intro hb
    rw [if_pos hb]

theorem plainPack_refused (head : Bytes) (limit : Int) (b : Bytes) (ps pl : Nat) (e : Err)
    (h : plainPack head limit b ps pl = .err e) :
    e = .tooBig ∧ head.length ≤ ps ∧ ps ≤ b.length ∧
    (splice b (ps - head.length) head).length = b.length ∧
    (splice b (ps - head.length) head).take (ps - head.length) = b.take (ps - head.length) ∧
    (splice b (ps - head.length) head).drop ps = b.drop ps := by
  revert h
  fun_cases plainPack head limit b ps pl
  case case2 hr _ => -- too big
    intro h
    cases h
    obtain ⟨h1, h2⟩ := Decidable.not_not.mp hr
    have hfit : ps - head.length + head.length ≤ b.length := by omega
    exact ⟨rfl, h1, h2, splice_length _ _ _ hfit, splice_take _ _ _ hfit, splice_drop_ge _ _ _ _ hfit (by omega)⟩
  all_goals nofun

theorem plainPack_frame (head : Bytes) (limit : Int) (b : Bytes) (ps pl : Nat) (r : Packed)
    (h : plainPack head limit b ps pl = .ok r) :
    r.buf.length = b.length ∧ r.buf.take r.packetStart.toNat = b.take r.packetStart.toNat ∧
    r.buf.drop (r.packetStart + r.packetLen).toNat = b.drop (r.packetStart + r.packetLen).toNat := by
  obtain ⟨h1, h2, h3, h4, -, h6⟩ := plainPack_ok h
  exact packed_frame b (ps - head.length) (pl + head.length) head r (by omega) (by omega) h6 (by omega) (by omega)

theorem plainPack_window {head : Bytes} {limit : Int} {b : Bytes} {ps pl : Nat} {r : Packed} (hpay : ps + pl ≤ b.length)
    (h : plainPack head limit b ps pl = .ok r) :
    ∃ q, q + head.length = ps ∧ r.packetStart.toNat = q ∧ r.packetLen.toNat = head.length + pl ∧
      sub r.buf q (head.length + pl) = head ++ sub b ps pl ∧ q + head.length + pl ≤ r.buf.length ∧
      sub r.buf ps pl = sub b ps pl := by
  obtain ⟨h1, h2, h3, h4, -, h6⟩ := plainPack_ok h
  obtain ⟨q, rfl⟩ : ∃ q, ps = q + head.length := ⟨ps - head.length, by omega⟩
  rw [Nat.add_sub_cancel] at h6
  rw [h6]
  exact ⟨q, rfl, by omega, by omega, sub_splice_ext b q head pl (by omega),
    by rw [splice_length b q head (by omega)]; omega, sub_splice_after b q head _ pl (by omega) (Nat.le_refl _)⟩

/-- `plainServerUnpack` and, behind its source check, `plainClientUnpack`, with the address decoder as a parameter -/
def plainUnpack {α : Type} (dec : Bytes → Outcome (α × Nat)) (hdr3 : Bool) (b : Bytes) (q n : Nat) : Outcome (Unpacked α) :=
  if hdr3 ∧ socks5SUTooSmall n then .err .tooSmall else
  if ¬ sliceOk b q (q + n) then .panic else
  let pkt := sub b q n
  if hdr3 ∧ sub pkt 2 1 ≠ [0] then .err .frag else
  match dec (if hdr3 then pkt.drop 3 else pkt) with
  | .ok (a, m) =>
    .ok { buf := b, addr := a,
          payloadStart := if hdr3 then socks5SUPayloadStart q m else noneSUPayloadStart q m,
          payloadLen := if hdr3 then socks5SUPayloadLen n m else noneSUPayloadLen n m }
  | .err e => .err e
  | .panic => .panic
  | .noRoom => .noRoom

-- `rfl` alone does not see through the two definitions' own matchers
theorem plainServerUnpack_eq (hdr3 : Bool) (b : Bytes) (q n : Nat) :
    plainServerUnpack hdr3 b q n = plainUnpack decodeAddr hdr3 b q n := by
  unfold plainServerUnpack plainUnpack
  dsimp only
  rcases decodeAddr (if hdr3 = true then List.drop 3 (sub b q n) else sub b q n) with ⟨a, m⟩ | _ | _ | _ <;> rfl

theorem plainClientUnpack_eq (hdr3 : Bool) (server src : AddrPort) (b : Bytes) (q n : Nat) :
    plainClientUnpack hdr3 server src b q n =
      if ¬ mappedEqual src server then .err .source else plainUnpack decodeAddrPort hdr3 b q n := by
  unfold plainClientUnpack plainUnpack
  dsimp only
  rcases decodeAddrPort (if hdr3 = true then List.drop 3 (sub b q n) else sub b q n) with ⟨a, m⟩ | _ | _ | _ <;> rfl

theorem plainUnpack_head {α : Type} {dec : Bytes → Outcome (α × Nat)} (hdr3 : Bool) (bb : Bytes) (q pl : Nat) (enc : Bytes) (x : α)
    (payload : Bytes) (hdec : dec (enc ++ payload) = .ok (x, enc.length))
    (hwin : sub bb q ((plainHead hdr3 enc).length + pl) = plainHead hdr3 enc ++ payload)
    (hlen : q + (plainHead hdr3 enc).length + pl ≤ bb.length) :
    plainUnpack dec hdr3 bb q ((plainHead hdr3 enc).length + pl)
      = .ok ⟨bb, x, ((q + (plainHead hdr3 enc).length : Nat) : Int), (pl : Int)⟩ := by
  have hpl := plainHead_length hdr3 enc
  unfold plainUnpack
  cases hdr3
  · simp only [plainHead, Bool.false_eq_true, if_false, List.nil_append, false_and] at hwin hlen hpl ⊢
    rw [if_neg (by simp only [Decidable.not_not, sliceOk]; omega)]
    simp only [hwin, hdec, noneSUPayloadStart, noneSUPayloadLen]
    congr 2 <;> omega
  · simp only [plainHead, if_true, true_and, socks5SUTooSmall, List.length_append, List.length_cons, List.length_nil] at hwin hlen hpl ⊢
    rw [if_neg (by simp only [decide_eq_true_eq]; omega)]
    rw [if_neg (by simp only [Decidable.not_not, sliceOk]; omega)]
    simp only [hwin]
    have e3 : sub (([0, 0, 0] : Bytes) ++ enc ++ payload) 2 1 = [0] := by
      simp [sub]
    rw [if_neg (by rw [e3]; simp)]
    have e4 : List.drop 3 (([0, 0, 0] : Bytes) ++ enc ++ payload) = enc ++ payload := by simp
    simp only [e4, hdec, socks5SUPayloadStart, socks5SUPayloadLen]
    congr 2 <;> omega

theorem plain_roundtrip {α : Type} {dec : Bytes → Outcome (α × Nat)} (hdr3 : Bool) (enc : Bytes) (x : α)
    (hdec : ∀ payload, dec (enc ++ payload) = .ok (x, enc.length))
    {limit : Int} {b : Bytes} {ps pl : Nat} {r : Packed} (hpay : ps + pl ≤ b.length)
    (h : plainPack (plainHead hdr3 enc) limit b ps pl = .ok r) :
    plainUnpack dec hdr3 r.buf r.packetStart.toNat r.packetLen.toNat = .ok ⟨r.buf, x, ps, pl⟩ ∧
      sub r.buf ps pl = sub b ps pl := by
  obtain ⟨q, rfl, e1, e2, hw, hL, hp⟩ := plainPack_window hpay h
  rw [e1, e2]
  exact ⟨plainUnpack_head hdr3 r.buf q pl enc x _ (hdec _) hw hL, hp⟩

theorem plain_delivered {α : Type} {dec : Bytes → Outcome (α × Nat)} (hdr3 : Bool) (enc : Bytes) (x : α)
    (hdec : ∀ payload, dec (enc ++ payload) = .ok (x, enc.length))
    {limit : Int} {b : Bytes} {ps : Nat} {payload : Bytes} {r : Packed} (hfit : ps + payload.length ≤ b.length)
    (h : plainPack (plainHead hdr3 enc) limit (splice b ps payload) ps payload.length = .ok r) :
    ∃ u, plainUnpack dec hdr3 r.buf r.packetStart.toNat r.packetLen.toNat = .ok u ∧ u.buf.length = b.length ∧
      (u.addr, sub u.buf u.payloadStart.toNat u.payloadLen.toNat) = (x, payload) := by
  obtain ⟨hu, hp⟩ := plain_roundtrip hdr3 enc x hdec (by rw [splice_length _ _ _ hfit]; exact hfit) h
  exact RoundTrip.delivered hfit ⟨_, hu, rfl, rfl, rfl, hp, (plainPack_frame _ _ _ _ _ _ h).1, rfl, rfl⟩

theorem plainUnpack_buf {α : Type} {dec : Bytes → Outcome (α × Nat)} {hdr3 : Bool} {b : Bytes} {q n : Nat} {u : Unpacked α}
    (h : plainUnpack dec hdr3 b q n = .ok u) : u.buf = b := by
  revert h
  fun_cases plainUnpack dec hdr3 b q n
  case case4 => -- the address decodes
    intro h
    cases h
    rfl
  all_goals nofun

theorem plainUnpack_ok {α : Type} {dec : Bytes → Outcome (α × Nat)} {wf : α → Prop} {len : α → Int}
    (hdec : ∀ s a n, dec s = .ok (a, n) → wf a ∧ len a ≤ n ∧ n ≤ s.length)
    {hdr3 : Bool} {b : Bytes} {q n : Nat} {u : Unpacked α} (h : plainUnpack dec hdr3 b q n = .ok u) :
    wf u.addr ∧
    ∃ hdr : Nat, u.payloadStart = (q + hdr : Nat) ∧ u.payloadLen + hdr = n ∧ 0 ≤ u.payloadLen ∧
      (if hdr3 then 3 else 0) + len u.addr ≤ hdr := by
  unfold plainUnpack at h
  simp only [ite_err_eq_ok, ite_panic_eq_ok, Decidable.not_not] at h
  obtain ⟨h1, hs, h2, h⟩ := h
  simp only [sliceOk] at hs
  have hsl : (sub b q n).length = n := sub_length _ _ _ (by omega)
  split at h
  · next a m hd =>
    cases h
    obtain ⟨hw, hl, hm⟩ := hdec _ a m hd
    cases hdr3
    · simp only [Bool.false_eq_true, if_false, hsl, noneSUPayloadStart, noneSUPayloadLen] at hm ⊢
      exact ⟨hw, m, by omega, by omega, by omega, by omega⟩
    · simp only [if_true, List.length_drop, hsl, socks5SUPayloadStart, socks5SUPayloadLen] at hm ⊢
      simp only [true_and, socks5SUTooSmall, decide_eq_true_eq] at h1
      exact ⟨hw, m + 3, by omega, by omega, by omega, by omega⟩
  all_goals cases h

theorem plainUnpack_safe {α : Type} {dec : Bytes → Outcome (α × Nat)} (hdec : ∀ s, (dec s).safe) (hdr3 : Bool) (b : Bytes)
    (q n : Nat) (h : q + n ≤ b.length) : (plainUnpack dec hdr3 b q n).safe := by
  unfold plainUnpack
  refine Outcome.safe_ite (Outcome.safe_err _) fun _ => Outcome.safe_guard (by simp only [sliceOk]; omega)
    (Outcome.safe_ite (Outcome.safe_err _) fun _ => ?_)
  generalize hx : dec _ = x
  exact (hx ▸ hdec _).elim (fun _ => Outcome.safe_ok _) fun _ => Outcome.safe_err _

theorem mappedEqual_self (a : AddrPort) : mappedEqual a a = true := by simp [mappedEqual]

end SSV.Packet
