import SSV.Proofs.StreamRun
/-
C01, layer 2, server → client: the server's first write (`prepareInitWriteBufs` / `initWrite`) and
the client's `initRead` / `readFirstPayloadChunk`.
-/
namespace SSV.Stream
open SSV.Gen.C01

theorem parseRespHeader_respHeader (ts : Nat) (now : Int) (reqSalt : Bytes) (len : Nat)
    (hts : ClockOK ts now) (h0 : len ≠ 0) (hl : len < 65536) :
    parseRespHeader (respHeader ts reqSalt len) now reqSalt = .ok len := by
  have hh : respHeader ts reqSalt len = UInt8.ofNat HeaderTypeServerStream :: (be64 ts ++ (reqSalt ++ be16 len)) := by
    simp [respHeader]
  obtain ⟨e1, e2, e3⟩ := hdr_fields (UInt8.ofNat HeaderTypeServerStream) ts (reqSalt ++ be16 len)
  rw [parseRespHeader, hh, e1, if_neg (by decide), e2, unbeN_be64 ts (by have := hts.1; omega), hts.2, e3,
    ← List.drop_drop, e3]
  simp only [Bool.not_true, Bool.false_eq_true, ↓reduceIte, List.take_left, List.drop_left, ne_eq, not_true_eq_false,
    unbe16_be16_self hl, h0]

theorem firstCap_bounds (pl sl : Nat) (ch : RespChoice) (h : CapsOk pl sl ch = true) :
    4096 ≤ firstCap pl sl ch ∧ firstCap pl sl ch ≤ streamMaxPayloadSize := by
  have hs : streamMaxPayloadSize = 65535 := rfl
  have ht : tagSize = 16 := rfl
  -- whichever buffer is taken, it holds `start + 4096 + tagSize` bytes
  have key : ∀ start cap, start + 4096 + tagSize ≤ cap →
      4096 ≤ min (start + streamMaxPayloadSize) (cap - tagSize) - start ∧
      min (start + streamMaxPayloadSize) (cap - tagSize) - start ≤ streamMaxPayloadSize := by
    omega
  simp only [CapsOk, Bool.and_eq_true, Bool.or_eq_true, decide_eq_true_eq] at h
  simp only [firstCap]
  split
  · exact key _ _ ‹_›
  · exact key _ _ (h.2.resolve_left ‹_›)

/-- the wire image of a response: prefix, salt, sealed header announcing `p0`, sealed `p0`, then
ordinary chunks from nonce 2 -/
def respWire (C : Crypto) (s : SWriter) (ch : RespChoice) (p0 : Bytes) (cs : List Bytes) : Bytes :=
  s.respPrefix ++ ch.salt ++ C.enc (C.kdf s.psk ch.salt) 0 (respHeader ch.ts s.reqSalt p0.length) ++
    (C.enc (C.kdf s.psk ch.salt) 1 p0 ++ encodeChunks C (C.kdf s.psk ch.salt) 2 cs)

theorem SWriter.first_write (C : Crypto) (s : SWriter) (hs : s.w = none) (ch : RespChoice) (b : Bytes)
    (hb : b.length ≠ 0) (later : List Bytes) (cap : Nat) (hcap : firstCap s.respPrefix.length s.psk.length ch = cap) :
    ∃ w1, (s.write C ch b).2.w = some w1 ∧
      ((s.write C ch b).1 ++ (w1.emit C later).1).flatten =
        respWire C s ch (b.take cap) (writeChunks (b.drop cap) ++ later) := by
  have h1 := emit_spec C ⟨C.kdf s.psk ch.salt, 2⟩ (writeChunks (b.drop cap))
  have h2 := emit_spec C ⟨C.kdf s.psk ch.salt, 2 + 2 * (writeChunks (b.drop cap)).length⟩ later
  -- `cap` replaces `firstCap …` before anything is unfolded: the kernel, asked to compare terms that
  -- take `firstCap …` bytes, evaluates its `… + streamMaxPayloadSize` in unary
  rw [SWriter.write, if_neg hb, hs, hcap]
  simp only [initWrite] at h1 h2 ⊢
  refine ⟨_, by rw [h1.2.1], ?_⟩
  simp only [List.flatten_append, List.flatten_cons, respWire, h1.1, h2.1, encodeChunks_append, List.append_assoc]

/-- the client's first call on a genuine response `respWire … p0 cs` whose fixed-length part the
transport hands to the first read (one `Read`, or `io.ReadFull` when segmented headers are allowed) -/
theorem client_first_call {C : Crypto} (hC : AeadOK C) (s : SWriter) (ch : RespChoice) (p0 : Bytes) (cs : List Bytes)
    (c : CReader) (now : Int) (hts : ClockOK ch.ts now) (hsalt : ch.salt.length = s.psk.length)
    (hr : c.r = none) (hpsk : c.psk = s.psk) (hpre : c.respPrefix = s.respPrefix) (hrs : c.reqSalt = s.reqSalt)
    (hrsl : s.reqSalt.length = s.psk.length)
    (h0 : p0.length ≠ 0) (hl : p0.length ≤ streamMaxPayloadSize) (hv : ValidChunks cs)
    (hfr : firstRead c.allowSeg (c.respPrefix.length + c.psk.length + TCPRequestFixedLengthHeaderLength + c.psk.length + tagSize) c.segs =
        .ok ((respWire C s ch p0 cs).take (c.respPrefix.length + c.psk.length + TCPRequestFixedLengthHeaderLength + c.psk.length + tagSize))
            ((respWire C s ch p0 cs).drop (c.respPrefix.length + c.psk.length + TCPRequestFixedLengthHeaderLength + c.psk.length + tagSize))) :
    (∀ n, ∃ r', (c.read C now n).2.r = some r' ∧ Sync C r' cs ∧ (c.read C now n).1.err = none ∧
        p0 ++ cs.flatten = (c.read C now n).1.bytes ++ pending r' cs ∧ (0 < n → (c.read C now n).1.bytes ≠ [])) ∧
    ((c.writeTo C now).1.bytes = p0 ++ cs.flatten ∧ (c.writeTo C now).1.err = none) ∧
    (∀ started, (c.tunnel C now started).1.bytes = p0 ++ cs.flatten ∧ (c.tunnel C now started).1.err = none) := by
  have hs : streamMaxPayloadSize = 65535 := rfl
  have htag : tagSize = 16 := rfl
  have hlen : (s.respPrefix ++ ch.salt ++ C.enc (C.kdf s.psk ch.salt) 0 (respHeader ch.ts s.reqSalt p0.length)).length =
      s.respPrefix.length + s.psk.length + TCPRequestFixedLengthHeaderLength + s.psk.length + tagSize := by
    simp only [List.length_append, hC.enc_len, respHeader, List.length_cons, be64_length, be16_length, hsalt, hrsl]
    have : TCPRequestFixedLengthHeaderLength = 11 := rfl
    omega
  rw [hpre, hpsk, respWire, ← hlen, List.take_left, List.drop_left, hlen] at hfr
  -- `initRead` accepts it, `readFirstPayloadChunk` opens `p0`
  have hparse := parseRespHeader_respHeader ch.ts now s.reqSalt p0.length hts h0 (by omega)
  have hi : initRead C c now = (.ok p0.length, { c with segs := [], r := some ⟨C.kdf s.psk ch.salt, 1, [],
      C.enc (C.kdf s.psk ch.salt) 1 p0 ++ encodeChunks C (C.kdf s.psk ch.salt) 2 cs⟩ }) := by
    rw [initRead]
    simp only [hpre, hpsk, hrs, hfr]
    simp only [← hsalt, List.append_assoc, List.take_left, List.drop_left, List.drop_length_add_append, ne_eq,
      not_true_eq_false, ↓reduceIte, hC.dec_enc, hparse]
  have hp : firstPayload C { c with segs := [], r := some ⟨C.kdf s.psk ch.salt, 1, [],
      C.enc (C.kdf s.psk ch.salt) 1 p0 ++ encodeChunks C (C.kdf s.psk ch.salt) 2 cs⟩ } p0.length =
      (.ok p0, { c with segs := [], r := some ⟨C.kdf s.psk ch.salt, 2, [], encodeChunks C (C.kdf s.psk ch.salt) 2 cs⟩ }) := by
    simp only [firstPayload_eq, openPart_enc hC rfl]
  have hsync : Sync C ⟨C.kdf s.psk ch.salt, 2, [], encodeChunks C (C.kdf s.psk ch.salt) 2 cs⟩ cs := ⟨rfl, hv⟩
  have hp0 : p0 ≠ [] := fun h => h0 (by rw [h]; rfl)
  have hcopy : (Reader.writeTo C ⟨C.kdf s.psk ch.salt, 2, [], encodeChunks C (C.kdf s.psk ch.salt) 2 cs⟩).1 = .copied cs none := by
    rw [hsync.writeTo_eq hC]; rfl
  refine ⟨fun n => ?_, ?_, fun started => ?_⟩
  · simp only [CReader.read, hr, hi, hp]
    by_cases hbuf : p0.length + tagSize ≤ n
    · simp only [hbuf, ↓reduceIte]
      exact ⟨_, rfl, hsync, rfl, rfl, fun _ => hp0⟩
    · simp only [hbuf, ↓reduceIte, Option.map_some]
      refine ⟨_, rfl, ⟨rfl, hv⟩, rfl, by simp [ROut.bytes, pending, ← List.append_assoc], fun hn => ?_⟩
      simp only [ROut.bytes, ne_eq, List.take_eq_nil_iff, not_or]
      exact ⟨by omega, hp0⟩
  · simp only [CReader.writeTo, hr, CReader.firstCopy, hi, hp, hcopy, ROut.prepend, ROut.bytes, ROut.err,
      List.flatten_cons, and_self]
  · simp only [CReader.tunnel, hr, CReader.firstCopy, hi, hp, Reader.tunnel_eq, hcopy, ROut.prepend, ROut.bytes,
      ROut.err, List.flatten_cons, and_self]

/-- the bytes the server's first `ReadFrom` takes from its source: the first bytes the source hands
over travel with the response header — an error returned together with them is dropped when they fit
the first-chunk buffer, and the conn's `ReadFrom` reads on —, then everything up to and including the
first result that carries an error -/
def Src.takenServerFirst (cap : Nat) : Src → Bytes
  | [] => []
  | it :: rest =>
    if it.data.length = 0 then
      match it.err with
      | none => Src.takenServerFirst cap rest
      | some _ => []
    else if it.data.length ≤ cap then it.data ++ Src.taken rest
    else Src.taken (it :: rest)

theorem Src.read_takenServerFirst {cap : Nat} (hc0 : 0 < cap) (s : Src) : ∀ {d e s'}, s.read cap = ((d, e), s') →
    Src.takenServerFirst cap s =
      if d.length = 0 then (match e with | none => Src.takenServerFirst cap s' | some _ => []) else d ++ s'.taken := by
  fun_cases Src.read cap s <;> intro d e s' h
  case case1 => cases h; rfl
  case case2 it rest hle =>
    cases h
    simp only [Src.takenServerFirst, hle, ↓reduceIte]
  case case3 it rest hle =>
    cases h
    have hr := Src.read_spec hc0 (it :: rest) (show _ = ((it.data.take cap, none), _) by rw [Src.read, if_neg hle])
    rw [Src.takenServerFirst, if_neg (by omega), if_neg hle, if_neg (by rw [List.length_take]; omega)]
    exact hr.2.2.1

/-- the first bytes the source hands over are found also when they come together with `io.EOF` or another
error: this depends on the regenerated fact `serverFirstReadHandlesDataFirst`. -/
theorem firstData_spec (cap : Nat) (hc0 : 0 < cap) (fuel : Nat) (s : Src) (hsz : s.size < fuel) :
      match firstData cap fuel s with
      | (none, _, _) => Src.takenServerFirst cap s = []
      | (some p0, _, rest) => p0.length ≠ 0 ∧ p0.length ≤ cap ∧ Src.takenServerFirst cap s = p0 ++ Src.taken rest := by
  fun_induction firstData cap fuel s
  -- out of fuel
  case case1 => omega
  -- the read brought bytes
  case case2 hrd h =>
    simp only [serverFirstRead_dataFirst, Bool.true_or, Bool.and_true, decide_eq_true_eq] at h
    exact ⟨by omega, (Src.read_spec hc0 _ hrd).1, by rw [Src.read_takenServerFirst hc0 _ hrd, if_neg (by omega)]⟩
  -- no bytes, no error: read on
  case case5 hrd h ih =>
    simp only [serverFirstRead_dataFirst, Bool.true_or, Bool.and_true, decide_eq_true_eq] at h
    rw [Src.read_takenServerFirst hc0 _ hrd, if_pos (by omega)]
    exact ih (by have := (Src.read_spec hc0 _ hrd).2.1; omega)
  -- 3, 4: no bytes and `io.EOF` or another error
  all_goals
    rename_i hrd h
    simp only [serverFirstRead_dataFirst, Bool.true_or, Bool.and_true, decide_eq_true_eq] at h
    exact (Src.read_takenServerFirst hc0 _ hrd).trans (if_pos (by omega))

theorem SWriter.first_readFrom (C : Crypto) (s : SWriter) (hs : s.w = none) (ch : RespChoice) (src : Src)
    (hcap : 0 < firstCap s.respPrefix.length s.psk.length ch) :
    (Src.takenServerFirst (firstCap s.respPrefix.length s.psk.length ch) src = [] ∧ (s.readFrom C ch src).1 = []) ∨
    ∃ p0 cs, p0.length ≠ 0 ∧ p0.length ≤ firstCap s.respPrefix.length s.psk.length ch ∧ ValidChunks cs ∧
      p0 ++ cs.flatten = Src.takenServerFirst (firstCap s.respPrefix.length s.psk.length ch) src ∧
      (s.readFrom C ch src).1.flatten = respWire C s ch p0 cs := by
  have h := firstData_spec _ hcap (src.size + 1) src (by omega)
  cases hfd : firstData (firstCap s.respPrefix.length s.psk.length ch) (src.size + 1) src with
  | mk o re =>
    obtain ⟨e, rest⟩ := re
    rw [hfd] at h
    cases o with
    | none =>
      left
      exact ⟨h, by simp [SWriter.readFrom, hs, hfd]⟩
    | some p0 =>
      right
      obtain ⟨h1, h2, h3⟩ := h
      have hsp := connReadFrom_spec rest
      have hem := emit_spec C ⟨C.kdf s.psk ch.salt, 2⟩ (connReadFrom rest).1
      refine ⟨p0, (connReadFrom rest).1, h1, h2, hsp.1, by rw [hsp.2.1, h3], ?_⟩
      simp only [SWriter.readFrom, hs, hfd, initWrite, List.flatten_cons, respWire]
      rw [hem.1]
      simp only [List.append_assoc]

end SSV.Stream
