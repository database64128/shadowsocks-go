import SSV.Model.TcpRelay
/-
For C13. The two copy loops are two independent copies of ONE machine: `loopView c s` is the state of the loop that reads
from `s`; a step labelled with side `s` is a step of that machine on that view and leaves the other view alone
(`view_step`), so what a run preserves (`LoopInv`, `failed_run`) is proved for the one machine (`run_view`).
-/
namespace SSV.TcpRelay
open SSV.Gen.C13

/-- a loop on its own: (to read, returned, with an error, count, written, CloseWrite issued) -/
abbrev View := Bytes × Bool × Bool × Nat × Bytes × Bool

def enabledLoop : View → Label → Bool
  | (todo, done, _), .chunk _ k => !done && Nat.blt 0 k && Nat.ble k todo.length
  | (todo, done, _), .eof _ => !done && todo.isEmpty
  | (_, done, _), .fail _ => !done

/-- the label's side is ignored -/
def stepLoop (v : View) (l : Label) : View :=
  if enabledLoop v l then
    match v, l with
    | (todo, done, failed, n, out, cw), .chunk _ k => (todo.drop k, done, failed, n + k, out ++ todo.take k, cw)
    | (todo, _, _, n, out, _), .eof _ => (todo, true, false, n, out, true)
    | (todo, _, _, n, out, _), .fail _ => (todo, true, true, n, out, true)
  else v

theorem loopOf_left : loopOf .left = { counter := .nl2r, dst := .right, src := .left, closeOn := .right } := by decide
theorem loopOf_right : loopOf .right = { counter := .nr2l, dst := .left, src := .right, closeOn := .left } := by decide

theorem loopView_eq (c : CopySt) (s : Side) :
    loopView c s = (c.todo s, c.done s, c.failed s, c.n s, c.rx (otherSide s), c.cw (otherSide s)) := by cases s <;> rfl

theorem enabled_view (c : CopySt) (l : Label) : enabled c l = enabledLoop (loopView c l.side) l := by
  cases l with | _ s => cases s <;> rfl

theorem view_step (c : CopySt) (l : Label) (s : Side) :
    loopView (stepCopy c l) s = if l.side = s then stepLoop (loopView c s) l else loopView c s := by
  unfold stepCopy stepLoop
  by_cases hs : l.side = s
  · subst hs
    rw [if_pos rfl, ← enabled_view]
    split
    · cases l with | _ s => cases s <;> rfl
    · rfl
  · rw [if_neg hs]
    split
    · cases l with | _ t => cases t <;> cases s <;> first | exact absurd rfl hs | rfl
    · rfl

theorem run_view {P : View → Prop} {s : Side} (sched : List Label) {c : CopySt}
    (hP : ∀ v, ∀ l ∈ sched, l.side = s → P v → P (stepLoop v l)) (h : P (loopView c s)) :
    P (loopView (runSched c sched) s) := by
  induction sched generalizing c with
  | nil => exact h
  | cons l ls ih =>
    refine ih (fun v x hx => hP v x (List.mem_cons_of_mem _ hx)) ?_
    rw [view_step]; split
    · exact hP _ l (List.mem_cons_self ..) ‹_› h
    · exact h

def LoopInv (src : Bytes) : View → Prop
  | (todo, done, failed, n, out, cw) =>
    out ++ todo = src ∧ n = out.length ∧ cw = done ∧ (done = true → failed = false → todo = [])

section
variable {src todo out : Bytes} {done failed closed : Bool} {n : Nat} (h : LoopInv src (todo, done, failed, n, out, closed))
include h
theorem LoopInv.split : out ++ todo = src := h.1
theorem LoopInv.count : n = out.length := h.2.1
theorem LoopInv.closed_eq_done : closed = done := h.2.2.1
theorem LoopInv.delivered (hd : done = true) (hf : failed = false) : out = src := by
  rw [← h.1, h.2.2.2 hd hf, List.append_nil]
end

theorem loopInv_step {src : Bytes} {v : View} (l : Label) (h : LoopInv src v) : LoopInv src (stepLoop v l) := by
  unfold stepLoop
  split
  next hen =>
    obtain ⟨todo, done, failed, n, out, cw⟩ := v
    obtain ⟨h1, h2, h3, h4⟩ := h
    cases l with
    | chunk _ k =>
      simp only [enabledLoop, Bool.and_eq_true, Bool.not_eq_true', Nat.blt_eq, Nat.ble_eq] at hen
      refine ⟨?_, ?_, h3, ?_⟩
      · rw [List.append_assoc, List.take_append_drop]; exact h1
      · rw [h2, List.length_append, List.length_take, Nat.min_eq_left hen.2]
      · intro hd; rw [hen.1.1] at hd; cases hd
    | eof _ =>
      simp only [enabledLoop, Bool.and_eq_true, List.isEmpty_iff] at hen
      exact ⟨h1, h2, rfl, fun _ _ => hen.2⟩
    | fail _ => exact ⟨h1, h2, rfl, fun _ hf => nomatch hf⟩
  · exact h

theorem loopInv_run {src : Bytes} {c : CopySt} {s : Side} (sched : List Label) (h : LoopInv src (loopView c s)) :
    LoopInv src (loopView (runSched c sched) s) :=
  run_view sched (fun _ l _ _ => loopInv_step l) h

theorem loopInv_init (a b : Bytes) (s : Side) :
    LoopInv (match s with | .left => a | .right => b) (loopView (CopySt.init a b) s) := by
  cases s <;> simp [LoopInv, loopView, CopySt.init]

theorem copyRun_inv (e : Env) (k : Nat) (s : Side) :
    LoopInv (match s with | .left => e.clientStream.drop k | .right => e.targetStream) (loopView (copyRun e k) s) :=
  loopInv_run e.sched (loopInv_init _ _ s)

theorem failed_run (sched : List Label) (c : CopySt) (s : Side) (hl : ∀ l ∈ sched, l ≠ .fail s) (h : c.failed s = false) :
    (runSched c sched).failed s = false := by
  have := run_view (P := fun v => v.2.2.1 = false) (s := s) sched (c := c) (fun v l hm hs hv => by
    unfold stepLoop; split
    · cases l with
      | chunk _ k => exact hv
      | eof _ => rfl
      | fail t => exact absurd (by rw [← hs]; rfl) (hl _ hm)
    · exact hv) (by rw [loopView_eq]; exact h)
  rwa [loopView_eq] at this

theorem eof_becomes_closeWrite (c : CopySt) (s : Side) (h : enabled c (.eof s) = true) :
    (stepCopy c (.eof s)).cw (otherSide s) = true ∧ (stepCopy c (.eof s)).done s = true ∧ (stepCopy c (.eof s)).failed s = false := by
  unfold stepCopy
  rw [if_pos h]
  cases s <;> exact ⟨rfl, rfl, rfl⟩

theorem step_frame (c : CopySt) (l : Label) : loopView (stepCopy c l) (otherSide l.side) = loopView c (otherSide l.side) := by
  rw [view_step, if_neg (by cases l.side <;> decide)]

theorem opposite_keeps_running (c : CopySt) (l l' : Label) (hs : l'.side = otherSide l.side) :
    enabled (stepCopy c l) l' = enabled c l' := by
  rw [enabled_view, enabled_view, hs, step_frame]

theorem counter_eq (c : CopySt) : c.counter .nl2r = c.nL ∧ c.counter .nr2l = c.nR := by
  simp [CopySt.counter, loopOf_left, loopOf_right]

theorem runSteps_run (e : Env) (p : Step) (ps : List Step) (s : St) (h : s.returned = false) :
    runSteps e (p :: ps) s = runSteps e ps (execStep e s p) := by simp [runSteps, h]
theorem runSteps_ret (e : Env) (ps : List Step) (s : St) (h : s.returned = true) : runSteps e ps s = s := by
  cases ps <;> simp [runSteps, h]

theorem runW_run (e : Env) (w : WStep) (ws : List WStep) (s : St) (h : s.returned = false) :
    runW e (w :: ws) s = runW e ws (execW e s w) := by simp [runW, h]
theorem runW_ret (e : Env) (ws : List WStep) (s : St) (h : s.returned = true) : runW e ws s = s := by
  cases ws <;> simp [runW, h]
theorem runSteps_ite (e : Env) (ps : List Step) (c : Prop) [Decidable c] (a b : St) :
    runSteps e ps (if c then a else b) = if c then runSteps e ps a else runSteps e ps b := apply_ite ..
theorem runW_ite (e : Env) (ws : List WStep) (c : Prop) [Decidable c] (a b : St) :
    runW e ws (if c then a else b) = if c then runW e ws a else runW e ws b := apply_ite ..
theorem finish_ite (c : Prop) [Decidable c] (a b : St) :
    finish (if c then a else b) = if c then finish a else finish b := apply_ite ..

/-- everything from DialStream on, given whether the pending connection was already proceeded -/
def fromDial (e : Env) (r : Req) (proceeded : Bool) (payload : Bytes) (consumed : Nat) : List Action :=
  .dial r.addr payload ::
  match e.dialErr with
  | some c => if proceeded then [.closeClient] else [.abort c, .closeClient]
  | none =>
    (if proceeded then [] else [.proceed]) ++
    if !proceeded && !e.proceedOk then [.closeRemote, .closeClient]
    else
      let c := copyRun e consumed
      [.copied c.rxR c.rxL] ++ (if c.cwR then [.closeWrite .right] else []) ++ (if c.cwL then [.closeWrite .left] else []) ++
      if c.doneL && c.doneR then [.collect r.user c.nR (c.nL + payload.length), .closeRemote, .closeClient]
      else [.blocked]

theorem waitBytes_le_stream (e : Env) : waitBytes e ≤ e.clientStream.length := by
  simp only [waitBytes]; omega
theorem waitBytes_le_buf (e : Env) : waitBytes e ≤ e.bufSize := by
  simp only [waitBytes]; omega

theorem waitCond_eval (e : Env) (r : Req) : waitCond.all (evalAtom e r.payload (listenerWait e)) = waits e r := by
  simp [waitCond, waits, listenerWait, listenerWaitCond, evalAtom, Bool.and_assoc]

theorem waits_iff (e : Env) (r : Req) :
    waits e r = true ↔ (r.payload = [] ∧ e.clientNative = true ∧ e.serverNative = false ∧ e.waitDisabled = false) := by
  simp [waits, List.isEmpty_iff, and_assoc]

/-- the wait path in closed form -/
def afterWait (e : Env) (r : Req) : List Action :=
  .proceed ::
    if !e.proceedOk then [.closeClient] else
    .setDeadline :: if !e.setDeadlineOk then [.closeClient] else
    .waitRead e.bufSize :: if e.waitKind = .error then [.closeClient] else
    .clearDeadline :: if !e.clearDeadlineOk then [.closeClient] else
    fromDial e r true (e.clientStream.take (waitBytes e)) (waitBytes e)

/-- what the wait read leaves in the buffer, cut to the bytes read -/
theorem take_wait_buffer (e : Env) :
    ((e.clientStream.take (waitBytes e)) ++ (List.replicate e.bufSize (0 : UInt8)).drop (waitBytes e)).take (waitBytes e) =
      e.clientStream.take (waitBytes e) := by
  rw [List.take_append_of_le_length (by rw [List.length_take]; exact Nat.le_min.2 ⟨Nat.le_refl _, waitBytes_le_stream e⟩)]
  simp [List.take_take]

theorem ite_cons {α} (a : α) (c : Prop) [Decidable c] (x y : List α) :
    (if c then a :: x else a :: y) = a :: if c then x else y := (apply_ite ..).symm
theorem ite_append {α} (l : List α) (c : Prop) [Decidable c] (x y : List α) :
    (if c then l ++ x else l ++ y) = l ++ if c then x else y := (apply_ite ..).symm
theorem ite_not_bool {α} (b : Bool) (x y : α) : (if (!b) = true then x else y) = if b = true then y else x := by
  cases b <;> rfl
theorem readContinues_contains (k : ReadKind) : readContinues.contains k = !(k == .error) := by cases k <;> rfl

theorem handleConn_cases (e : Env) (r : Req) (hr : e.req = some r) (hroute : e.routeErr = none) :
    handleConn e = .handshake :: .routed ::
      (if waits e r then afterWait e r else fromDial e r false r.payload 0) := by
  cases hd : e.dialErr <;>
  -- runs the program from `{ req := r }`: a step applies to a record (`_run`, `_ret`), a conditional state is split first
  simp only [handleConn, hr, handleConnProgram, waitProgram, runSteps_run, runSteps_ret, runW_run, runW_ret, runSteps.eq_1,
    runW.eq_1, runSteps_ite, runW_ite, finish_ite, execStep, execW, hroute, hd, St.emit, St.ret, abortIf, dialAbort,
    setCounter, getCounter, payloadAddedTo, collectDown, collectUp, counter_eq, waitCond_eval,
    take_wait_buffer, List.drop_zero, Nat.zero_add, List.length_replicate, Bool.false_eq_true, if_false, if_true,
    List.nil_append, List.cons_append] <;>
  -- appends the deferred closes, then takes the common prefix out of every `if`: the shape of `afterWait`, `fromDial`
  simp only [finish, afterWait, fromDial, hd, ite_cons, ite_append, ite_not_bool, readContinues_contains, beq_iff_eq,
    ite_self, Bool.false_eq_true, if_false, if_true, List.append_assoc, List.cons_append, List.nil_append, Bool.not_false,
    Bool.not_true, Bool.true_and, Bool.false_and]

/-- the payload handed to DialStream: the request's own, or what the wait read returned -/
def dialPayload (e : Env) (r : Req) : Bytes := if waits e r then e.clientStream.take (waitBytes e) else r.payload

/-- how much of the client's stream the handler itself has read when the copy starts -/
def consumedByWait (e : Env) (r : Req) : Nat := if waits e r then waitBytes e else 0

theorem dialPayload_append (e : Env) (r : Req) :
    dialPayload e r ++ e.clientStream.drop (consumedByWait e r) = r.payload ++ e.clientStream := by
  unfold dialPayload consumedByWait
  cases hw : waits e r
  · rfl
  · simp [((waits_iff e r).1 hw).1]

def guarded (l : List (Bool × Action)) : List Action := (l.filter (·.1)).map (·.2)

theorem mem_guarded {a : Action} {l : List (Bool × Action)} : a ∈ guarded l ↔ (true, a) ∈ l := by
  simp [guarded]

theorem guarded_nil : guarded [] = [] := rfl
theorem guarded_cons (g : Bool) (a : Action) (l : List (Bool × Action)) :
    guarded ((g, a) :: l) = (if g then [a] else []) ++ guarded l := by
  cases g <;> rfl

theorem guarded_append (l₁ l₂ : List (Bool × Action)) : guarded (l₁ ++ l₂) = guarded l₁ ++ guarded l₂ := by
  simp [guarded]

/-- every call of the wait block succeeds (a read that times out or meets the end of the stream counts as success) -/
def waitOk (e : Env) : Bool := e.proceedOk && e.setDeadlineOk && !(e.waitKind == .error) && e.clearDeadlineOk

/-- DialStream is reached -/
def dials (e : Env) (r : Req) : Bool := !waits e r || waitOk e

/-- BidirectionalCopy is reached -/
def copies (e : Env) (r : Req) : Bool := dials e r && e.dialErr.isNone && (waits e r || e.proceedOk)

def waitTable (e : Env) (waiting : Bool) : List (Bool × Action) :=
  [(waiting, .proceed), (waiting && e.proceedOk, .setDeadline), (waiting && e.proceedOk && e.setDeadlineOk, .waitRead e.bufSize),
   (waiting && e.proceedOk && e.setDeadlineOk && !(e.waitKind == .error), .clearDeadline)]

/-- From DialStream on; `reached`: DialStream is reached, `proceeded`: the wait block has proceeded the connection.
(The default in the Abort entry is never seen: its guard asks for a dial error.) -/
def dialTable (e : Env) (r : Req) (reached proceeded : Bool) (p : Bytes) (k : Nat) : List (Bool × Action) :=
  let c := reached && e.dialErr.isNone && (proceeded || e.proceedOk)
  let cs := copyRun e k
  let fin := cs.doneL && cs.doneR
  [(reached, .dial r.addr p), (reached && e.dialErr.isSome && !proceeded, .abort (e.dialErr.getD 0)),
   (reached && e.dialErr.isNone && !proceeded, .proceed),
   (c, .copied cs.rxR cs.rxL), (c && cs.cwR, .closeWrite .right), (c && cs.cwL, .closeWrite .left),
   (c && !fin, .blocked), (c && fin, .collect r.user cs.nR (cs.nL + p.length)),
   (reached && e.dialErr.isNone && !(c && !fin), .closeRemote), (!(c && !fin), .closeClient)]

theorem guarded_dialTable (e : Env) (r : Req) (reached proceeded : Bool) (p : Bytes) (k : Nat) :
    guarded (dialTable e r reached proceeded p k) = if reached then fromDial e r proceeded p k else [.closeClient] := by
  simp only [dialTable, fromDial]
  generalize ((copyRun e k).doneL && (copyRun e k).doneR) = fin
  cases reached
  · simp [guarded_cons, guarded_nil]
  · cases hd : e.dialErr
    · cases proceeded <;> cases e.proceedOk <;> cases fin <;> simp [guarded_cons, guarded_nil]
    · cases proceeded <;> simp [guarded_cons, guarded_nil]

theorem afterWait_table (e : Env) (r : Req) :
    afterWait e r =
      guarded (waitTable e true ++ dialTable e r (waitOk e) true (e.clientStream.take (waitBytes e)) (waitBytes e)) := by
  rw [guarded_append, guarded_dialTable]
  unfold afterWait waitTable waitOk
  cases e.proceedOk
  · simp [guarded_cons, guarded_nil]
  cases e.setDeadlineOk
  · simp [guarded_cons, guarded_nil]
  by_cases hk : e.waitKind = .error
  · simp [guarded_cons, guarded_nil, hk]
  cases e.clearDeadlineOk <;> simp [guarded_cons, guarded_nil, hk]

theorem closeWrite_mem_afterWait (e : Env) (r : Req) (s : Side) (h : Action.closeWrite s ∈ afterWait e r) :
    e.proceedOk = true ∧ e.setDeadlineOk = true ∧ e.waitKind ≠ .error ∧ e.clearDeadlineOk = true ∧
      Action.closeWrite s ∈ fromDial e r true (e.clientStream.take (waitBytes e)) (waitBytes e) := by
  rw [afterWait_table, guarded_append, guarded_dialTable] at h
  cases hok : waitOk e
  · simp [hok, mem_guarded, waitTable] at h
  · simp only [waitOk, Bool.and_eq_true, Bool.not_eq_true', beq_eq_false_iff_ne] at hok
    exact ⟨hok.1.1.1, hok.1.1.2, hok.1.2, hok.2, by simpa [hok, mem_guarded, waitTable, waitOk] using h⟩

def routedTable (e : Env) (r : Req) : List (Bool × Action) :=
  (true, .handshake) :: (true, .routed) :: waitTable e (waits e r) ++
    dialTable e r (dials e r) (waits e r) (dialPayload e r) (consumedByWait e r)

/-- the handler of a routed request is a straight line with early returns and two deferred closes -/
theorem handleConn_table (e : Env) (r : Req) (hr : e.req = some r) (hroute : e.routeErr = none) :
    handleConn e = guarded (routedTable e r) := by
  rw [handleConn_cases e r hr hroute, afterWait_table, routedTable, dials, dialPayload, consumedByWait]
  cases waits e r <;> simp [guarded_cons, guarded_dialTable, waitTable]

variable {e : Env} {r : Req}

theorem consumedByWait_eq_zero (hw : waits e r = false) : consumedByWait e r = 0 := by simp [consumedByWait, hw]

theorem dials_of_not_waits (hw : waits e r = false) : dials e r = true := by simp [dials, hw]

theorem dials_eq_false : dials e r = false ↔ waits e r = true ∧
    (e.proceedOk = false ∨ e.setDeadlineOk = false ∨ e.waitKind = .error ∨ e.clearDeadlineOk = false) := by
  simp only [dials, waitOk, Bool.or_eq_false_iff, Bool.and_eq_false_iff, Bool.not_eq_false', beq_iff_eq, or_assoc]

theorem copies_iff : copies e r = true ↔
    dials e r = true ∧ e.dialErr = none ∧ (waits e r = true ∨ e.proceedOk = true) := by
  simp [copies, and_assoc]

theorem dials_of_copies (h : copies e r = true) : dials e r = true := (copies_iff.1 h).1
theorem copies_of_not_dials (h : dials e r = false) : copies e r = false := by simp [copies, h]

def occurs (e : Env) (r : Req) : Action → Prop
  | .handshake | .routed => True
  | .proceed => waits e r = true ∨ e.dialErr = none
  | .abort c => waits e r = false ∧ e.dialErr = some c
  | .setDeadline => waits e r = true ∧ e.proceedOk = true
  | .waitRead n => waits e r = true ∧ e.proceedOk = true ∧ e.setDeadlineOk = true ∧ n = e.bufSize
  | .clearDeadline => waits e r = true ∧ e.proceedOk = true ∧ e.setDeadlineOk = true ∧ e.waitKind ≠ .error
  | .dial a p => dials e r = true ∧ a = r.addr ∧ p = dialPayload e r
  | .copied x y => copies e r = true ∧ x = (copyRun e (consumedByWait e r)).rxR ∧ y = (copyRun e (consumedByWait e r)).rxL
  | .closeWrite s => copies e r = true ∧ (copyRun e (consumedByWait e r)).cw s = true
  | .blocked => copies e r = true ∧
      ¬ ((copyRun e (consumedByWait e r)).doneL = true ∧ (copyRun e (consumedByWait e r)).doneR = true)
  | .collect u d up => copies e r = true ∧
      ((copyRun e (consumedByWait e r)).doneL = true ∧ (copyRun e (consumedByWait e r)).doneR = true) ∧ u = r.user ∧
      d = (copyRun e (consumedByWait e r)).nR ∧ up = (copyRun e (consumedByWait e r)).nL + (dialPayload e r).length
  | .closeRemote => dials e r = true ∧ e.dialErr = none ∧ (copies e r = true →
      (copyRun e (consumedByWait e r)).doneL = true ∧ (copyRun e (consumedByWait e r)).doneR = true)
  | .closeClient => copies e r = true →
      (copyRun e (consumedByWait e r)).doneL = true ∧ (copyRun e (consumedByWait e r)).doneR = true

theorem targetReceived_append (l₁ l₂ : List Action) :
    targetReceived (l₁ ++ l₂) = targetReceived l₁ ++ targetReceived l₂ := by
  fun_induction targetReceived l₁ <;> simp [targetReceived, *]

theorem clientReceived_append (l₁ l₂ : List Action) :
    clientReceived (l₁ ++ l₂) = clientReceived l₁ ++ clientReceived l₂ := by
  fun_induction clientReceived l₁ <;> simp [clientReceived, *]

theorem dialCount_append (l₁ l₂ : List Action) : dialCount (l₁ ++ l₂) = dialCount l₁ + dialCount l₂ := by
  fun_induction dialCount l₁ <;> simp [dialCount, *, Nat.add_right_comm]

variable (hr : e.req = some r) (hroute : e.routeErr = none)
include hr hroute

theorem mem_routed_iff {a : Action} : a ∈ handleConn e ↔ occurs e r a := by
  rw [handleConn_table e r hr hroute, mem_guarded, routedTable, waitTable, dialTable, ← copies]
  simp only [List.mem_cons, List.cons_append, List.nil_append, Prod.mk.injEq, List.not_mem_nil, or_false]
  cases a <;> simp only [reduceCtorEq, and_false, false_or, or_false, occurs]
  case proceed => cases hw : waits e r <;> simp [dials_of_not_waits, hw]
  case abort c => cases hw : waits e r <;> cases e.dialErr <;> simp [dials_of_not_waits, hw, @eq_comm _ c]
  case closeWrite s => cases s <;> simp [CopySt.cw]
  case blocked | closeRemote | closeClient => simp [and_assoc, Decidable.imp_iff_not_or]
  all_goals simp [and_assoc]

/-- one pass over the table for the three observables (three passes take half as long again to check) -/
theorem received_routed :
    targetReceived (handleConn e) = (if dials e r then dialPayload e r else []) ++
      (if copies e r then (copyRun e (consumedByWait e r)).rxR else []) ∧
    clientReceived (handleConn e) = (if copies e r then (copyRun e (consumedByWait e r)).rxL else []) ∧
    dialCount (handleConn e) = if dials e r then 1 else 0 := by
  rw [handleConn_table e r hr hroute, routedTable, waitTable, dialTable, copies]
  simp [guarded_cons, guarded_nil, targetReceived_append, clientReceived_append, dialCount_append,
      apply_ite targetReceived, apply_ite clientReceived, apply_ite dialCount, targetReceived, clientReceived, dialCount]

theorem targetReceived_routed :
    targetReceived (handleConn e) = (if dials e r then dialPayload e r else []) ++
      (if copies e r then (copyRun e (consumedByWait e r)).rxR else []) := (received_routed hr hroute).1
theorem clientReceived_routed :
    clientReceived (handleConn e) = (if copies e r then (copyRun e (consumedByWait e r)).rxL else []) :=
  (received_routed hr hroute).2.1
theorem dialCount_routed :
    dialCount (handleConn e) = if dials e r then 1 else 0 := (received_routed hr hroute).2.2

theorem getLast_routed (h : copies e r = false) :
    (handleConn e).getLast? = some .closeClient := by
  rw [handleConn_table e r hr hroute, routedTable, dialTable, ← copies, h]
  simp [guarded_append, guarded_cons, guarded_nil, List.getLast?_cons, List.getLast?_append]

end SSV.TcpRelay
