import SSV.Base.Util
/-
Outcome monad for models of Go code that handles peer-controlled bytes (property C06).

`Outcome ε α = ok a | err e | panic`: Go slice / index / fixed-size-array conversions are modelled by
operations that CAN return `panic` (exactly when the Go runtime would raise a run-time panic), so that
"the code's own guards are sufficient" is a real statement: `f input ≠ .panic`.
`Ensures x P` (no panic, and `P` of an `ok` result) is what is proved of a model, by its rules along the term: `Ensures.bind`,
`.ite`, `.guard`, and `<primitive>_ensures` for each Go operation.
-/
namespace SSV

inductive Outcome (ε α : Type) where
  | ok (a : α)
  | err (e : ε)
  | panic
deriving Repr, DecidableEq

namespace Outcome
variable {ε α β : Type}

@[inline] def bind (x : Outcome ε α) (f : α → Outcome ε β) : Outcome ε β :=
  match x with
  | ok a => f a
  | err e => err e
  | panic => panic

instance : Monad (Outcome ε) where
  pure := ok
  bind := bind

def NoPanic (x : Outcome ε α) : Prop := x ≠ panic

@[simp] theorem pure_eq (a : α) : (pure a : Outcome ε α) = ok a := rfl
@[simp] theorem ok_bind (a : α) (f : α → Outcome ε β) : (ok a >>= f) = f a := rfl
theorem bind_ok {x : Outcome ε α} {a : α} (h : x = ok a) (f : α → Outcome ε β) : (x >>= f) = f a := by
  subst h; rfl
@[simp] theorem err_bind (e : ε) (f : α → Outcome ε β) : ((err e : Outcome ε α) >>= f) = err e := rfl
@[simp] theorem panic_bind (f : α → Outcome ε β) : ((panic : Outcome ε α) >>= f) = panic := rfl
@[simp] theorem noPanic_ok (a : α) : NoPanic (ok a : Outcome ε α) := by simp [NoPanic]
@[simp] theorem noPanic_err (e : ε) : NoPanic (err e : Outcome ε α) := by simp [NoPanic]
@[simp] theorem not_noPanic_panic : ¬ NoPanic (panic : Outcome ε α) := by simp [NoPanic]

theorem noPanic_ite {c : Prop} [Decidable c] {x y : Outcome ε α} (hx : NoPanic x) (hy : NoPanic y) :
    NoPanic (if c then x else y) := by
  split <;> assumption

theorem noPanic_bind {x : Outcome ε α} {f : α → Outcome ε β}
    (hx : NoPanic x) (hf : ∀ a, NoPanic (f a)) : NoPanic (x >>= f) := by
  cases x with
  | ok a => exact hf a
  | err e => simp
  | panic => exact absurd rfl hx

theorem bind_eq_ok {x : Outcome ε α} {f : α → Outcome ε β} {b : β}
    (h : (x >>= f) = ok b) : ∃ a, x = ok a ∧ f a = ok b := by
  cases x with
  | ok a => exact ⟨a, rfl, h⟩
  | err e => simp at h
  | panic => simp at h

/-- `x` does not panic, and a value it returns satisfies `P`: what one pass over a parser establishes about it,
so that "never panics" and "what comes out on success" are read off the same proof. -/
inductive Ensures : Outcome ε α → (α → Prop) → Prop
  | ok {a : α} {P : α → Prop} : P a → Ensures (Outcome.ok a) P
  | err {e : ε} {P : α → Prop} : Ensures (Outcome.err e) P

@[simp] theorem ensures_ok {a : α} {P : α → Prop} : Ensures (ok a : Outcome ε α) P ↔ P a :=
  ⟨fun h => by cases h; assumption, .ok⟩

theorem Ensures.noPanic {x : Outcome ε α} {P : α → Prop} (h : Ensures x P) : NoPanic x := by
  cases h <;> simp

/-- `Ensures.noPanic` with the postcondition fixed, as the first step of a proof of `f input ≠ .panic` by the rules below
(`refine` could not choose `P` otherwise) -/
theorem Ensures.ne_panic {x : Outcome ε α} (h : Ensures x fun _ => True) : x ≠ panic := h.noPanic

theorem Ensures.of_ok {x : Outcome ε α} {P : α → Prop} {a : α} (h : Ensures x P) (hx : x = Outcome.ok a) : P a := by
  subst hx; exact ensures_ok.1 h

theorem NoPanic.ensures {x : Outcome ε α} (h : NoPanic x) : Ensures x fun _ => True := by
  cases x with
  | ok a => exact .ok trivial
  | err e => exact .err
  | panic => exact absurd rfl h

theorem Ensures.mono {x : Outcome ε α} {P Q : α → Prop} (h : Ensures x P) (hPQ : ∀ a, P a → Q a) : Ensures x Q := by
  cases h with
  | ok h => exact .ok (hPQ _ h)
  | err => exact .err

theorem Ensures.bind {x : Outcome ε α} {f : α → Outcome ε β} {Q : α → Prop} {P : β → Prop}
    (hx : Ensures x Q) (hf : ∀ a, Q a → Ensures (f a) P) : Ensures (x >>= f) P := by
  cases hx with
  | ok h => exact hf _ h
  | err => exact .err

theorem Ensures.noPanic_bind {x : Outcome ε α} {f : α → Outcome ε β} {Q : α → Prop}
    (hx : Ensures x Q) (hf : ∀ a, Q a → NoPanic (f a)) : NoPanic (x >>= f) :=
  (hx.bind fun a ha => (hf a ha).ensures).noPanic

theorem Ensures.ite {c : Prop} [Decidable c] {x y : Outcome ε α} {P : α → Prop}
    (hx : c → Ensures x P) (hy : ¬ c → Ensures y P) : Ensures (if c then x else y) P := by
  by_cases h : c
  · rw [if_pos h]; exact hx h
  · rw [if_neg h]; exact hy h

theorem Ensures.guard {c : Prop} [Decidable c] {e : ε} {y : Outcome ε α} {P : α → Prop}
    (hy : ¬ c → Ensures y P) : Ensures (if c then Outcome.err e else y) P :=
  .ite (fun _ => .err) hy

/-- a `panic(...)` of the code's own behind a test that fails -/
theorem Ensures.ite_panic {c : Prop} [Decidable c] {y : Outcome ε α} {P : α → Prop}
    (hc : ¬ c) (hy : Ensures y P) : Ensures (if c then panic else y) P :=
  if_neg hc ▸ hy

def isOk : Outcome ε α → Bool
  | ok _ => true
  | _ => false

end Outcome

/-! ### Go slice operations on `Bytes` (length = `len`, capacity is tracked separately where it matters) -/

namespace Go
variable {ε : Type}
open Outcome

/-- `b[i]` -/
def idx (b : Bytes) (i : Nat) : Outcome ε UInt8 :=
  if h : i < b.length then .ok (b[i]) else .panic

/-- `b[i:j]` (with `j ≤ len(b)`; re-slicing beyond `len` up to `cap` is modelled explicitly where the code does it) -/
def slice (b : Bytes) (i j : Nat) : Outcome ε Bytes :=
  if i ≤ j ∧ j ≤ b.length then .ok ((b.take j).drop i) else .panic

/-- `b[i:]` -/
def sliceFrom (b : Bytes) (i : Nat) : Outcome ε Bytes :=
  if i ≤ b.length then .ok (b.drop i) else .panic

/-- `b[:j]` -/
def sliceTo (b : Bytes) (j : Nat) : Outcome ε Bytes :=
  if j ≤ b.length then .ok (b.take j) else .panic

/-- `*(*[n]byte)(b)` / `[n]byte(b)`: conversion of a slice to an array (pointer): panics if `len(b) < n`. -/
def arr (n : Nat) (b : Bytes) : Outcome ε Bytes :=
  if n ≤ b.length then .ok (b.take n) else .panic

def be16val (b : Bytes) : Nat := (b.getD 0 0).toNat * 256 + (b.getD 1 0).toNat

def beVal (b : Bytes) : Nat := b.foldl (fun acc x => acc * 256 + x.toNat) 0

/-- `binary.BigEndian.Uint16(b)`: `_ = b[1]` bounds-check hint, panics if `len(b) < 2`. -/
def be16 (b : Bytes) : Outcome ε Nat :=
  if 2 ≤ b.length then .ok (be16val b) else .panic

/-- `binary.BigEndian.Uint64(b)`: panics if `len(b) < 8`. -/
def be64 (b : Bytes) : Outcome ε Nat :=
  if 8 ≤ b.length then .ok (beVal (b.take 8)) else .panic

/-- `copy(dst[at:], src)` for `at ≤ len(dst)`: copies `min` bytes, never panics by itself; the slicing `dst[at:]` can. -/
def copyAt (dst : Bytes) (at_ : Nat) (src : Bytes) : Outcome ε Bytes :=
  if at_ ≤ dst.length then
    let n := min src.length (dst.length - at_)
    .ok (dst.take at_ ++ src.take n ++ dst.drop (at_ + n))
  else .panic

/-- `b[i] = v` -/
def setIdx (b : Bytes) (i : Nat) (v : UInt8) : Outcome ε Bytes :=
  if i < b.length then .ok (b.set i v) else .panic

theorem be16val_lt (b : Bytes) : be16val b < 65536 := by
  unfold be16val
  have h0 := (b.getD 0 0).toNat_lt
  have h1 := (b.getD 1 0).toNat_lt
  omega

@[simp] theorem idx_of_lt {b : Bytes} {i : Nat} (h : i < b.length) : (idx b i : Outcome ε UInt8) = .ok (b[i]) := by
  simp [idx, h]
@[simp] theorem slice_of_le {b : Bytes} {i j : Nat} (h : i ≤ j ∧ j ≤ b.length) :
    (slice b i j : Outcome ε Bytes) = .ok ((b.take j).drop i) := by simp [slice, h]
@[simp] theorem sliceFrom_of_le {b : Bytes} {i : Nat} (h : i ≤ b.length) :
    (sliceFrom b i : Outcome ε Bytes) = .ok (b.drop i) := by simp [sliceFrom, h]
@[simp] theorem sliceTo_of_le {b : Bytes} {j : Nat} (h : j ≤ b.length) :
    (sliceTo b j : Outcome ε Bytes) = .ok (b.take j) := by simp [sliceTo, h]
@[simp] theorem arr_of_le {n : Nat} {b : Bytes} (h : n ≤ b.length) :
    (arr n b : Outcome ε Bytes) = .ok (b.take n) := by simp [arr, h]
@[simp] theorem be16_of_le {b : Bytes} (h : 2 ≤ b.length) : (be16 b : Outcome ε Nat) = .ok (be16val b) := by
  simp [be16, h]
@[simp] theorem be64_of_le {b : Bytes} (h : 8 ≤ b.length) : (be64 b : Outcome ε Nat) = .ok (beVal (b.take 8)) := by
  simp [be64, h]

@[simp] theorem setIdx_of_lt {b : Bytes} {i : Nat} {v : UInt8} (h : i < b.length) :
    (setIdx b i v : Outcome ε Bytes) = .ok (b.set i v) := by simp [setIdx, h]

/-! One rule per primitive, in bind position: under its bound the operation does not panic, and the rest of the code runs
on a FRESH name of which only the length is known (a byte: `< 256`, a `uint16`: `< 65536`). Whether a later operation
panics never depends on content, so along a parser every bound is linear arithmetic over these facts. -/

section ensures
variable {β : Type} {P : β → Prop} {b : Bytes} {i j n : Nat} {v : UInt8}

/-- the last operation of a function, or a callee on a sub-slice -/
theorem arr_spec (h : n ≤ b.length) : Ensures (arr n b : Outcome ε Bytes) fun w => w.length = n :=
  arr_of_le (ε := ε) h ▸ .ok (List.length_take_of_le h)

theorem be16_spec (h : 2 ≤ b.length) : Ensures (be16 b : Outcome ε Nat) fun n => n < 65536 :=
  be16_of_le (ε := ε) h ▸ .ok (be16val_lt b)

theorem be64_spec (h : 8 ≤ b.length) : Ensures (be64 b : Outcome ε Nat) fun _ => True :=
  be64_of_le (ε := ε) h ▸ .ok trivial

theorem idx_ensures {f : UInt8 → Outcome ε β} (h : i < b.length) (hf : ∀ u : UInt8, u.toNat < 256 → Ensures (f u) P) :
    Ensures (idx b i >>= f) P := by
  rw [bind_ok (idx_of_lt h)]; exact hf _ (UInt8.toNat_lt _)

theorem slice_ensures {f : Bytes → Outcome ε β} (h : i ≤ j ∧ j ≤ b.length)
    (hf : ∀ w : Bytes, w.length = j - i → Ensures (f w) P) : Ensures (slice b i j >>= f) P := by
  rw [bind_ok (slice_of_le h)]; exact hf _ (by rw [List.length_drop, List.length_take_of_le h.2])

theorem sliceFrom_ensures {f : Bytes → Outcome ε β} (h : i ≤ b.length)
    (hf : ∀ w : Bytes, w.length = b.length - i → Ensures (f w) P) : Ensures (sliceFrom b i >>= f) P := by
  rw [bind_ok (sliceFrom_of_le h)]; exact hf _ List.length_drop

theorem sliceTo_ensures {f : Bytes → Outcome ε β} (h : j ≤ b.length)
    (hf : ∀ w : Bytes, w.length = j → Ensures (f w) P) : Ensures (sliceTo b j >>= f) P := by
  rw [bind_ok (sliceTo_of_le h)]; exact hf _ (List.length_take_of_le h)

theorem arr_ensures {f : Bytes → Outcome ε β} (h : n ≤ b.length)
    (hf : ∀ w : Bytes, w.length = n → Ensures (f w) P) : Ensures (arr n b >>= f) P :=
  (arr_spec h).bind hf

theorem be16_ensures {f : Nat → Outcome ε β} (h : 2 ≤ b.length) (hf : ∀ n, n < 65536 → Ensures (f n) P) :
    Ensures (be16 b >>= f) P :=
  (be16_spec h).bind hf

theorem be64_ensures {f : Nat → Outcome ε β} (h : 8 ≤ b.length) (hf : ∀ n, Ensures (f n) P) :
    Ensures (be64 b >>= f) P :=
  (be64_spec h).bind fun n _ => hf n

theorem setIdx_ensures {f : Bytes → Outcome ε β} (h : i < b.length)
    (hf : ∀ w : Bytes, w.length = b.length → Ensures (f w) P) : Ensures (setIdx b i v >>= f) P := by
  rw [bind_ok (setIdx_of_lt h)]; exact hf _ List.length_set

/-- A callee on `b[i:]` resp. `b[i:j]`, then the rest of the code: `g` is a sub-parser, or one of the conversions below. -/
theorem sliceFrom_bind_ensures {γ : Type} {g : Bytes → Outcome ε γ} {f : γ → Outcome ε β} {Q : γ → Prop} (h : i ≤ b.length)
    (hg : ∀ w : Bytes, w.length = b.length - i → Ensures (g w) Q) (hf : ∀ c, Q c → Ensures (f c) P) :
    Ensures (sliceFrom b i >>= g >>= f) P :=
  (sliceFrom_ensures h hg).bind hf

theorem slice_bind_ensures {γ : Type} {g : Bytes → Outcome ε γ} {f : γ → Outcome ε β} {Q : γ → Prop} (h : i ≤ j ∧ j ≤ b.length)
    (hg : ∀ w : Bytes, w.length = j - i → Ensures (g w) Q) (hf : ∀ c, Q c → Ensures (f c) P) :
    Ensures (slice b i j >>= g >>= f) P :=
  (slice_ensures h hg).bind hf

/-- `binary.BigEndian.Uint16(b[i:])`: a field at offset `i`; likewise `[n]byte(b[i:])` and `Uint64(b[i:])` -/
theorem sliceFrom_be16_ensures {f : Nat → Outcome ε β} (h : i + 2 ≤ b.length) (hf : ∀ n, n < 65536 → Ensures (f n) P) :
    Ensures (sliceFrom b i >>= be16 >>= f) P :=
  sliceFrom_bind_ensures (by omega) (fun _ _ => be16_spec (by omega)) hf

theorem sliceFrom_arr_ensures {f : Bytes → Outcome ε β} (h : i + n ≤ b.length)
    (hf : ∀ w : Bytes, w.length = n → Ensures (f w) P) : Ensures (sliceFrom b i >>= arr n >>= f) P :=
  sliceFrom_bind_ensures (by omega) (fun _ _ => arr_spec (by omega)) hf

theorem sliceFrom_be64_ensures {f : Nat → Outcome ε β} (h : i + 8 ≤ b.length) (hf : ∀ n, Ensures (f n) P) :
    Ensures (sliceFrom b i >>= be64 >>= f) P :=
  sliceFrom_bind_ensures (by omega) (fun _ _ => be64_spec (by omega)) fun n _ => hf n

end ensures

theorem slice_bind_arr (b : Bytes) (i n : Nat) :
    (slice b i (i + n) >>= arr n : Outcome ε Bytes) = (sliceFrom b i >>= arr n) := by
  unfold slice sliceFrom arr
  by_cases h : i + n ≤ b.length
  · have h1 : i ≤ b.length := by omega
    have h2 : n ≤ b.length - i := by omega
    simp [h, h1, h2, List.drop_take, List.take_take]
  · by_cases h1 : i ≤ b.length
    · have h2 : ¬ n ≤ b.length - i := by omega
      simp [h, h1, h2]
    · simp [h, h1]

end Go
end SSV
