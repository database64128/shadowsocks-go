import SSV.Proofs.CredFile
/-
C08 — Users are identified by key; the accepted key set tracks credential changes.

The model is `SSV.Model.Cred` (state, step semantics, schedules); the four API
operations are the step programs `SSV.Gen.C08.{addProg,updateProg,deleteProg,loadProg}` regenerated from
cred/manager.go on every run: every theorem below is re-checked against what the source says now.
`H` is the PSK hash; nothing assumes it injective (a colliding key is refused as "duplicate uPSK" by the
code and is then simply not in the set; a colliding client key fails the AEAD open, see `handshake`).
`Inv H st` (SSV/Proofs/Cred.lean) says: maps made, no fault, the lookup map is exactly the index of the
cache by key hash, every live map equals the lookup map. It holds after `RegisterServer` (`register_establishes`).
-/
namespace SSV.C08
open SSV.Cred SSV.Gen.C08

variable (H : Key → Hash)

/-- what the statement calls "the same set": for every live store and every client key `k`, a session under
`k` is accepted exactly when some listed user has `k`, it is attributed to exactly that user, and no two
listed users share a key. (`find st.cache n = some k` is "the API lists user `n` with key `k`".) -/
structure ViewsAgree (st : St) : Prop where
  accepted_iff_listed : ∀ m, (st.tcp = some m ∨ st.udp = some m) → ∀ k n,
    handshake H m k = some n ↔ find st.cache n = some k
  one_owner : ∀ n n' k, find st.cache n = some k → find st.cache n' = some k → n = n'
  no_fault : st.fault = false

theorem views_of_inv (st : St) (hi : Inv H st) : ViewsAgree H st :=
  ⟨fun _ hm k n => handshake_iff H hi hm k n, owner_unique H hi, hi.noFault⟩

/-- `RegisterServer` (fresh manager + first `LoadFromFile`) either fails or establishes the invariant,
whatever the store file holds (zero bytes, garbage, duplicate keys, wrong sizes, any users). -/
theorem register_establishes (pskLen : Nat) (hasTcp hasUdp : Bool) (file : Doc) (st : St)
    (h : call H (fresh pskLen hasTcp hasUdp file) .reload = (st, .ok)) :
    Inv H st ∧ Synced st ∧ ViewsAgree H st :=
  let ⟨a, b⟩ := first_load H (fresh pskLen hasTcp hasUdp file) rfl rfl rfl st h
  ⟨a, b, views_of_inv H st a⟩

/-- a handshake under key `k` is accepted iff `k` is the key of a listed user. -/
theorem accept_iff_member (st : St) (hi : Inv H st) (m : ULM) (hm : st.tcp = some m ∨ st.udp = some m) (k : Key) :
    (handshake H m k).isSome = true ↔ ∃ n, find st.cache n = some k := by
  rw [Option.isSome_iff_exists]
  exact exists_congr fun n => handshake_iff H hi hm k n

/-- the username of an accepted session is the owner of the key, and the owner is unique. -/
theorem attributed_to_owner (st : St) (hi : Inv H st) (m : ULM) (hm : st.tcp = some m ∨ st.udp = some m)
    (k : Key) (n : Name) (h : handshake H m k = some n) :
    find st.cache n = some k ∧ ∀ n', find st.cache n' = some k → n' = n :=
  ⟨(handshake_iff H hi hm k n).1 h, fun n' h' => owner_unique H hi n' n k h' ((handshake_iff H hi hm k n).1 h)⟩

/-- attribution on EVERY return path of the TCP handshake: whatever identity hash `h` a connection presents and
whatever key `k` its header is sealed under, with or without a fallback address —
a request is attributed to the listed owner of `k` (and `h` is that key's hash), and a connection that did not
authenticate (forged identity, garbage, unknown user) is attributed to nobody even when it is forwarded to the
fallback address. Depends on the regenerated `fallbackFreshRequest`. -/
theorem attribution_on_every_path (st : St) (hi : Inv H st) (m : ULM) (hm : st.tcp = some m ∨ st.udp = some m)
    (fb : Bool) (h : Hash) (k : Key) :
    (∀ n, handleStream H fb m h k = .request n → find st.cache n = some k ∧ H k = h) ∧
    (∀ u, handleStream H fb m h k = .fallback u → u = "") ∧
    (∀ n, find st.cache n = some k → handleStream H fb m (H k) k = .request n) := by
  refine ⟨fun n hr => ?_, fun u hr => ?_, fun n hn => ?_⟩
  · obtain ⟨hf, hh⟩ := (handleStream_request H fb m h k n).1 hr
    rw [live_eq H hi hm] at hf
    exact ⟨(hi.sound _ _ _ hf).1, hh⟩
  · exact handleStream_fallback H hr
  · exact (handleStream_request H fb m (H k) k n).2 ⟨by rw [live_eq H hi hm, hi.complete n k hn], rfl⟩

/-- after every finite history of add / update / delete / reload calls, external edits of
the store file and debounce ticks, the in-memory views agree; the content the manager last synchronised
with the file represents the cache unless a save is pending. -/
theorem views_agree_seq (st0 : St) (hi : Inv H st0) (hs : Synced st0) (evs : List Ev) :
    ViewsAgree H (runHist H st0 evs) ∧ Inv H (runHist H st0 evs) ∧ Synced (runHist H st0 evs) :=
  ⟨views_of_inv H _ (runHist_inv H evs st0 hi), runHist_inv H evs st0 hi, runHist_synced H evs st0 hi hs⟩

/-- the file clause of `views_agree_seq`: once the debounced save has had its time, nothing is pending, the
synchronised content decodes to exactly the listed set, and if a change was pending it is what the file now
holds (the file differs from it only by somebody else's edit that has not been reloaded). -/
theorem file_tracks_cache_seq (st0 : St) (hi : Inv H st0) (hs : Synced st0) (evs : List Ev) :
    let st := runHist H st0 evs
    let st' := runHist H st0 (evs ++ [.tick])
    st'.pending = false ∧ Represents st'.cachedContent st'.cache ∧ st'.cache = st.cache ∧
      (st.pending = true → st'.file = st'.cachedContent ∧ st'.file = render st.cache) := by
  intro st st'
  have hst' : st' = tick st := by simp [st', st, runHist, List.foldl_append, applyEv]
  obtain ⟨a, b, c⟩ := tick_synced st (runHist_inv H evs st0 hi).nodup (runHist_synced H evs st0 hi hs)
  rw [hst']
  refine ⟨b, a.rep b, c, fun hp => ?_⟩
  rw [tick_pending st hp]
  exact ⟨rfl, rfl⟩

/-- in every interleaving of any number of concurrent API calls (each running the
regenerated program, atomic between `lock` and `unlock`, separately schedulable elsewhere) with the saver's
dequeue / save actions, at every moment — in particular at quiescence — the in-memory views agree, no
step touched the manager's maps outside the lock and nothing panicked. By invariant over the interleaving
semantics, for all schedules. -/
theorem views_agree_conc (st0 : St) (hi : Inv H st0) (ops : List Op) (acts : List Act) :
    ViewsAgree H ((Sys.start st0 ops).run H acts).st ∧ Inv H ((Sys.start st0 ops).run H acts).st :=
  let h := run_inv H acts _ (start_inv H st0 ops hi)
  ⟨views_of_inv H _ h.inv, h.inv⟩

/-- file clause of `views_agree_conc`, about `cachedContent`: in every interleaving — external edits of the store
file included — at quiescence (every call returned, nothing pending, saver idle) the content the manager last
read or wrote decodes to exactly the listed set: no acknowledged change can be left without a save. -/
theorem synced_content_tracks_cache_conc (st0 : St) (hi : Inv H st0) (hs : Synced st0) (ops : List Op) (acts : List Act) :
    let s := (Sys.start st0 ops).run H acts
    s.quiescent → Represents s.st.cachedContent s.st.cache := by
  intro s hq
  have hf := run_file H acts _ (start_inv H st0 ops hi) (start_file st0 ops hs)
  refine hf ?_ hq.2.1 hq.2.2
  intro t ht
  simp [owes, hq.1 t ht]

/-- the bytes on disk: from ANY reachable moment (after any interleaving, external edits included) at which the
file is what the manager last read or wrote — e.g. right after a reload took an edit, or after a save — it stays
so through every continuation in which nobody else edits the file, whatever calls, reloads and saves interleave. -/
theorem file_eq_synced_stable (st0 : St) (hi : Inv H st0) (ops : List Op) (pre post : List Act)
    (hne : ∀ a ∈ post, a.isEdit = false)
    (he : ((Sys.start st0 ops).run H pre).st.file = ((Sys.start st0 ops).run H pre).st.cachedContent) :
    let s := ((Sys.start st0 ops).run H pre).run H post
    s.st.file = s.st.cachedContent :=
  run_fileEq H post _ (run_inv H pre _ (start_inv H st0 ops hi)) hne he

/-- About the FILE, with foreign edits: once a reload has taken the edited file (the file is then what the manager
last read), and nobody edits it afterwards, the file decodes to the listed set at quiescence. -/
theorem file_tracks_cache_conc_after_edit (st0 : St) (hi : Inv H st0) (hs : Synced st0) (ops : List Op)
    (pre post : List Act) (hne : ∀ a ∈ post, a.isEdit = false)
    (he : ((Sys.start st0 ops).run H pre).st.file = ((Sys.start st0 ops).run H pre).st.cachedContent) :
    let s := (Sys.start st0 ops).run H (pre ++ post)
    s.quiescent → Represents s.st.file s.st.cache := by
  intro s hq
  have h1 := synced_content_tracks_cache_conc H st0 hi hs ops (pre ++ post) hq
  have h2 : s.st.file = s.st.cachedContent := by
    have := file_eq_synced_stable H st0 hi ops pre post hne he
    simpa [s, Sys.run, List.foldl_append] using this
  rw [h2]; exact h1

/-- The case `pre := []`: start with file and manager in sync (as after registration or a
save); in every interleaving of any number of calls, reloads and saver actions without foreign edits, at
quiescence the store file decodes to exactly the listed set (and the accepted set is the listed set by
`views_agree_conc`): the three views of the statement are the same. Depends on the regenerated `loadProg`
reading the file inside the critical section (F23); `stale_reload_witness` shows it false for `loadProgReadOutside`. -/
theorem file_tracks_cache_conc (st0 : St) (hi : Inv H st0) (hs : Synced st0) (hfile : st0.file = st0.cachedContent)
    (ops : List Op) (acts : List Act) (hne : ∀ a ∈ acts, a.isEdit = false) :
    let s := (Sys.start st0 ops).run H acts
    s.quiescent → Represents s.st.file s.st.cache :=
  file_tracks_cache_conc_after_edit H st0 hi hs ops [] acts hne hfile

/-- whenever the saver runs with a save pending, what it writes represents the cache of that moment -/
theorem saved_file_represents_cache_conc (st0 : St) (hi : Inv H st0) (ops : List Op) (acts : List Act) :
    let s := (Sys.start st0 ops).run H acts
    s.st.pending = true →
      (tick s.st).file = render s.st.cache ∧ Represents (tick s.st).file (tick s.st).cache := by
  intro s hp
  have h := (run_inv H acts _ (start_inv H st0 ops hi)).inv
  rw [tick_pending s.st hp]
  exact ⟨rfl, render_represents s.st.cache h.nodup⟩

/-- progress of the calls: running any unfinished thread strictly shortens its program, so a schedule that keeps
running unfinished threads brings every call to its return. (That the saver then empties the queue is not stated.) -/
theorem segment_progress (st : St) (t : Thread) (h : t.prog ≠ []) :
    (seg H st t).2.prog.length < t.prog.length :=
  seg_length H st t h

/-- deleting a listed user is acknowledged and from then on a session under its
key is rejected by every live store. -/
theorem deleted_key_rejected (st : St) (hi : Inv H st) (n : Name) (k : Key) (h : find st.cache n = some k) :
    (call H st (.delete n)).2 = .ok ∧
    ∀ m, ((call H st (.delete n)).1.tcp = some m ∨ (call H st (.delete n)).1.udp = some m) →
      handshake H m k = none := by
  have hi' := call_inv H st (.delete n) hi
  rw [call_delete H st n k h] at hi' ⊢
  refine ⟨rfl, fun m hm => handshake_none H hi' hm k fun n' (hf : find (erase st.cache n) n' = some k) => ?_⟩
  -- a user still listed with `k` would be a second owner of it
  rw [find_erase] at hf
  split at hf
  · cases hf
  · next e => exact e (owner_unique H hi n n' k h hf)

/-- rotation: an acknowledged update makes the old key stop working and the new key work, for that user. -/
theorem rotated_key_rejected (st : St) (hi : Inv H st) (n : Name) (k0 k : Key) (h : find st.cache n = some k0)
    (hk : k0 ≠ k) (hl : k.len = st.pskLen) (hfree : find st.lookup (H k) = none) :
    (call H st (.update n k)).2 = .ok ∧
    ∀ m, ((call H st (.update n k)).1.tcp = some m ∨ (call H st (.update n k)).1.udp = some m) →
      handshake H m k0 = none ∧ handshake H m k = some n := by
  have hi' := call_inv H st (.update n k) hi
  rw [call_update H st n k k0 h hk hl hfree] at hi' ⊢
  refine ⟨rfl, fun m hm => ⟨handshake_none H hi' hm k0 fun n' (hf : find (insert st.cache n k) n' = some k0) => ?_,
    (handshake_iff H hi' hm k n).2 ((find_insert _ _ _ _).trans (if_pos rfl))⟩⟩
  rw [find_insert] at hf
  split at hf
  · exact hk (Option.some.inj hf).symm
  · next e => exact e (owner_unique H hi n n' k0 h hf)

/-- duplicate keys are refused: adding a user with a key some other user owns changes nothing. -/
theorem duplicate_key_refused (st : St) (hi : Inv H st) (n n' : Name) (k : Key)
    (hn : n ≠ "") (hl : k.len = st.pskLen) (hnew : find st.cache n = none) (hown : find st.cache n' = some k) :
    call H st (.add n k) = (st, .errDup) :=
  call_add_dup H st n k hn hl hnew _ (hi.complete n' k hown)

/-- steps that read the store file, read or write the manager's maps / `cachedContent`, or publish to the live stores -/
def guarded : Step → Bool
  | .readFile | .guardAbsent | .loadUc | .guardHashFree | .cacheSet | .cacheUpdKey | .cacheDel | .lookupSet | .lookupDelOld
  | .lookupDelUc | .liveSet | .liveDelOldSet | .liveDelUc | .guardChanged | .guardChangedLoaded | .setCachedContent
  | .setLookup | .setCache | .liveReplaceTcpLocal | .liveReplaceUdpLocal | .liveReplaceTcpShared | .liveReplaceUdpShared => true
  | _ => false

/-- every guarded step of `p` lies between a `lock` and the next `unlock` -/
def insideLock : Bool → List Step → Bool
  | _, [] => true
  | held, s :: rest =>
    if s = .lock then insideLock true rest
    else if s = .unlock then insideLock false rest
    else (held || !guarded s) && insideLock held rest

/-- the two regenerated facts of DESIGN §5 C08, read off the programs: the live stores are updated, and the
reloaded map is cloned, before the manager lock is released, and the store file is read after it is taken (F23)
— in all four operations. -/
theorem publish_inside_lock : progs.all (insideLock false) = true := by decide

/-- add and update check the key's hash against the lookup map before they write it -/
theorem duplicate_check_precedes_write :
    (addProg.takeWhile (· ≠ .lookupSet)).contains .guardHashFree = true ∧
    (updateProg.takeWhile (· ≠ .lookupSet)).contains .guardHashFree = true := by decide

/-! ### the hypotheses are satisfiable -/

def hId (k : Key) : Hash := k.id
def k1 : Key := ⟨1, 16⟩
def k2 : Key := ⟨2, 16⟩
def k3 : Key := ⟨3, 16⟩
/-- a three-user store registered on a TCP+UDP server -/
def st3 : St := (call hId (fresh 16 true true (.entries [("a", k1), ("b", k2), ("c", k3)])) .reload).1

theorem st3_ok : call hId (fresh 16 true true (.entries [("a", k1), ("b", k2), ("c", k3)])) .reload = (st3, .ok) :=
  Prod.ext rfl (by decide)

example : Inv hId st3 ∧ Synced st3 :=
  let h := register_establishes hId _ _ _ _ _ st3_ok
  ⟨h.1, h.2.1⟩
example : find st3.cache "b" = some k2 := by decide
example : ∃ m, st3.tcp = some m ∧ handshake hId m k2 = some "b" := ⟨_, rfl, by decide⟩
example : k2 ≠ ⟨4, 16⟩ ∧ (⟨4, 16⟩ : Key).len = st3.pskLen ∧ find st3.lookup (hId ⟨4, 16⟩) = none := by decide
example : find st3.cache "d" = none ∧ find st3.cache "a" = some k1 := by decide
/-- a zero-byte store file is refused at registration (regenerated `loadProg` has the loaded-check) -/
example : (call hId (fresh 16 true true .empty) .reload).2 = .errParse := by decide
/-- a quiescent system reached by a real interleaving: add d ‖ delete a on `st3`, then the saver -/
example : ((Sys.start st3 [.add "d" ⟨4, 16⟩, .delete "a"]).run hId
    [.thread 0, .thread 1, .thread 0, .thread 1, .thread 0, .thread 1, .thread 0, .thread 0, .thread 1, .dequeue, .save]).quiescent := by
  unfold Sys.quiescent; decide

/-- `LoadFromFile` with `readFile` before the `lock` (the program of F23) -/
def loadProgReadOutside : List Step :=
  [.readFile, .deferClose, .lock, .guardChangedLoaded, .decode, .guardDecodeOk, .buildMaps, .setCachedContent,
   .setLookup, .setCache, .liveReplaceTcpLocal, .liveReplaceUdpLocal, .unlock, .ret]

def k4 : Key := ⟨4, 16⟩

/-- add d (acknowledged, save pending) ‖ reload with `loadProgReadOutside`: the reload reads the store file, then the
saver writes the file with d, then the reload's critical section installs what it read -/
def staleSys : Sys :=
  Sys.run hId
    { st := st3, threads := [(Op.add "d" k4).thread, { prog := loadProgReadOutside, regs := { name := "", key := noKey } }] }
    [.thread 0, .thread 0, .thread 0, .thread 0, .thread 0,   -- add d: acknowledged, save queued
     .thread 1, .thread 1,                                     -- reload: file read (without d)
     .dequeue, .save,                                          -- saver: file and cachedContent now hold d
     .thread 1, .thread 1]                                     -- reload: lock … unlock, return

/-- with the read outside the lock the property fails in the model: both calls are acknowledged, the system
is quiescent, nobody edited the file, yet d is unlisted and rejected while the store file holds d. -/
theorem stale_reload_witness :
    staleSys.quiescent ∧ staleSys.threads.map (·.res) = [some .ok, some .ok] ∧
    find staleSys.st.cache "d" = none ∧
    (∃ m, staleSys.st.tcp = some m ∧ handshake hId m k4 = none) ∧
    (∃ l, decodeDoc staleSys.st.file = some l ∧ find l "d" = some k4) := by
  refine ⟨by unfold Sys.quiescent; decide, by decide, by decide, ⟨_, rfl, by decide⟩, ⟨_, rfl, by decide⟩⟩

end SSV.C08

#print axioms SSV.C08.views_of_inv
#print axioms SSV.C08.register_establishes
#print axioms SSV.C08.accept_iff_member
#print axioms SSV.C08.attributed_to_owner
#print axioms SSV.C08.attribution_on_every_path
#print axioms SSV.C08.views_agree_seq
#print axioms SSV.C08.file_tracks_cache_seq
#print axioms SSV.C08.views_agree_conc
#print axioms SSV.C08.synced_content_tracks_cache_conc
#print axioms SSV.C08.file_eq_synced_stable
#print axioms SSV.C08.file_tracks_cache_conc
#print axioms SSV.C08.file_tracks_cache_conc_after_edit
#print axioms SSV.C08.stale_reload_witness
#print axioms SSV.C08.saved_file_represents_cache_conc
#print axioms SSV.C08.segment_progress
#print axioms SSV.C08.publish_inside_lock
#print axioms SSV.C08.duplicate_check_precedes_write
#print axioms SSV.C08.deleted_key_rejected
#print axioms SSV.C08.rotated_key_rejected
#print axioms SSV.C08.duplicate_key_refused
#print axioms SSV.C08.st3_ok
