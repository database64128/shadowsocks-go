import SSV.Proofs.Handshake
import SSV.Proofs.HandshakeHttp
import SSV.Proofs.HandshakeText
/-
C07 — the property theorems, with the specifications they are stated against (`specReply`, `s5ClientBytes`,
`firstBasic`) and examples showing their hypotheses can be met.
-/
namespace SSV.C07
open SSV SSV.HS SSV.Gen

/-- RFC 1928 §6 reading of "the outcome of the onward connection is reported with the protocol's
corresponding reply", written against the *names* of the dial result codes. -/
def specReply (code : Nat) : Nat :=
  if code = C07.DialResultCodeSuccess then C07.ReplySucceeded
  else if code = C07.DialResultCodeEACCES then C07.ReplyConnectionNotAllowedByRuleset
  else if code = C07.DialResultCodeENETDOWN ∨ code = C07.DialResultCodeENETUNREACH ∨ code = C07.DialResultCodeENETRESET then C07.ReplyNetworkUnreachable
  else if code = C07.DialResultCodeEHOSTDOWN ∨ code = C07.DialResultCodeEHOSTUNREACH then C07.ReplyHostUnreachable
  else if code = C07.DialResultCodeECONNREFUSED then C07.ReplyConnectionRefused
  else C07.ReplyGeneralSocksServerFailure

/-- For every dial result code the regenerated `ReplyFromDialResultCode` table gives the
RFC reply; in particular "succeeded" is reported iff the dial succeeded. -/
theorem reply_table : ∀ code, code < 256 →
    replyFromDialResultCode code = specReply code ∧
    (replyFromDialResultCode code = C07.ReplySucceeded ↔ code = C07.DialResultCodeSuccess) := by
  decide +kernel

example : replyFromDialResultCode C07.DialResultCodeECONNREFUSED = 5 := by decide

/-- What a SOCKS5 client puts on the wire (RFC 1928/1929): greeting with an arbitrary method list,
optional user/password message, request. -/
def s5ClientBytes (methods : Bytes) (cred : Option (Bytes × Bytes)) (cmd : UInt8) (a : Addr) : Bytes :=
  [cVersion, u8 methods.length] ++ methods ++
  (match cred with
   | some (u, p) => authMsg u p
   | none => []) ++
  [cVersion, cmd, 0] ++ encodeAddr a

/-- User/password mode: for every address, command, configured credential pair, method list
offering user/password, every early data and EVERY fragmentation `cs` of the client's bytes, the server
extracts exactly the client's (address up to the documented IPv4-mapped conversion, command, user), writes
exactly the negotiated answers, and leaves exactly the early data unread. -/
theorem socks5_faithful (users : List (Bytes × Bytes)) (tcp udp : Bool) (loc : Bool × Bytes × Nat)
    (methods user pass early : Bytes) (cmd : UInt8) (a : Addr)
    (hm1 : 1 ≤ methods.length) (hm2 : methods.length ≤ 255) (hoff : mUserPass ∈ methods)
    (hu1 : 1 ≤ user.length) (hu2 : user.length ≤ 255) (hp1 : 1 ≤ pass.length) (hp2 : pass.length ≤ 255)
    (ha : a.wf = true)
    (hcfg : lookupUser users user = some (user, pass))
    (cs : Chunks) (hcs : cs.flatten = s5ClientBytes methods (some (user, pass)) cmd a ++ early) :
    ∃ inp' b', inp'.flatten = early ∧ (cmd = cmdConnect ∧ tcp = true → b'.length = C07.scratchLen) ∧
      serverAcceptUserPass users tcp udp loc { inp := cs } =
        if cmd = cmdConnect ∧ tcp = true then
          (.ok (user, .pending a.norm, b'), (⟨inp', [cVersion, mUserPass, cAuthVersion, 0], []⟩ : St))
        else if cmd = cmdUDP ∧ udp = true then
          (.ok (user, .udpDone a.norm, b'), (⟨inp',
            [cVersion, mUserPass, cAuthVersion, 0] ++ ([cVersion, repSucceeded, 0] ++ encodeIPPort loc.1 loc.2.1 loc.2.2), []⟩ : St))
        else
          (.ok (user, .unsupported a.norm cmd, b'), (⟨inp',
            [cVersion, mUserPass, cAuthVersion, 0] ++ [cVersion, repCmdNotSupported, 0, atypV4, 0, 0, 0, 0, 0, 0], []⟩ : St)) := by
  obtain ⟨hnw, hnz⟩ := norm_wf a ha
  obtain ⟨b1, hb1, h1⟩ := methodSelection_reads newBuf newBuf_length mUserPass methods
    (authMsg user pass ++ cVersion :: cmd :: 0 :: (wireEnc a.norm ++ early)) hm1 hm2
  simp only [List.contains_iff_mem.mpr hoff, if_true] at h1
  obtain ⟨b2, hb2, h2⟩ := userPass_reads users b1 hb1 user pass
    (cVersion :: cmd :: 0 :: (wireEnc a.norm ++ early)) hu1 hu2 hp1 hp2
  simp only [hcfg, if_true, ← authMsg_append] at h2
  obtain ⟨b3, hb3, h3⟩ := handleRequest_reads tcp udp loc b2 hb2 cmd 0 a.norm early hnw hnz
  obtain ⟨inp', hi, e⟩ := (h1.bind (h2.bind (h3.bind (Reads.pure _ _))) : Reads (serverAcceptUserPass users tcp udp loc) _ _ _ _) { inp := cs }
    (by simp [hcs, s5ClientBytes, encodeAddr_norm])
  refine ⟨inp', b3, hi, fun _ => hb3, e.trans ?_⟩
  by_cases c1 : cmd = cmdConnect ∧ tcp = true
  · simp only [if_pos c1]; rfl
  by_cases c2 : cmd = cmdUDP ∧ udp = true
  · simp only [if_neg c1, if_pos c2, List.append_nil]; rfl
  · simp only [if_neg c1, if_neg c2]; rfl

/-- `socks5_faithful`, no-authentication mode. -/
theorem socks5_faithful_noauth (tcp udp : Bool) (loc : Bool × Bytes × Nat)
    (methods early : Bytes) (cmd : UInt8) (a : Addr)
    (hm1 : 1 ≤ methods.length) (hm2 : methods.length ≤ 255) (hoff : mNoAuth ∈ methods)
    (ha : a.wf = true)
    (cs : Chunks) (hcs : cs.flatten = s5ClientBytes methods none cmd a ++ early) :
    ∃ inp' b', inp'.flatten = early ∧ (cmd = cmdConnect ∧ tcp = true → b'.length = C07.scratchLen) ∧
      serverAccept tcp udp loc { inp := cs } =
        if cmd = cmdConnect ∧ tcp = true then
          (.ok (.pending a.norm, b'), (⟨inp', [cVersion, mNoAuth], []⟩ : St))
        else if cmd = cmdUDP ∧ udp = true then
          (.ok (.udpDone a.norm, b'), (⟨inp',
            [cVersion, mNoAuth] ++ ([cVersion, repSucceeded, 0] ++ encodeIPPort loc.1 loc.2.1 loc.2.2), []⟩ : St))
        else
          (.ok (.unsupported a.norm cmd, b'), (⟨inp',
            [cVersion, mNoAuth] ++ [cVersion, repCmdNotSupported, 0, atypV4, 0, 0, 0, 0, 0, 0], []⟩ : St)) := by
  obtain ⟨hnw, hnz⟩ := norm_wf a ha
  obtain ⟨b1, hb1, h1⟩ := methodSelection_reads newBuf newBuf_length mNoAuth methods
    (cVersion :: cmd :: 0 :: (wireEnc a.norm ++ early)) hm1 hm2
  simp only [List.contains_iff_mem.mpr hoff, if_true] at h1
  obtain ⟨b2, hb2, h2⟩ := handleRequest_reads tcp udp loc b1 hb1 cmd 0 a.norm early hnw hnz
  obtain ⟨inp', hi, e⟩ := (h1.bind h2 : Reads (serverAccept tcp udp loc) _ _ _ _) { inp := cs } (by simp [hcs, s5ClientBytes, encodeAddr_norm])
  refine ⟨inp', b2, hi, fun _ => hb2, e.trans ?_⟩
  by_cases c1 : cmd = cmdConnect ∧ tcp = true
  · simp only [if_pos c1]; rfl
  by_cases c2 : cmd = cmdUDP ∧ udp = true
  · simp only [if_neg c1, if_pos c2]; rfl
  · simp only [if_neg c1, if_neg c2]; rfl

/-- with authentication enabled nothing is honoured unless the presented pair is the configured one -/
theorem socks5_auth_gate (users : List (Bytes × Bytes)) (tcp udp : Bool) (loc : Bool × Bytes × Nat)
    (methods user pass tail : Bytes)
    (hm1 : 1 ≤ methods.length) (hm2 : methods.length ≤ 255) (hoff : mUserPass ∈ methods)
    (hu1 : 1 ≤ user.length) (hu2 : user.length ≤ 255) (hp1 : 1 ≤ pass.length) (hp2 : pass.length ≤ 255)
    (hbad : ∀ u pw, lookupUser users user = some (u, pw) → pass ≠ pw)
    (cs : Chunks) (hcs : cs.flatten = [cVersion, u8 methods.length] ++ methods ++ authMsg user pass ++ tail) :
    ∃ inp', serverAcceptUserPass users tcp udp loc { inp := cs } =
      (.error .badCreds, (⟨inp', [cVersion, mUserPass, cAuthVersion, 1], []⟩ : St)) := by
  obtain ⟨b1, hb1, h1⟩ := methodSelection_reads newBuf newBuf_length mUserPass methods (authMsg user pass ++ tail) hm1 hm2
  simp only [List.contains_iff_mem.mpr hoff, if_true] at h1
  obtain ⟨b2, _, h2⟩ := userPass_reads users b1 hb1 user pass tail hu1 hu2 hp1 hp2
  rw [← authMsg_append] at h2
  have h2' : Reads (userPass users b1) (authMsg user pass ++ tail) tail (.error .badCreds) [cAuthVersion, 1] := by
    cases hl : lookupUser users user with
    | none => simpa only [hl] using h2
    | some up => simpa only [hl, if_neg (hbad _ _ hl)] using h2
  obtain ⟨inp', _, e⟩ := (h1.bind (Reads.bind_error h2') : Reads (serverAcceptUserPass users tcp udp loc) _ _ _ _) { inp := cs } (by simp [hcs])
  exact ⟨inp', e⟩

/-- Proceed() writes the success reply and nothing else; the transport is untouched. -/
theorem proceed_reply (b : Bytes) (hb : b.length = C07.scratchLen) (s : St) :
    proceed b s = (.ok (), { s with out := s.out ++ [cVersion, repSucceeded, 0, atypV4, 0, 0, 0, 0, 0, 0] }) := by
  rw [proceed, replyWithStatus_eq b (by rw [hb]; decide)]
  rfl

/-- For EVERY `conn.DialResult` — every code and whatever `Err` is (nil, a matching
or non-matching errno, wrapped or not, a resolver error, the router's rejection, an opaque error) —
Abort writes exactly the reply the regenerated table gives for `dr.code`, hence (by `reply_table`) the RFC reply
of the outcome. Tied to the source by the fingerprint `Gen.C07.abortUsesCode` (the argument of
ReplyFromDialResultCode in serverPendingConn.Abort is `dialResult.Code`). -/
theorem abort_reports_dial_result (b : Bytes) (hb : b.length = C07.scratchLen) (dr : DialResult) (s : St) :
    C07.abortUsesCode = true ∧
    abort b dr s = (.ok (), { s with out := s.out ++
      [cVersion, u8 (replyFromDialResultCode dr.code), 0, atypV4, 0, 0, 0, 0, 0, 0] }) ∧
    (dr.code < 256 → replyFromDialResultCode dr.code = specReply dr.code) := by
  refine ⟨by decide, ?_, fun h => (reply_table dr.code h).1⟩
  rw [abort, replyWithStatus_eq b (by rw [hb]; decide)]
  rfl

/-- HTTP CONNECT: a failed dial is reported as 502 for every DialResult. -/
theorem abortH_reports_502 (dr : DialResult) (s : St) :
    abortH dr s = (.ok (), { s with out := s.out ++ C07.status502 }) := rfl

example : (DialResult.mk 13 .rejected).code < 256 := by decide

/-- Shadowsocks none: the server extracts the client's address and the tunnel starts with payload ++ later bytes. -/
theorem none_faithful (a : Addr) (ha : a.wf = true) (payload early : Bytes) (cs : Chunks)
    (hcs : cs.flatten = noneClient a payload ++ early) :
    ∃ inp', inp'.flatten = payload ++ early ∧
      noneServer { inp := cs } = (.ok a.norm, (⟨inp', [], []⟩ : St)) := by
  obtain ⟨hnw, hnz⟩ := norm_wf a ha
  exact noneServer_reads a.norm (payload ++ early) hnw hnz { inp := cs } (by simp [hcs, noneClient, encodeAddr_norm])

/-- HTTP CONNECT server, any fragmentation, any number of 407 rounds:
when `ServerHandle` accepts a CONNECT, what the returned connection delivers (`s'.stream`: the bufio
read-ahead first, then the transport) is exactly what the client sent minus EXACTLY the request head(s):
`heads` are the raw lines of one head per request (`IsHead`: no line contains a line feed, every line but the
last is non-blank, the last is blank — i.e. each head is the shortest prefix ending in a blank line), every
request but the last was answered with 407 and nothing else was written. Nothing behind the head is lost,
duplicated or reordered.
The proof needs the regenerated fact `connectKeepsReadAhead = true`: it does not elaborate against a tree
whose CONNECT branch builds the pending connection on the raw connection (finding F5: without the wrapper the
bytes that arrived in the same segment as the CONNECT head are lost; re-derived on every run by the engine's probes
`f5-one-segment` / `f5-cut-inside-early` against the real code). -/
theorem transparent_after_handshake (tk : Option (List (Bytes × Bytes))) (s s' : St) (u : Bytes) (a : Addr)
    (h : serverHandleH C07.connectKeepsReadAhead tk s = (.ok (u, a), s')) :
    ∃ heads : List (List Bytes), heads ≠ [] ∧ (∀ hd ∈ heads, IsHead hd) ∧
      s.stream = (heads.map headBytes).flatten ++ s'.stream ∧
      s'.out = s.out ++ (List.replicate (heads.length - 1) C07.status407).flatten := by
  have hk : C07.connectKeepsReadAhead = true := by decide
  rw [hk] at h
  unfold serverHandleH at h
  obtain ⟨fuel, _, hf, h1⟩ := bind_ok_inv h
  cases hf
  obtain ⟨⟨u1, hd⟩, s1, hl, h2⟩ := bind_ok_inv h1
  dsimp only at h2
  cases hp : parseAddr hd.target with
  | none => simp [hp] at h2
  | some a1 =>
    -- with the read-ahead kept, the state behind the loop is the state returned
    obtain rfl : s1 = s' := by simpa [hp, keepReadAhead] using (Prod.mk.inj h2).2
    exact serverLoopH_heads tk _ s s1 (u1, hd) hl

/-- `transparent_after_handshake`, client side: when `ClientConnect` succeeds, the returned connection delivers
exactly what the proxy sent behind the response head (far side speaking first included). -/
theorem transparent_after_handshake_client (target : Addr) (hdr : Bytes) (s s' : St)
    (h : clientConnectH target hdr s = (.ok (), s')) :
    ∃ raw, IsHead raw ∧ s.stream = headBytes raw ++ s'.stream := by
  obtain ⟨ls, w, hr⟩ := clientConnectH_ok target hdr s s' h
  obtain ⟨_, raw, hraw, e⟩ := readHeadM_head _ _ _ hr
  exact ⟨raw, hraw, e⟩

/-- Proceed() on an accepted CONNECT writes the 200 line and leaves the tunnel stream alone. -/
theorem proceedH_reply (s : St) :
    proceedH s = (.ok (), { s with out := s.out ++ C07.status200 }) ∧ (proceedH s).2.stream = s.stream :=
  ⟨rfl, rfl⟩

/-- conn.ParseAddr ∘ conn.Addr.String is the identity on every well-formed address an HTTP
CONNECT target can carry (`httpCarriable`, decidable: domain names without ':' '[' ']' / CTL / space and
characters outside the modelled URL set that do not spell an IP literal; every IPv4 address; IPv6 addresses
whose netip text parses back — evaluated by the engine on every generated address).
The excluded names are run against the real client → server pair on every run (evidence notes). -/
theorem connect_faithful (a : Addr) (hw : a.wf = true) (hc : httpCarriable a = true) :
    parseAddr (addrString a) = some a := by
  cases a with
  | zero => simp [httpCarriable] at hc
  | dom n p =>
    simp only [Addr.wf, Bool.and_eq_true, decide_eq_true_eq] at hw
    obtain ⟨⟨hl1, hl2⟩, hp⟩ := hw
    simp only [httpCarriable, Bool.and_eq_true, List.all_eq_true, bne_iff_ne, ne_eq, Option.isNone_iff_eq_none] at hc
    obtain ⟨hall, hip⟩ := hc
    have n1 : COLON ∉ n := fun h => (hall _ h).1.1.2 rfl
    have n2 : (91 : UInt8) ∉ n := fun h => (hall _ h).1.2 rfl
    have n3 : (93 : UInt8) ∉ n := fun h => (hall _ h).2 rfl
    unfold parseAddr addrString
    rw [splitHostPort_plain n (natDec p) n1 n2 n3 (natDec_all p)]
    simp [parsePort_natDec p hp, hip, hl1, hl2]
  | v4 ip p =>
    simp only [Addr.wf, Bool.and_eq_true, decide_eq_true_eq, beq_iff_eq] at hw
    obtain ⟨hl, hp⟩ := hw
    match ip, hl with
    | [a, b, c, d], _ =>
      have nm := fun x hx h46 => not_mem_fmtV4 a b c d x hx h46
      unfold parseAddr addrString
      rw [splitHostPort_plain _ (natDec p) (nm _ (by decide) (by decide)) (nm _ (by decide) (by decide))
        (nm _ (by decide) (by decide)) (natDec_all p)]
      simp [parsePort_natDec p hp, parseIP_fmtV4]
  | v6 ip p =>
    simp only [Addr.wf, Bool.and_eq_true, decide_eq_true_eq, beq_iff_eq] at hw
    obtain ⟨hl, hp⟩ := hw
    simp only [httpCarriable, Bool.and_eq_true, List.all_eq_true, bne_iff_ne, ne_eq, beq_iff_eq] at hc
    obtain ⟨hrt, hall⟩ := hc
    have n2 : (91 : UInt8) ∉ fmtV6 ip := fun h => (hall _ h).1 rfl
    have n3 : (93 : UInt8) ∉ fmtV6 ip := fun h => (hall _ h).2 rfl
    unfold parseAddr addrString
    rw [splitHostPort_bracket _ (natDec p) n2 n3 (natDec_all p)]
    simp [parsePort_natDec p hp, hrt]

/-- the first Proxy-Authorization value that has the Basic scheme (what serverHandleBasicAuth looks at) -/
def firstBasic (hs : List (Bytes × Bytes)) : Option Bytes :=
  ((hs.filter (fun h => h.1 == str "proxy-authorization")).map (·.2)).find?
    (fun v => v.length > 6 && lower (v.take 6) == str "basic ")

/-- For an injective token encoding (base64) and configured user names without ':'
(enforced by NewProxyServer), a request presenting user-pass `u:p` is honoured iff `(u, p)` is a configured
pair, and then attributed to `u`; a request without a Basic value is never honoured. -/
theorem basic_auth_gate (enc : Bytes → Bytes) (henc : ∀ a b, enc a = enc b → a = b)
    (users : List (Bytes × Bytes)) (hu : ∀ x ∈ users, COLON ∉ x.1) (hs : List (Bytes × Bytes)) :
    (firstBasic hs = none → basicAuth hs (tokenMap enc users) = none) ∧
    (∀ v u p, firstBasic hs = some v → v.drop 6 = enc (u ++ [COLON] ++ p) → COLON ∉ u →
      basicAuth hs (tokenMap enc users) = if (u, p) ∈ users then some u else none) := by
  constructor
  · intro h; unfold basicAuth; unfold firstBasic at h; rw [h]
  · intro v u p h ht hcu
    unfold basicAuth; unfold firstBasic at h; rw [h]
    simp only [ht]
    exact lookupToken_spec enc henc users hu u p hcu

-- hypotheses satisfiable: identity is an injective encoding; a carriable address
example : (∀ a b : Bytes, id a = id b → a = b) := fun _ _ h => h
example : httpCarriable (.dom [97, 46, 98] 443) = true ∧ (Addr.dom [97, 46, 98] 443).wf = true := by decide
example : httpCarriable (.v4 [1, 2, 3, 4] 80) = true := by decide

/-- Tie of the model's assumption "connections are independent" (each theorem above speaks about ONE connection):
the regenerated list of package-level variables and long-lived client/server object fields of socks5 /
httpproxy / ssnone that are not recognisably immutable is empty. A pool, a package-level buffer or a scratch
field shared across handshakes makes this side condition fail; the engine's `interleaved` family then looks
for the failing schedule. -/
theorem connections_share_no_state : C07.sharedState = [] := by decide

/-- a user found by the server's lookup is a listed user with that very name -/
theorem configured_user_is_listed (users : List (Bytes × Bytes)) (name u pw : Bytes)
    (h : lookupUser users name = some (u, pw)) : u = name ∧ (u, pw) ∈ users :=
  lookupUser_some h

-- the hypotheses are satisfiable: a configured user, a one-byte domain, early data, cut into single bytes
example : lookupUser [([117], [112])] [117] = some ([117], [112]) := by decide
example : ∃ cs : Chunks, cs.length = 18 ∧
    cs.flatten = s5ClientBytes [mUserPass] (some ([117], [112])) cmdConnect (.dom [97] 80) ++ [1, 2] :=
  ⟨(s5ClientBytes [mUserPass] (some ([117], [112])) cmdConnect (.dom [97] 80) ++ [1, 2]).map (fun b => [b]), by decide, by decide⟩
example : (Addr.dom [97] 80).wf = true := by decide
-- a wrong password for a configured user (hypothesis `hbad` of socks5_auth_gate)
example : lookupUser [([117], [112])] [117] = some ([117], [112]) ∧ ([113] : Bytes) ≠ [112] := by decide

end SSV.C07

#print axioms SSV.C07.reply_table
#print axioms SSV.C07.socks5_faithful
#print axioms SSV.C07.socks5_faithful_noauth
#print axioms SSV.C07.socks5_auth_gate
#print axioms SSV.C07.configured_user_is_listed
#print axioms SSV.C07.proceed_reply
#print axioms SSV.C07.abort_reports_dial_result
#print axioms SSV.C07.none_faithful
#print axioms SSV.C07.transparent_after_handshake
#print axioms SSV.C07.proceedH_reply
#print axioms SSV.C07.connections_share_no_state
#print axioms SSV.C07.transparent_after_handshake_client
#print axioms SSV.C07.connect_faithful
#print axioms SSV.C07.basic_auth_gate
#print axioms SSV.C07.abortH_reports_502
