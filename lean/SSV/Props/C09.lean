import SSV.Proofs.RouterTop
/-
C09 — Routing picks the first route whose documented conditions all hold.

Model: SSV/Model/Router.lean (router/route.go + router/router.go, with proposed_fixes/F3.diff applied).
Specification: SSV/Model/RouterSpec.lean (`specRoute`, `specMatch`, written from the RouteConfig field comments;
the readings adopted where the comments are silent are listed there as R1–R8).

Hypotheses that exclude inputs (all decidable, all guaranteed by the callers in service/):
  * `env.servers.Nodup`   — service.Config rejects duplicate server names;
  * `q.WF env`            — the receiving server exists (ServerIndex < number of servers: the guard of
                            bitset.IsSet) and ports are uint16.
The request target is a valid conn.Addr (IP or domain) by the type `Target`.
-/
namespace SSV.C09
open SSV.Router SSV.Router.Spec SSV.Gen

/-- The order in which `RouteConfig.Route` runs its pre-checks and appends its criteria is the order `build` uses
(it decides which error surfaces first), and every criterion type is paired with the invert flag `build` pairs it with. -/
theorem criteria_order_tie :
    C09.precheckOrder = ["name", "geoip", "resolvers", "domainCriteria", "resolver"] ∧
    C09.criteriaOrder = ["network", "fromServers", "fromUsers", "fromPorts", "fromAddr", "toPorts", "toAddr"] ∧
    C09.addCriterionCalls = [
      ("route", "NetworkTCPCriterion", "false"),
      ("route", "NetworkUDPCriterion", "false"),
      ("route", "SourceServerCriterion", "rc.InvertFromServers"),
      ("route", "SourceUserCriterion", "rc.InvertFromUsers"),
      ("route", "SourcePortCriterion", "rc.InvertFromPorts"),
      ("route", "SourcePortRangeSetCriterion", "rc.InvertFromPorts"),
      ("route", "SourcePortSetCriterion", "rc.InvertFromPorts"),
      ("group", "SourceIPCriterion", "rc.InvertFromPrefixes"),
      ("group", "SourceGeoIPCountryCriterion", "rc.InvertFromGeoIPCountries"),
      ("route", "DestPortCriterion", "rc.InvertToPorts"),
      ("route", "DestPortRangeSetCriterion", "rc.InvertToPorts"),
      ("route", "DestPortSetCriterion", "rc.InvertToPorts"),
      ("expectedIPCriterionGroup", "DestResolvedIPCriterion", "rc.InvertToMatchedDomainExpectedPrefixes"),
      ("expectedIPCriterionGroup", "DestResolvedGeoIPCountryCriterion", "rc.InvertToMatchedDomainExpectedGeoIPCountries"),
      ("group", "DestDomainExpectedIPCriterion", "rc.InvertToDomains"),
      ("group", "DestDomainCriterion", "rc.InvertToDomains"),
      ("group", "DestIPCriterion", "rc.InvertToPrefixes"),
      ("group", "DestResolvedIPCriterion", "rc.InvertToPrefixes"),
      ("group", "DestGeoIPCountryCriterion", "rc.InvertToGeoIPCountries"),
      ("group", "DestResolvedGeoIPCountryCriterion", "rc.InvertToGeoIPCountries")] :=
  ⟨rfl, rfl, rfl⟩

/-- The control-flow functions that `meetAll`, `R.invert`, `meetOr`, `groupCriterion`, `groupAppend`, the
`dstDomainExpected` case of `meet`, `lookup`, `matchRoute` and `Route.clientFor` mirror statement by statement
still have the source text the model was written from. -/
theorem control_flow_tie :
    C09.srcRouteMatch = "{ for _, criterion := range r.criteria { met, err := criterion.Meet(ctx, network, requestInfo) if !met { return false, err } } return true, nil }" ∧
    C09.srcInvertedMeet = "{ met, err := c.Inner.Meet(ctx, network, requestInfo) if err != nil { return false, err } return !met, nil }" ∧
    C09.srcGroupMeet = "{ for _, criterion := range g.Criteria { met, err := criterion.Meet(ctx, network, requestInfo) if err != nil { return false, err } if met { return true, nil } } return false, nil }" ∧
    C09.srcGroupCriterion = "{ switch len(g.Criteria) { case 0: return nil case 1: return g.Criteria[0] default: return g } }" ∧
    C09.srcGroupAppendTo = "{ switch len(g.Criteria) { case 0: return criteria case 1: return append(criteria, g.Criteria[0]) default: return append(criteria, g) } }" ∧
    C09.srcDomainExpectedMeet = "{ met, err := c.destDomainCriterion.Meet(ctx, network, requestInfo) if !met { return false, err } return c.expectedIPCriterion.Meet(ctx, network, requestInfo) }" ∧
    C09.srcLookup = "{ for _, resolver := range resolvers { ip, err = resolver.LookupIP(ctx, domain) if err == dns.ErrLookup { continue } return } return ip, errNoAvailableResolvers }" ∧
    C09.srcRouterMatch = "{ for i := range r.routes { matched, err := r.routes[i].Match(ctx, network, requestInfo) if err != nil { return nil, err } if matched { return &r.routes[i], nil } } panic(\"did not match default route\") }" ∧
    C09.srcRouteTCPClient = "{ if r.tcpClient == nil { return nil, ErrRejected } return r.tcpClient, nil }" ∧
    C09.srcRouteUDPClient = "{ if r.udpClient == nil { return nil, ErrRejected } return r.udpClient, nil }" :=
  ⟨rfl, rfl, rfl, rfl, rfl, rfl, rfl, rfl, rfl, rfl⟩

/-- service.Config.Manager still builds the `resolvers` slice and `resolverMap` in the one loop that
`serviceResolvers` (SSV/Model/RouterService.lean) mirrors: duplicate names refused, the same resolver object stored at
`resolvers[i]` and under its configured name. -/
theorem resolver_construction_tie :
    C09.srcServiceResolverLoop = "for i := range sc.DNS { resolverConfig := &sc.DNS[i] if _, ok := resolverMap[resolverConfig.Name]; ok { return nil, fmt.Errorf(\"duplicate DNS resolver name: %q\", resolverConfig.Name) } resolver, err := resolverConfig.NewSimpleResolver(tcpClientMap, udpClientMap, logger) if err != nil { return nil, fmt.Errorf(\"failed to create DNS resolver %q: %w\", resolverConfig.Name, err) } resolvers[i] = resolver resolverMap[resolverConfig.Name] = resolver }" :=
  rfl

/-- **resolvers_agree.** What service.Config.Manager passes to the router: the slice holds the configured resolvers in
configuration order, the map has exactly the same names, and no name occurs twice — so "the resolver called n"
(`RouteConfig.Resolver`) is one of the resolvers of the slice and is unambiguous. (The router theorems themselves hold
for any pair of slice and map.) -/
theorem resolvers_agree (env env' : Env) (dns : List String) (h : env.withServiceResolvers dns = some env') :
    env'.resolvers = dns ∧ env'.resolverMap = dns ∧ dns.Nodup ∧
      (∀ rc : RouteConfig, rc.resolver ≠ "" →
        (resolversFor env' rc = .ok [rc.resolver] ↔ rc.resolver ∈ env'.resolvers)) := by
  unfold Env.withServiceResolvers at h
  split at h
  · cases h
  · rename_i sl ks hs
    cases h
    obtain ⟨rfl, rfl, c⟩ := serviceResolvers_spec dns [] [] sl ks .nil hs
    refine ⟨rfl, rfl, c, ?_⟩
    exact fun rc hne => resolversFor_named _ rc hne

/-- The literals of `RouteConfig.Route` are the documented ones: a single port is stored as a port, up to 16
ranges as a range set, more as a bit set; all 65535 ports is refused; "reject", "tcp", "udp". -/
theorem literals_tie :
    C09.srcPortSingleCount = 1 ∧ C09.srcPortAllCount = 65535 ∧ C09.srcPortMaxRanges = 16 ∧
    C09.dstPortSingleCount = 1 ∧ C09.dstPortAllCount = 65535 ∧ C09.dstPortMaxRanges = 16 ∧
    C09.rejectName = "reject" ∧ C09.networkNames = ["", "tcp", "udp"] ∧ C09.badRouteNames = ["", "default"] :=
  ⟨rfl, rfl, rfl, rfl, rfl, rfl, rfl, rfl, rfl⟩

/-- Finding F3 (repaired by proposed_fixes/F3.diff): both `*PortSetCriterion.Meet` methods return (false, nil) for
port 0 before they call `PortSet.Contains`, which panics on 0 by contract. -/
theorem port_zero_guard_tie : C09.srcPortSetGuardsZero = true ∧ C09.dstPortSetGuardsZero = true := ⟨rfl, rfl⟩

/-- Without the guard the bit-set criterion panics on port 0 (finding F3: the source without proposed_fixes/F3.diff). -/
theorem unguarded_port_zero_panics (s : PortSet) : portSetMeet false s 0 = .panic := rfl

/-- **route_build_sound.** For every route configuration that loads, every request and every behaviour of the
resolvers, domain sets, prefix sets and GeoIP, `Route.Match` on the built criteria decides exactly the documented
condition — same verdict, same error, never a panic. -/
theorem route_build_sound (p : Params) (env : Env) (rc : RouteConfig) (route : Route) (q : Req)
    (hnd : env.servers.Nodup) (hq : q.WF env) (hb : build env rc = .ok route) :
    meetAll p q route.criteria = R.ofV (specRoute p env rc q) :=
  ((build_loads env rc).ok hb).sound p q hnd hq

/-- **first_match.** For every router configuration that loads, `GetTCPClient` / `GetUDPClient` return what the
specification says: the client of the first route, in configuration order, whose conditions all hold; an error if
a condition of an earlier-or-equal route cannot be decided; otherwise the default client; reject ⇒ rejected.
And the route `Router.match` returns (whose name the router logs) is that very route: the first one in configuration
order whose documented conditions all hold, "default" if there is none, no route at all on an error. -/
theorem first_match (p : Params) (env : Env) (cfg : Config) (r : Router) (q : Req)
    (hnd : env.servers.Nodup) (hq : q.WF env) (hb : buildRouter env cfg = .ok r) :
    getClient p r q = specMatch p env cfg q ∧ matchedRoute p r q = specMatchedRoute p env cfg q :=
  (buildRouter_loads env cfg).ok hb p q hnd hq

/-- `specMatchedRoute` spelled out: the name of a route whose conditions all hold and that is preceded only by
non-matching routes; "default" when every route is a non-match; no name when the first route that is not a non-match
cannot be decided. -/
theorem matched_route_spelled_out (p : Params) (env : Env) (cfg : Config) (q : Req) :
    (∀ pre rc post, cfg.routes = pre ++ rc :: post → (∀ x ∈ pre, specRoute p env x q = .f) →
        specRoute p env rc q = .t → specMatchedRoute p env cfg q = some rc.name) ∧
    ((∀ x ∈ cfg.routes, specRoute p env x q = .f) → specMatchedRoute p env cfg q = some "default") ∧
    (∀ pre rc post x, cfg.routes = pre ++ rc :: post → (∀ y ∈ pre, specRoute p env y q = .f) →
        specRoute p env rc q = .e x → specMatchedRoute p env cfg q = none) := by
  rw [specMatchedRoute, specRouteNames_pick]
  exact specPick_spelled_out SpecPick.name p env q cfg.routes

/-- `specMatch` spelled out: (1) a route whose conditions all hold, preceded only by routes that do not match, wins;
(2) if no route matches the default client is used; (3) a route whose conditions cannot be decided, preceded only by
routes that do not match, makes the request fail with that error. -/
theorem first_match_spelled_out (p : Params) (env : Env) (cfg : Config) (q : Req) :
    (∀ pre rc post, cfg.routes = pre ++ rc :: post → (∀ x ∈ pre, specRoute p env x q = .f) →
        specRoute p env rc q = .t → specMatch p env cfg q = specClient rc.client) ∧
    ((∀ x ∈ cfg.routes, specRoute p env x q = .f) → specMatch p env cfg q = specDefault env cfg q.net) ∧
    (∀ pre rc post x, cfg.routes = pre ++ rc :: post → (∀ y ∈ pre, specRoute p env y q = .f) →
        specRoute p env rc q = .e x → specMatch p env cfg q = .error x) := by
  rw [specMatch, specRoutes_pick]
  exact specPick_spelled_out (SpecPick.res env cfg q.net) p env q cfg.routes

/-- The order-free reading of `specRoute` (R1): a match means every documented condition holds; a non-match means
some condition is definitely false; an error means some condition could not be decided with that very error.
In particular a condition that cannot be decided never turns into a match. -/
theorem conds_all_hold (p : Params) (env : Env) (rc : RouteConfig) (q : Req) :
    (specRoute p env rc q = .t ↔ ∀ v ∈ conds p env rc q, v = .t) ∧
    (specRoute p env rc q = .f → ∃ v ∈ conds p env rc q, v = .f) ∧
    (∀ x, specRoute p env rc q = .e x → ∃ v ∈ conds p env rc q, v = .e x) :=
  ⟨allV_eq_t_iff _, allV_ne_t _ .f nofun, fun x => allV_ne_t _ (.e x) nofun⟩

/-- **Resolver failures never become a silent match.** If the target is a domain whose resolution fails, a route
that restricts the destination by IP prefixes only (no domain kind, no GeoIP kind, name resolution not disabled)
does not match: the request fails with the resolver's error unless an earlier condition already excludes the route. -/
theorem resolver_failure_never_matches (p : Params) (env : Env) (rc : RouteConfig) (q : Req) (d : String) (x : Err)
    (hd : q.target = .domain d) (hfail : resolveSpec p env rc d = .error x)
    (hdom : (rc.toDomains.isEmpty && rc.toDomainSets.isEmpty) = true) (hgeo : rc.toGeoIPCountries.isEmpty = true)
    (hpfx : (rc.toPrefixes.isEmpty && rc.toPrefixSets.isEmpty) = false)
    (hres : rc.disableNameResolutionForIPRules = false) :
    cToAddr p env rc q = .e x ∧ specRoute p env rc q ≠ .t := by
  -- the prefix kind is the only kind present; on a domain target it goes through the resolver, whose error
  -- neither the invert flag nor the OR over the one kind changes
  have hk : destIPCond p env rc q (fun a => V.ofBool (inPrefixes p rc.toPrefixes rc.toPrefixSets a)) = .e x := by
    simp only [destIPCond, hd, hres, Bool.false_eq_true, if_false, resolvedV, hfail]
  have h1 : cToAddr p env rc q = .e x := by
    simp only [cToAddr, kToDomains, kToPrefixes, kToGeo, hdom, hgeo, hpfx, if_true, Bool.false_eq_true, if_false, hk]
    rfl
  exact ⟨h1, specRoute_ne_t (v := cToAddr p env rc q) (by simp [conds]) (by rw [h1]; nofun)⟩

/-- **port_representations_agree.** Whatever representation `RouteConfig.Route` picks for a port condition — a
single port (`PortSet.First` of a one-element set), a range set searched by binary search (`PortSet.RangeSet`), or
the bit set itself — the criterion decides membership in the same set, for every port 0..65535 (port 0 is in no set). -/
theorem port_representations_agree (p : Params) (q : Req) (s : PortSet) (hs0 : s.mem 0 = false)
    (hsp : q.srcPort < portSpace) (hdp : q.dstPort < portSpace) :
    (s.count = 1 → meet p q (.srcPort s.first) = R.ofBool (s.mem q.srcPort)) ∧
    meet p q (.srcPortRanges s.rangeSet) = R.ofBool (s.mem q.srcPort) ∧
    meet p q (.srcPortSet s) = R.ofBool (s.mem q.srcPort) ∧
    (s.count = 1 → meet p q (.dstPort s.first) = R.ofBool (s.mem q.dstPort)) ∧
    meet p q (.dstPortRanges s.rangeSet) = R.ofBool (s.mem q.dstPort) ∧
    meet p q (.dstPortSet s) = R.ofBool (s.mem q.dstPort) := by
  obtain ⟨a1, a2, a3⟩ := (srcPortCrits p q).agree s hs0 hsp
  obtain ⟨b1, b2, b3⟩ := (dstPortCrits p q).agree s hs0 hdp
  exact ⟨a1, a2, a3, b1, b2, b3⟩

/-- the table `RouteConfig.Route` builds from `ports` + `portRanges` holds exactly the denoted ports (so the
hypothesis `s.mem 0 = false` of `port_representations_agree` holds for every table the router builds) -/
theorem port_table_denotes (b1 b2 : BuildErr) (ports : List Nat) (str : List UInt8) (s1 s2 : PortSet)
    (h1 : addPorts b1 .empty ports = .ok s1) (h2 : addPieces b2 s1 (SSV.PortSet.items str) = .ok s2) :
    (∀ x, s2.mem x = portsDenote ports str x) ∧ s2.mem 0 = false :=
  have h := portTable_spec .empty PortSet.wf_empty PortSet.mem_empty b1 b2 ports str s1 s2 h1 h2
  ⟨h.1, h.2.1⟩

/-- **malformed_port_ranges_rejected.** `fromPortRanges` / `toPortRanges` are modelled as the strings that are written in
the configuration. If any comma-separated piece is not a decimal port 1..65535 or `lo-hi` with 1 ≤ lo < hi ≤ 65535
(empty piece, stray characters, sign, port 0, value above 65535, reversed or one-port range, a second dash, ...) the route
does not load. (For routes that do load, `route_build_sound` says the port condition is membership in what the written
string denotes: `portsDenote`.) -/
theorem malformed_port_ranges_rejected (env : Env) (rc : RouteConfig)
    (h : (∃ pc ∈ SSV.PortSet.items rc.fromPortRanges, SSV.PortSet.parseItem pc = none) ∨
         (∃ pc ∈ SSV.PortSet.items rc.toPortRanges, SSV.PortSet.parseItem pc = none)) :
    ∀ route, build env rc ≠ .ok route := by
  intro route hb
  have hb := (build_loads env rc).ok hb
  rcases h with ⟨pc, hm, hn⟩ | ⟨pc, hm, hn⟩
  · exact hb.fromPieces pc hm hn
  · exact hb.toPieces pc hm hn

/-- **unknown_user_never_matches_fromUsers.** A route with a (non-inverted) `fromUsers` list never matches a request
whose user name is not in the list — an unknown user, or the empty user name of an unauthenticated request unless ""
itself is listed: the users condition is false, so the specification says no match, and so does `Route.Match` on the
built route. With `invertFromUsers` the same request satisfies the users condition. -/
theorem unknown_user_never_matches_fromUsers (p : Params) (env : Env) (rc : RouteConfig) (q : Req)
    (hl : rc.fromUsers.isEmpty = false) (hu : q.user ∉ rc.fromUsers) :
    (rc.invertFromUsers = false →
      cUsers rc q = .f ∧ specRoute p env rc q ≠ .t ∧
      ∀ route, env.servers.Nodup → q.WF env → build env rc = .ok route → meetAll p q route.criteria ≠ .yes) ∧
    (rc.invertFromUsers = true → cUsers rc q = .t) := by
  constructor
  · intro hi
    have h1 : cUsers rc q = .f := by simp [cUsers, hl, hu, hi, V.ofBool, V.inv]
    have h2 : specRoute p env rc q ≠ .t := specRoute_ne_t (v := cUsers rc q) (by simp [conds]) (by rw [h1]; nofun)
    refine ⟨h1, h2, ?_⟩
    intro route hnd hq hb hy
    rw [route_build_sound p env rc route q hnd hq hb] at hy
    exact h2 (R.ofV_eq_yes.mp hy)
  · intro hi
    simp [cUsers, hl, hu, hi, V.ofBool, V.inv]

/-- **no_panic.** No request makes a loaded router panic: not the bit-set port criterion on port 0 (F3, guarded),
not `bitset.IsSet` (server index below the capacity), not a nil criterion of an empty OR group, and the trailing
default route always matches ("did not match default route" is unreachable). -/
theorem no_panic (p : Params) (env : Env) (cfg : Config) (r : Router) (q : Req)
    (hnd : env.servers.Nodup) (hq : q.WF env) (hb : buildRouter env cfg = .ok r) :
    getClient p r q ≠ .panic := by
  rw [(first_match p env cfg r q hnd hq hb).1]
  exact specRoutes_ne_panic p env cfg q cfg.routes

/-- **load_no_panic.** Loading a configuration never reaches the `panic("unreachable")` of `RouteConfig.Route`
(`case 0` of `switch portCount`): port lists that passed validation denote at least one port. Every other way
in which `build` / `buildRouter` can fail is an ordinary load error. -/
theorem load_no_panic (env : Env) (cfg : Config) :
    buildRouter env cfg ≠ .error .unreachable ∧ ∀ rc, build env rc ≠ .error .unreachable :=
  ⟨(buildRouter_loads env cfg).ne, fun rc => (build_loads env rc).ne⟩

def exEnv : Env :=
  { resolvers := ["dns"], resolverMap := ["dns"], tcpClients := ["a", "b"], udpClients := ["a", "b"], servers := ["s0", "s1"], pfxSets := ["lan"] }
def exRoute : RouteConfig :=
  { name := "r1", client := "b", network := "tcp", fromServers := ["s1"], toDomains := ["x.test"],
    toMatchedDomainExpectedPrefixSets := ["lan"], toPrefixes := [⟨.v4 167772160, 8⟩], invertToPrefixes := true }
def exCfg : Config := { defaultTCPClientName := "a", defaultUDPClientName := "reject", routes := [exRoute] }
def exReq : Req :=
  { net := .tcp, server := 1, user := "u", srcIP := .v6 281470698520577, srcPort := 0, target := .domain "x.test", dstPort := 65535 }

example : exEnv.servers.Nodup := by decide
example : exReq.WF exEnv := ⟨by decide, by decide, by decide⟩
example : ∃ r, build exEnv exRoute = .ok r := ⟨_, rfl⟩
example : ∃ r, buildRouter exEnv exCfg = .ok r := ⟨_, rfl⟩
/-- hypotheses of `first_match_spelled_out` (1) and (3): a route list with a first element -/
example : exCfg.routes = [] ++ exRoute :: [] := rfl
/-- hypotheses of `resolver_failure_never_matches`: a resolver that fails, a prefix-only route, a domain target -/
example : ∃ (p : Params) (rc : RouteConfig) (q : Req) (d : String) (x : Err),
    q.target = .domain d ∧ resolveSpec p exEnv rc d = .error x ∧
    (rc.toDomains.isEmpty && rc.toDomainSets.isEmpty) = true ∧ rc.toGeoIPCountries.isEmpty = true ∧
    (rc.toPrefixes.isEmpty && rc.toPrefixSets.isEmpty) = false ∧ rc.disableNameResolutionForIPRules = false :=
  ⟨{ resolve := fun _ _ => .fail "servfail", domSet := fun _ _ => false, pfxSet := fun _ _ => false,
     pfx := Prefix.contains, country := fun _ => none },
   { name := "r", client := "a", toPrefixes := [⟨.v4 0, 0⟩] }, exReq, "x.test", .resolver "servfail",
   rfl, rfl, rfl, rfl, rfl, rfl⟩
/-- hypotheses of `port_representations_agree` / `port_table_denotes`: the empty table has bit 0 clear -/
example : Router.PortSet.empty.mem 0 = false := Router.PortSet.mem_empty 0
/-- the single-port conjuncts of `port_representations_agree` are not vacuous: a table with exactly one port -/
example : ∃ s : PortSet, s.count = 1 ∧ s.mem 0 = false := ⟨onePort, onePort_count, onePort_zero⟩
example : ∃ s1 s2, addPorts .badToPorts .empty [] = .ok s1 ∧ addPieces .badToPortRanges s1 (SSV.PortSet.items []) = .ok s2 :=
  ⟨_, _, rfl, rfl⟩
/-- hypothesis of `malformed_port_ranges_rejected`: "80,,443" has an empty piece; "5-5" is a one-port range; "0" is port 0 -/
example : ∃ pc ∈ SSV.PortSet.items [56, 48, 44, 44, 52, 52, 51], SSV.PortSet.parseItem pc = none := ⟨[], by decide, by decide⟩
example : SSV.PortSet.parseItem [53, 45, 53] = none := by decide
example : SSV.PortSet.parseItem [48] = none := by decide
/-- ... while "80,8000-8100" is well-formed and denotes 8050 but not 81 -/
example : rangesDenote [56, 48, 44, 56, 48, 48, 48, 45, 56, 49, 48, 48] 8050 = true ∧
    rangesDenote [56, 48, 44, 56, 48, 48, 48, 45, 56, 49, 48, 48] 81 = false := by decide
/-- hypotheses of `unknown_user_never_matches_fromUsers`: a list without the empty user name, an unauthenticated request -/
example : (["alice"] : List String).isEmpty = false ∧ "" ∉ (["alice"] : List String) := by decide
/-- hypothesis of `resolvers_agree`: two resolvers with different names -/
example : ∃ env', exEnv.withServiceResolvers ["dns1", "dns2"] = some env' := ⟨_, rfl⟩
/-- ... and a duplicate name is refused, as in service.Config.Manager -/
example : exEnv.withServiceResolvers ["dns1", "dns1"] = none := rfl

end SSV.C09

#print axioms SSV.C09.criteria_order_tie
#print axioms SSV.C09.control_flow_tie
#print axioms SSV.C09.literals_tie
#print axioms SSV.C09.port_zero_guard_tie
#print axioms SSV.C09.unguarded_port_zero_panics
#print axioms SSV.C09.route_build_sound
#print axioms SSV.C09.first_match
#print axioms SSV.C09.first_match_spelled_out
#print axioms SSV.C09.matched_route_spelled_out
#print axioms SSV.C09.resolver_construction_tie
#print axioms SSV.C09.resolvers_agree
#print axioms SSV.C09.malformed_port_ranges_rejected
#print axioms SSV.C09.unknown_user_never_matches_fromUsers
#print axioms SSV.C09.conds_all_hold
#print axioms SSV.C09.resolver_failure_never_matches
#print axioms SSV.C09.port_representations_agree
#print axioms SSV.C09.port_table_denotes
#print axioms SSV.C09.no_panic
#print axioms SSV.C09.load_no_panic
