import SSV.Proofs.Persist
/-
C20 — A crash or write failure while saving credentials never destroys the store.

Statement: "At every instant during an automatic save of credential changes made through the API, the
user-key store file on disk is a complete, loadable document holding either the previous or the new user
set, so that after a crash, kill or disk-full error at any point the server restarts and accepts exactly
the persisted users. Changes acknowledged before shutdown begins are written before the service stops."

All theorems are about the programs REGENERATED from cred/manager.go (`saveProg?`, `dequeueProg?`,
decoded from `SSV.Gen.C20`). The first three theorems are the Gen side conditions: the source has the
temp-file / fsync / rename shape (finding F13 repaired) and looks at the queue once more on cancellation
(finding F14 repaired). On a tree where `saveToFile` still is `os.WriteFile`, or `dequeueSave` returns
at once on `ctx.Done()`, they fail, and with them every theorem below that takes `hp`; what is true of those shapes instead
is proved at the end (`writeFile_…`, `noDrain_…`).

Model: SSV/Model/Persist.lean. `trace doc fault prog 0 r` lists every file-system state a run passes
through: before every call, after every byte count 0..len of the write, and the final state; with
`fault = some (j, k)` call number `j` fails (the write: after `k` bytes). `PostCrash fs c`: `c` is what a
restart may find at the store path after a power loss in state `fs` (any directory binding since the
start; arbitrary content for a file not fsynced since its last change); `afterKill fs` is what it finds
after a process kill. `load` is `LoadFromFile` at start-up.
-/
namespace SSV.C20
open SSV.Persist

/-- the regenerated save procedure is: stat, CreateTemp in the same directory, write, chmod, fsync, close,
rename over the store path; on failure remove the temporary file and return the error -/
theorem saveProg_is_tempRename : saveProg? = some progTempRename := by decide

/-- the regenerated debounce loop looks at the queue once more when it sees the cancellation -/
theorem dequeueProg_is_drain : dequeueProg? = some progDrain := by decide

/-- facts the debounce model relies on: 1-slot queue; every API mutator calls `enqueueSave` on its only
success path (so "acknowledged" implies "announced") -/
theorem debounce_facts : SSV.Gen.C20.queueCap = 1 ∧ SSV.Gen.C20.mutatorsEnqueue = true := by decide

/-- **crash_safe, any start state.** From ANY file system in which the store path names a synced file with the old document and
that entry is on stable storage (arbitrary other inodes, stale temporary files left by earlier crashes under any names;
`initFS`, the directory that holds just the store file, is one such), with or without one failing call: at every instant a
power loss leaves the old or the new set. -/
theorem crash_safe_any_start {U : Type} (C : Codec U) (hC : C.Lawful) (old new : U)
    (prog : List Stmt) (hp : saveProg? = some prog) (fs0 : FS) (hq : Quiescent fs0 (C.ser old)) (fault : Fault) :
    ∀ fs ∈ trace (C.ser new) fault prog 0 (startRun fs0),
      ∀ c, PostCrash fs c → load C c = some old ∨ load C c = some new := by
  cases hp.symm.trans saveProg_is_tempRename
  exact fun fs hfs c hc => (tempRename_safe _ hq fault fs hfs c hc).imp (load_of_eq_ser C hC) (load_of_eq_ser C hC)

/-- **crash_safe.** For every old and new store content, at every instant of the save (every prefix of the
FS program, every byte count of the write) a power loss leaves at the store path a file that the start-up
loader reads as exactly the old or the new user set (a process kill: `kill_safe`). -/
theorem crash_safe {U : Type} (C : Codec U) (hC : C.Lawful) (old new : U)
    (prog : List Stmt) (hp : saveProg? = some prog) :
    ∀ fs ∈ trace (C.ser new) none prog 0 (startRun (initFS (C.ser old))),
      ∀ c, PostCrash fs c → load C c = some old ∨ load C c = some new :=
  crash_safe_any_start C hC old new prog hp _ (quiescent_init _) none

/-- the same for a process kill (kernel keeps running: the loader sees the current directory and page cache) -/
theorem kill_safe {U : Type} (C : Codec U) (hC : C.Lawful) (old new : U)
    (prog : List Stmt) (hp : saveProg? = some prog) (fault : Fault) :
    ∀ fs ∈ trace (C.ser new) fault prog 0 (startRun (initFS (C.ser old))),
      load C (afterKill fs) = some old ∨ load C (afterKill fs) = some new := by
  cases hp.symm.trans saveProg_is_tempRename
  exact kill_safe_from C hC old new (kq_of_quiescent (quiescent_init _)) fault

/-- **enospc_safe.** The same when call number `j` of the save returns an error instead of the machine
crashing (the write: after any `k` bytes — ENOSPC, EFBIG, EIO; also a failing CreateTemp, chmod, fsync,
close, rename): at every instant of the run, including its error path and a crash on that path, the store
is the old or the new set; and when the run is over the store holds the new set iff the save reported
success, otherwise still the old one. -/
theorem enospc_safe {U : Type} (C : Codec U) (hC : C.Lawful) (old new : U)
    (prog : List Stmt) (hp : saveProg? = some prog) (j k : Nat) :
    (∀ fs ∈ trace (C.ser new) (some (j, k)) prog 0 (startRun (initFS (C.ser old))),
      ∀ c, PostCrash fs c → load C c = some old ∨ load C c = some new) ∧
    (let r := finalRun (C.ser new) (some (j, k)) none prog 0 (startRun (initFS (C.ser old)))
     (r.err = false → load C (afterKill r.fs) = some new) ∧
     (r.err = true → load C (afterKill r.fs) = some old)) := by
  refine ⟨crash_safe_any_start C hC old new prog hp _ (quiescent_init _) _, ?_⟩
  cases hp.symm.trans saveProg_is_tempRename
  have h := final_tempRename_gen _ (C.ser old) (C.ser new) (kq_of_quiescent (quiescent_init _)) (some (j, k))
  exact ⟨fun he => load_of_eq_ser C hC (h.1 he), fun he => load_of_eq_ser C hC (h.2 he)⟩

/-- a save without any fault ends with the new set at the store path and reports success -/
theorem save_completes {U : Type} (C : Codec U) (hC : C.Lawful) (old new : U)
    (prog : List Stmt) (hp : saveProg? = some prog) :
    let r := finalRun (C.ser new) none none prog 0 (startRun (initFS (C.ser old)))
    r.err = false ∧ load C (afterKill r.fs) = some new := by
  cases hp.symm.trans saveProg_is_tempRename
  exact save_completes_from C hC new _

/-- **every save of every history, across crashes and restarts.** A history is any list of saves, each
writing any set, each with or without one failing call (the write after any byte count), each either
running to its end or KILLED right after any statement — the process then restarts on whatever the
directory holds (left-over temporary files included). From any file system whose store path shows `u0`
(regular file or symbolic link, any stray files next to it), after any such history:
(1) the store path loads to `u0` or to the set of one of the saves;
(2) the next save **without a fault succeeds** and the store then loads to exactly the new set — no
    left-over can block it (this is what "changes acknowledged before shutdown are written" needs from the
    file system after earlier crashes);
(3) at every instant of the next save, with any failing call, a kill leaves that previous set or the new one. -/
theorem kill_safe_history {U : Type} (C : Codec U) (hC : C.Lawful) (u0 new : U)
    (prog : List Stmt) (hp : saveProg? = some prog) (fs0 : FS) (h0 : afterKill fs0 = some (C.ser u0))
    (hist : List (U × Fault × Option Nat)) (fault : Fault) :
    let evs : List SaveEv := hist.map (fun p => ⟨C.ser p.1, p.2.1, p.2.2⟩)
    let fs1 := runSaves prog fs0 evs
    ∃ prev, (prev = u0 ∨ prev ∈ hist.map (·.1)) ∧
      load C (afterKill fs1) = some prev ∧
      (let r := finalRun (C.ser new) none none prog 0 (startRun fs1)
       r.err = false ∧ load C (afterKill r.fs) = some new) ∧
      ∀ fs ∈ trace (C.ser new) fault prog 0 (startRun fs1),
        load C (afterKill fs) = some prev ∨ load C (afterKill fs) = some new := by
  cases hp.symm.trans saveProg_is_tempRename
  intro evs fs1
  obtain ⟨d, hd, hk⟩ := history_kq fs0 (C.ser u0) evs h0
  obtain ⟨prev, hpm, rfl⟩ : ∃ prev, (prev = u0 ∨ prev ∈ hist.map (·.1)) ∧ C.ser prev = d := by
    rcases hd with h | h
    · exact ⟨u0, Or.inl rfl, h.symm⟩
    · simp only [evs, List.map_map, List.mem_map] at h
      obtain ⟨p, hp1, hp2⟩ := h
      exact ⟨p.1, Or.inr (List.mem_map.mpr ⟨p, hp1, rfl⟩), by simpa using hp2⟩
  exact ⟨prev, hpm, load_of_eq_ser C hC hk, save_completes_from C hC new _, kill_safe_from C hC prev new hk fault⟩

/-- **temp-name freshness** (the hypothesis about `os.CreateTemp` with a `*` pattern, built into `createTemp`
of the model and tied to the source by the extractor, which maps only `os.CreateTemp(dir, "…*…")` to it):
the name it yields is not in the directory and is not the fixed name `<store>.tmp`. -/
theorem createTemp_name_fresh (tmps : List (Nat × Nat)) :
    freshName tmps ≠ 0 ∧ ∀ p ∈ tmps, p.1 < freshName tmps := by
  refine ⟨by simp [freshName], fun p hp => ?_⟩
  have := (le_foldl_max_fst tmps 0).2 p hp
  simp only [freshName]; omega

/-- **symbolic-link stores: what the repaired code does** (an observation about the repair, not a defect of
crash safety): `rename` replaces the link at the store path by a regular file holding the new set; the
file the link pointed to keeps the old document. `crash_safe_any_start` and `kill_safe_history` hold for link stores too
(`FS.isLink` is unconstrained in them); the server itself always reads the store path, so it restarts on the new set. -/
theorem symlink_store_link_replaced {U : Type} (C : Codec U) (hC : C.Lawful) (old new : U)
    (prog : List Stmt) (hp : saveProg? = some prog) :
    let r := finalRun (C.ser new) none none prog 0 (startRun (initLinkFS (C.ser old)))
    r.err = false ∧ r.fs.isLink = false ∧ load C (afterKill r.fs) = some new ∧
    r.fs.dest = some 0 ∧ r.fs.inodes[0]? = some ⟨C.ser old, true⟩ := by
  cases hp.symm.trans saveProg_is_tempRename
  obtain ⟨he, h⟩ := tempRename_ok (initLinkFS (C.ser old)) (C.ser new)
  exact ⟨he, h.isLink, load_of_eq_ser C hC h.kq, h.dest, h.getElem? rfl⟩

example (d : Bytes) : Quiescent (initFS d) d := quiescent_init d
/-- a start state with an unrelated inode, stale temporary files (also under the fixed name) and a symlinked store -/
example : Quiescent
    ({ inodes := [⟨[9], false⟩, ⟨[1, 0], true⟩, ⟨[1, 1], false⟩], target := some 1, thist := [some 1], tmps := [(4, 2), (0, 0)], isLink := true, dest := some 1 } : FS)
    [1, 0] := ⟨1, rfl, rfl, rfl⟩

/-- a lawful codec: unary numbers terminated by 0 -/
def toyCodec : Codec Nat :=
  { ser := fun n => List.replicate n 1 ++ [0]
    decode := fun b => if b.getLast? = some 0 then some (b.length - 1) else none
    empty := 0 }

theorem toy_lawful : toyCodec.Lawful :=
  ⟨by intro u; simp [toyCodec], by intro u; simp [toyCodec]⟩

example : saveProg? = some progTempRename := saveProg_is_tempRename
/-- among the states of a concrete save there is one with a half-written temporary file -/
example : ({ inodes := [⟨[1, 1, 0], true⟩, ⟨[1, 1], false⟩], target := some 0, thist := [some 0], tmps := [(1, 1)], isLink := false, dest := none } : FS)
    ∈ trace (toyCodec.ser 3) none progTempRename 0 (startRun (initFS (toyCodec.ser 2))) := by decide
example : PostCrash (initFS [1, 0]) (some [1, 0]) := ⟨some 0, by simp [initFS], ⟨[1, 0], true⟩, rfl, [1, 0], rfl, fun _ => rfl⟩
/-- a dirty file really can come back as anything -/
example : PostCrash { inodes := [⟨[1, 0], false⟩], target := some 0, thist := [some 0], tmps := [], isLink := false, dest := none } (some [7, 7, 7]) :=
  ⟨some 0, by simp, ⟨[1, 0], false⟩, rfl, [7, 7, 7], rfl, by simp⟩
example : (finalRun (toyCodec.ser 3) (some (3, 2)) none progTempRename 0 (startRun (initFS (toyCodec.ser 2)))).err = true := by decide

/-- **ack_saved_before_stop.** In every reachable state of the debounce transition system — every interleaving
of API calls (mutate, then enqueue, then return), the cancellation, and the saver goroutine, with every choice
a `select` with several ready alternatives can make, whatever the phase (queued / cooling down / saving) in
which the cancellation arrives — once the saver goroutine has returned (`wg.Wait()` in `Stop` is released)
the file holds at least every change acknowledged before the cancellation. -/
theorem ack_saved_before_stop (prog : List Node) (hp : dequeueProg? = some prog)
    (s : DState) (h : Reach prog s) (hx : s.exited = true) : s.acked ≤ s.disk := by
  cases hp.symm.trans dequeueProg_is_drain
  exact ((dinv_reach h).of_exited hx).2

/-- the goroutine returns only after the cancellation (no spontaneous exit that would end saving) -/
theorem exit_only_after_cancel (prog : List Node) (hp : dequeueProg? = some prog)
    (s : DState) (h : Reach prog s) (hx : s.exited = true) : s.cancelled = true := by
  cases hp.symm.trans dequeueProg_is_drain
  exact ((dinv_reach h).of_exited hx).1

/-- non-vacuity: a run in which a change is acknowledged, the shutdown arrives during the cool-down, the
goroutine saves and exits -/
theorem stop_reachable : ∃ s, Reach progDrain s ∧ s.exited = true ∧ s.acked = 1 ∧ s.disk = 1 := by
  have r1 := Reach.step Reach.init (Step.mutate (prog := progDrain) dinit)
  have r2 := Reach.step r1 (Step.enqueue _ 1 List.mem_cons_self)
  have r3 := Reach.step r2 (Step.sel _ [(.queue, 1), (.ctx, 5)] .queue 1 rfl rfl List.mem_cons_self rfl)
  have r4 := Reach.step r3 (Step.cancel _)
  have r5 := Reach.step r4 (Step.sel _ [(.timer, 2), (.ctx, 2)] .ctx 2 rfl rfl (List.mem_cons_of_mem _ List.mem_cons_self) rfl)
  have r6 := Reach.step r5 (Step.sel _ [(.queue, 3), (.dflt, 3)] .dflt 3 rfl rfl (List.mem_cons_of_mem _ List.mem_cons_self) rfl)
  have r7 := Reach.step r6 (Step.save _ 0 rfl rfl)
  have r8 := Reach.step r7 (Step.sel _ [(.queue, 1), (.ctx, 5)] .ctx 5 rfl rfl (List.mem_cons_of_mem _ List.mem_cons_self) rfl)
  have r9 := Reach.step r8 (Step.sel _ [(.queue, 1), (.dflt, 4)] .dflt 4 rfl rfl (List.mem_cons_of_mem _ List.mem_cons_self) rfl)
  have r10 := Reach.step r9 (Step.ret _ rfl rfl)
  exact ⟨_, r10, rfl, rfl, rfl⟩

/-- **F13 witness.** With `os.WriteFile` (truncate, then write) the run passes through a state in which the
store path names an empty file — after a kill and after a power loss alike. The loader then "succeeds" with
the empty store: neither the old nor the new user set unless one of them is empty. -/
theorem writeFile_not_crash_safe {U : Type} (C : Codec U) (old new : U) (ho : old ≠ C.empty) (hn : new ≠ C.empty) :
    ¬ (∀ fs ∈ trace (C.ser new) none progWriteFile 0 (startRun (initFS (C.ser old))),
        ∀ c, PostCrash fs c → load C c = some old ∨ load C c = some new) := by
  intro h
  obtain ⟨fs, hfs, _, hpc⟩ := writeFile_passes_prefix (C.ser old) (C.ser new) 0 (Nat.zero_le _)
  rcases h fs hfs _ hpc with h | h <;> simp [load] at h
  · exact ho h.symm
  · exact hn h.symm

/-- **F13, every byte count.** With `os.WriteFile`, for every `j` the run passes through a state in which
the store path names exactly the first `j` bytes of the new document; under the JSON hypothesis
`PrefixUnloadable` such a file does not load (start-up aborts), except for the document without its final
newline. -/
theorem writeFile_cut_unloadable {U : Type} (C : Codec U) (hP : C.PrefixUnloadable) (old new : U) (j : Nat)
    (h0 : 0 < j) (hj : j < (C.ser new).length) :
    ∃ fs ∈ trace (C.ser new) none progWriteFile 0 (startRun (initFS (C.ser old))),
      afterKill fs = some ((C.ser new).take j) ∧
      (load C (afterKill fs) = none ∨ load C (afterKill fs) = some new) := by
  obtain ⟨fs, hfs, hk, _⟩ := writeFile_passes_prefix (C.ser old) (C.ser new) j (Nat.le_of_lt hj)
  have hlen := List.length_take (i := j) (l := C.ser new)
  have hne : (C.ser new).take j ≠ [] := fun h => by rw [h] at hlen; simp at hlen; omega
  have hne2 : (C.ser new).take j ≠ C.ser new := fun h => by rw [h] at hlen; omega
  exact ⟨fs, hfs, hk, by rw [hk, load_of_ne_nil C hne]; exact hP new _ (List.take_prefix j _) hne2 hne⟩

/-- **crash_safe_partial for the truncate-then-write shape**: what does hold — under a process kill or a
failing call the store path holds the old document or a prefix of the new one, never unrelated bytes. -/
theorem writeFile_crash_safe_partial (o n : Bytes) (fault : Fault) :
    ∀ fs ∈ trace n fault progWriteFile 0 (startRun (initFS o)),
      afterKill fs = some o ∨ ∃ p, p <+: n ∧ afterKill fs = some p :=
  (writeFile_holds o n).on_trace rfl fault 0

/-- **fixed temporary name (`<store>.tmp`, O_EXCL) — what fails.** Each save alone is still atomic, but a save
killed inside its write (after any `k` bytes) leaves the name behind: the store still shows the old set, and
the next save — after the restart, with no fault whatsoever — fails with EEXIST; the store keeps the old
set, the acknowledged change is not written. With `os.CreateTemp` this cannot happen (`kill_safe_history` (2)). -/
theorem exclTmp_blocks_saves_after_crash {U : Type} (C : Codec U) (hC : C.Lawful) (old new new2 : U) (k : Nat) :
    let fs1 := (finalRun (C.ser new) (some (3, k)) (some 3) progExclTmp 0 (startRun (initFS (C.ser old)))).fs
    let r2 := finalRun (C.ser new2) none none progExclTmp 0 (startRun fs1)
    load C (afterKill fs1) = some old ∧ r2.err = true ∧ load C (afterKill r2.fs) = some old := by
  have h := exclTmp_stuck_after_crash (C.ser old) (C.ser new) (C.ser new2) k
  refine ⟨?_, h.2.1, ?_⟩
  · exact load_of_eq_ser C hC h.1
  · exact load_of_eq_ser C hC h.2.2

/-- **"keep a backup" before the final rename — what fails.** With `rename(store, store.bak)` inserted just before
`rename(tmp, store)` the run passes through a state — between the two calls, i.e. right after statement 7 of `progBackupRename` — in which the store path does not
exist: a kill there (and a power loss) leaves no store, the loader fails with ENOENT, start-up aborts. Byte
counts of the write never reach this instant; the `syscall` engine kills at every call boundary. -/
theorem backupRename_not_kill_safe {U : Type} (C : Codec U) (old new : U) :
    ∃ fs ∈ trace (C.ser new) none progBackupRename 0 (startRun (initFS (C.ser old))),
      afterKill fs = none ∧ load C (afterKill fs) = none ∧ PostCrash fs none :=
  ⟨_, finalRun_fs_mem_trace (C.ser new) none (some 7) progBackupRename 0 _, rfl, rfl, none, .head _, rfl⟩

/-- **F14 witness.** Without the final look at the queue: change acknowledged, context cancelled, the first
`select` takes `ctx.Done()`, the goroutine returns — `Stop` returns with the change not on disk. -/
theorem noDrain_loses_acknowledged_change : ∃ s, Reach progNoDrain s ∧ s.exited = true ∧ s.disk < s.acked := by
  have r1 := Reach.step Reach.init (Step.mutate (prog := progNoDrain) dinit)
  have r2 := Reach.step r1 (Step.enqueue _ 1 List.mem_cons_self)
  have r3 := Reach.step r2 (Step.cancel _)
  have r4 := Reach.step r3 (Step.sel _ [(.queue, 1), (.ctx, 4)] .ctx 4 rfl rfl (List.mem_cons_of_mem _ List.mem_cons_self) rfl)
  have r5 := Reach.step r4 (Step.ret _ rfl rfl)
  exact ⟨_, r5, rfl, by decide⟩

end SSV.C20

#print axioms SSV.C20.saveProg_is_tempRename
#print axioms SSV.C20.dequeueProg_is_drain
#print axioms SSV.C20.debounce_facts
#print axioms SSV.C20.crash_safe
#print axioms SSV.C20.kill_safe
#print axioms SSV.C20.enospc_safe
#print axioms SSV.C20.save_completes
#print axioms SSV.C20.crash_safe_any_start
#print axioms SSV.C20.kill_safe_history
#print axioms SSV.C20.createTemp_name_fresh
#print axioms SSV.C20.symlink_store_link_replaced
#print axioms SSV.C20.exclTmp_blocks_saves_after_crash
#print axioms SSV.C20.backupRename_not_kill_safe
#print axioms SSV.C20.toy_lawful
#print axioms SSV.C20.ack_saved_before_stop
#print axioms SSV.C20.exit_only_after_cancel
#print axioms SSV.C20.stop_reachable
#print axioms SSV.C20.writeFile_not_crash_safe
#print axioms SSV.C20.writeFile_cut_unloadable
#print axioms SSV.C20.writeFile_crash_safe_partial
#print axioms SSV.C20.noDrain_loses_acknowledged_change
