import SSV.Proofs.UdpClient
import SSV.Proofs.UdpMulti
/-
C04 — Authenticated UDP packets are delivered at most once; fresh ones never refused.
The property theorems with their examples, the Gen side conditions that tie the models to the source, and the size
hypothesis `SizeOk`. The specification of the filter is SSV/Model/SWFSpec.lean; the predicates the statements about
the unpackers are written with are defined beside their lemmas: `ClockOk`, `tsNear`, `serverJunk`, `clientJunk`,
`serverDelivered` in Proofs/UdpSession.lean, `MonoFrom`, `EvOk`, `clientOkKeys`, `ghostAfter`, `clientChanges` in
Proofs/UdpClient.lean, `sessionUser`, `proj` in Proofs/UdpMulti.lean.

Part 1: the sliding-window filter (ss2022/slidingwindow.go, model SSV/Model/SWF.lean) refines the
specification "list of delivered ids + newest" (SSV/Model/SWFSpec.lean) for EVERY window size
with `1 ≤ size` and `size + 63 < 2^63` and EVERY sequence of operations `Add(c)`,
`IsOk(c);MustAdd(c)`, `IsOk(c)`, `Reset()` with arbitrary ids (in particular all ids `< 2^64`).

Excluded sizes (stated as the decidable hypothesis `SizeOk`): for `size + 63 ≥ 2^63` the code's
`1 << bits.Len64(size+63)` is `2^63·2 = 0 (mod 2^64)` or `size+63` itself wraps; the model keeps
those wraps explicit (`SWF.new`), the theorems do not cover them (finding F15, decided under C18;
corr_c04 runs the real code at a few such sizes and reports the outcome in its notes).

Part 2: the server and the client unpacker (ss2022/packet.go, model SSV/Model/UdpSession.lean). Part 3: the multi-user
server behind its session table (ss2022/udp.go, service/udp_session.go, model SSV/Model/UdpMulti.lean).
-/
namespace SSV.C04
open SSV.SWF

/-- Gen side condition: the proofs are for the block width the source has now. -/
theorem gen_swfBlockBits : SSV.Gen.C04.swfBlockBits = 64 := blockBits_eq

/-- Gen side condition: the bodies of the filter functions the model `SSV.SWF` mirrors statement by statement
(all arithmetic on the peer-controlled 64-bit packet id: `counter > f.last`, `f.last-counter >= f.size`,
`counter / swfBlockBits & mask`, `counter % swfBlockBits`, `min(int(blockIndex-lastBlockIndex), len(f.ring))`,
the clearing loop, `1 << bits.Len64(size+swfBlockBits-1)`), as the source has them now. -/
theorem gen_swf_sources :
    SSV.Gen.C04.srcSwfNew =
      "{ ringBits := uint64(1 << bits.Len64(size+swfBlockBits-1)) ringBlocks := ringBits / swfBlockBits return &SlidingWindowFilter{ size: size, ring: make([]uint, ringBlocks), ringBlockIndexMask: ringBlocks - 1, } }" ∧
    SSV.Gen.C04.srcSwfIsOk =
      "{ if counter > f.last { return true } if f.last-counter >= f.size { return false } return f.ring[f.blockIndex(counter)]&(1<<f.bitIndex(counter)) == 0 }" ∧
    SSV.Gen.C04.srcSwfMustAdd =
      "{ blockIndex := f.unmaskedBlockIndex(counter) if counter > f.last { lastBlockIndex := f.unmaskedBlockIndex(f.last) clearBlockCount := min(int(blockIndex-lastBlockIndex), len(f.ring)) for range clearBlockCount { lastBlockIndex = (lastBlockIndex + 1) & f.ringBlockIndexMask f.ring[lastBlockIndex] = 0 } f.last = counter } blockIndex &= f.ringBlockIndexMask f.ring[blockIndex] |= 1 << f.bitIndex(counter) }" ∧
    SSV.Gen.C04.srcSwfAdd =
      "{ unmaskedBlockIndex := f.unmaskedBlockIndex(counter) blockIndex := unmaskedBlockIndex & f.ringBlockIndexMask bitIndex := f.bitIndex(counter) switch { case counter > f.last: lastBlockIndex := f.unmaskedBlockIndex(f.last) clearBlockCount := min(int(unmaskedBlockIndex-lastBlockIndex), len(f.ring)) for range clearBlockCount { lastBlockIndex = (lastBlockIndex + 1) & f.ringBlockIndexMask f.ring[lastBlockIndex] = 0 } f.last = counter case f.last-counter >= f.size: return false case f.ring[blockIndex]&(1<<bitIndex) != 0: return false } f.ring[blockIndex] |= 1 << bitIndex return true }" ∧
    SSV.Gen.C04.srcSwfReset =
      "{ f.last = 0 f.ring[0] = 0 }" ∧
    SSV.Gen.C04.srcSwfBlockIndex =
      "{ return counter / swfBlockBits & f.ringBlockIndexMask }" ∧
    SSV.Gen.C04.srcSwfUnmaskedBlockIndex =
      "{ return counter / swfBlockBits }" ∧
    SSV.Gen.C04.srcSwfBitIndex =
      "{ return counter % swfBlockBits }" :=
  ⟨rfl, rfl, rfl, rfl, rfl, rfl, rfl, rfl⟩

/-- the window sizes the theorems quantify over -/
def SizeOk (size : Nat) : Prop := 1 ≤ size ∧ size + 63 < 2 ^ 63

instance (size : Nat) : Decidable (SizeOk size) := by unfold SizeOk; infer_instance

example : SizeOk 1 ∧ SizeOk 256 ∧ SizeOk (2 ^ 63 - 64) ∧ ¬ SizeOk 0 ∧ ¬ SizeOk (2 ^ 63 - 63) := by decide

/-- **swf_refines.** For every size in range and every operation sequence, the verdict sequence of the
ring-of-words filter equals the verdict sequence of the specification: an id is accepted iff it was
not delivered before and (nothing was delivered yet, or it is newer than the newest delivered id, or
it is fewer than `size` behind it). Covers `Add` and `IsOk;MustAdd` (and mixed use, probes, `Reset`). -/
theorem swf_refines (size : Nat) (h : SizeOk size) (ops : List Op) :
    verdicts (new size) ops = specVerdicts size [] ops ∧
    deliveredFrom (new size) [] ops = specDelivered size [] ops :=
  ⟨(run_sim (sim_new h) ops).1, (run_sim (sim_new h) ops).2.1⟩

example : ∃ ops, verdicts (new 2) ops = [true, true, false, false, true, true] :=
  ⟨[.add 5, .check 4, .add 3, .add 5, .probe 70, .add 70], by decide⟩

/-- **at_most_once.** No id is delivered twice (within one filter life, i.e. between `Reset`s):
the list of ids the filter accepted through `Add` / `IsOk;MustAdd` has no duplicates. -/
theorem at_most_once (size : Nat) (h : SizeOk size) (ops : List Op) :
    (deliveredFrom (new size) [] ops).Nodup := by
  rw [(swf_refines size h ops).2]
  exact specDelivered_nodup List.nodup_nil ops

/-- **fresh_never_refused.** After any history `pre`, whatever the arrival order was, an id that is not
yet delivered and is newer than, or fewer than `size` behind, the newest delivered id (or arrives
when nothing was delivered yet) is accepted — by `Add`, and by `IsOk` (so `MustAdd` follows). -/
theorem fresh_never_refused (size : Nat) (h : SizeOk size) (pre : List Op) (c : Nat)
    (hf : Fresh size (deliveredFrom (new size) [] pre) c) :
    (add (after (new size) pre) c).2 = true ∧ isOk (after (new size) pre) c = true := by
  have hs := (run_sim (sim_new h) pre).2.2
  exact ⟨by rw [hs.add_eq, if_pos hf], (hs.isOk_iff c).mpr hf⟩

example : Fresh 2 (deliveredFrom (new 2) [] [.add 5]) 4 := by decide

/-- **refused_only_if_not_fresh.** Conversely an id that is not fresh is refused and the filter is left
exactly as it was. -/
theorem refused_only_if_not_fresh (size : Nat) (h : SizeOk size) (pre : List Op) (c : Nat)
    (hf : ¬ Fresh size (deliveredFrom (new size) [] pre) c) :
    add (after (new size) pre) c = (after (new size) pre, false) ∧ isOk (after (new size) pre) c = false := by
  have hs := (run_sim (sim_new h) pre).2.2
  exact ⟨by rw [hs.add_eq, if_neg hf], by rw [hs.isOk_eq, decide_eq_false hf]⟩

example : ¬ Fresh 2 (deliveredFrom (new 2) [] [.add 5]) 3 := by decide

/-- **ring_access_in_range.** Along every run every ring access of `IsOk`/`MustAdd`/`Add` is
inside the ring (the `getD` default of the model is never used, the code cannot panic there) and
every ring word stays below `2^64` (the `Nat` words of the model are the code's `uint` words). -/
theorem ring_access_in_range (size : Nat) (h : SizeOk size) (ops : List Op) (c : Nat) :
    blockIndex (after (new size) ops) c < (after (new size) ops).ring.length ∧
    (∀ i, (i + 1) &&& (after (new size) ops).mask < (after (new size) ops).ring.length) ∧
    (∀ i, word (after (new size) ops) i < 2 ^ 64) :=
  (run_sim (sim_new h) ops).2.2.access c

/-- A counter at least `size` behind the newest accepted one is refused and leaves the filter unchanged
(any filter, any size). -/
theorem add_behind_refused (f : Filter) (c : Nat) (h1 : ¬ c > f.last) (h2 : f.last - c ≥ f.size) :
    add f c = (f, false) := by
  simp [add, h1, h2]

example : ∃ (f : Filter) (c : Nat), ¬ c > f.last ∧ f.last - c ≥ f.size := ⟨(add (new 2) 9).1, 3, by decide⟩

open SSV.UdpSession

/-- Gen side conditions: the order of the property-relevant statements in the two `UnpackInPlace`
functions as the source has it now: length guard, [session classification,] `IsOk` guard, AEAD open,
header parse/validation (each followed by `if err != nil { return }`), lazy filter creation, `MustAdd`,
and only then writes to the receiver's state. This is what justifies the shape of the model
(`serverVerdict`/`serverCommit`, `clientVerdict`/`clientCommit`): no state is written before the last
early return. -/
theorem gen_serverUnpackOrder : SSV.Gen.C04.serverUnpackOrder =
    ["guard", "isok-guard", "open", "ret-if-err", "parse", "ret-if-err", "create[p.filter == nil]", "mustadd", "return"] := by
  rfl

theorem gen_clientUnpackOrder : SSV.Gen.C04.clientUnpackOrder =
    ["guard",
     "switch[ssid == p.currentServerSessionID && p.currentServerSessionAEAD != nil; ssid == p.oldServerSessionID && p.oldServerSessionAEAD != nil; time.Since(p.oldServerSessionLastSeenTime) < time.Minute:may-return; default:may-return]",
     "isok-guard", "open", "ret-if-err", "parse", "ret-if-err", "create[sessionStatus == newServerSession]", "mustadd",
     "switch[oldServerSession:write:oldServerSessionLastSeenTime; newServerSession:write:oldServerSessionID+oldServerSessionAEAD+oldServerSessionFilter+oldServerSessionLastSeenTime+currentServerSessionID+currentServerSessionAEAD+currentServerSessionFilter]",
     "return"] := by
  rfl

/-- Gen side condition: the constants of the header checks and of the one-minute rule. -/
theorem gen_udp_constants :
    SSV.Gen.C04.HeaderTypeClientPacket = 0 ∧ SSV.Gen.C04.HeaderTypeServerPacket = 1 ∧
    SSV.Gen.C04.MaxEpochDiff = 30 ∧ SSV.Gen.C04.clientSessionChangeMinInterval = 60 * 1000000000 := by
  decide

/-- Gen side condition: the timestamp validation both UDP header parsers call, as the source has it now — the
body of `ValidateUnixEpochTimestamp` (wrapping `int64` subtraction of whole seconds, two signed comparisons
against `±MaxEpochDiff`; model: `SaltPool.tsValidWord` on 64-bit words). -/
theorem gen_src_validateTimestamp : SSV.Gen.C04.srcValidateTimestamp =
    "{ tsEpoch := int64(binary.BigEndian.Uint64(b)) nowEpoch := now.Unix() diff := tsEpoch - nowEpoch if diff < -MaxEpochDiff || diff > MaxEpochDiff { return &HeaderError[int64]{ErrBadTimestamp, nowEpoch, tsEpoch} } return nil }" := rfl

/-- Gen side condition: the call sites of `ValidateUnixEpochTimestamp`, i.e. the error-producing statements of the two
UDP header parsers in order (length, type, timestamp via `ValidateUnixEpochTimestamp(b[1:1+8], now)`, [client session id,] padding, address): the order
`parseClientHeader` / `parseServerHeader` mirror. -/
theorem gen_udpHeaderChecks :
    SSV.Gen.C04.udpClientHeaderChecks =
      ["if len(b) < UDPClientMessageHeaderFixedLength", "if b[0] != HeaderTypeClientPacket",
       "err<-ValidateUnixEpochTimestamp(b[1:1+8], now)", "ret-if-err", "if payloadStart > len(b)",
       "err<-domainCache.ConnAddrFromSlice(b[payloadStart:])", "ret-if-err"] ∧
    SSV.Gen.C04.udpServerHeaderChecks =
      ["if len(b) < UDPServerMessageHeaderFixedLength", "if b[0] != HeaderTypeServerPacket",
       "err<-ValidateUnixEpochTimestamp(b[1:1+8], now)", "ret-if-err", "if pcsid != csid", "if payloadStart > len(b)",
       "err<-socks5.AddrPortFromSlice(b[payloadStart:])", "ret-if-err"] := ⟨rfl, rfl⟩

/-- Gen side condition: the program of checks the model's `parseClientHeader` / `parseServerHeader` EXECUTE (they run
`SSV.Gen.C04.udpClientHeaderOrder` / `udpServerHeaderOrder`, extracted from the parser bodies, first failing check
decides): a reordering in the source changes the model's error class for multi-fault packets with it. -/
theorem gen_udpHeaderOrder :
    SSV.Gen.C04.udpClientHeaderOrder = [.len, .typ, .ts, .pad, .addr] ∧
    SSV.Gen.C04.udpServerHeaderOrder = [.len, .typ, .ts, .csid, .pad, .addr] := by decide

/-- **header_first_fault_decides.** The model's parsers report the error of the first failing check in source order —
e.g. a stale packet of the wrong type is a type error, a stale one with a foreign client session id is a
timestamp error — and accept iff no check fails. -/
theorem header_first_fault_decides (now csid : Nat) (p : Packet) :
    (parseServerHeader now csid p = none ↔
      (p.hdr = true ∧ p.typ = SSV.Gen.C04.HeaderTypeServerPacket ∧ tsValid p.ts now = true ∧ p.csid = csid ∧
        p.padOk = true ∧ p.addrOk = true)) ∧
    (p.hdr = true → p.typ ≠ SSV.Gen.C04.HeaderTypeServerPacket → parseServerHeader now csid p = some .badType) ∧
    (p.hdr = true → p.typ = SSV.Gen.C04.HeaderTypeServerPacket → tsValid p.ts now = false →
      parseServerHeader now csid p = some .badTimestamp) ∧
    (p.hdr = true → p.typ = SSV.Gen.C04.HeaderTypeServerPacket → tsValid p.ts now = true → p.csid ≠ csid →
      parseServerHeader now csid p = some .csidMismatch) := by
  refine ⟨parseServerHeader_none_iff, ?_, ?_, ?_⟩
  · intro hh ht
    simp [parseServerHeader, SSV.Gen.C04.udpServerHeaderOrder, runChecks, checkFails, hh, ht, headerTypeServerPacket]
  · intro hh ht hts
    simp [parseServerHeader, SSV.Gen.C04.udpServerHeaderOrder, runChecks, checkFails, hh, ht, hts, headerTypeServerPacket]
  · intro hh ht hts hc
    simp [parseServerHeader, SSV.Gen.C04.udpServerHeaderOrder, runChecks, checkFails, hh, ht, hts, hc, headerTypeServerPacket]

/-- **timestamp_check_meaning.** For EVERY 64-bit timestamp word (not only "clock moved by a bit more than 30 s"):
on a sane clock the check as written accepts the word iff, read as `int64`, it is within `MaxEpochDiff` = 30
seconds of the clock; hence a delivered packet — server or client unpacker, any state — carries such a
timestamp. -/
theorem timestamp_check_meaning (now : Nat) (hck : ClockOk now) :
    (∀ ts : BitVec 64, tsValid ts now = true ↔ tsNear ts now) ∧
    (∀ (st : ServerState) (p : Packet), (serverStep st now p).2 = .ok → tsNear p.ts now) ∧
    (∀ (st : ClientState) (p : Packet), (clientStep st now p).2 = .ok → tsNear p.ts now) :=
  ⟨fun ts => tsValid_iff_near ts hck, fun _ _ h => serverStep_near hck h, fun _ _ h => clientStep_near hck h⟩

example : ClockOk 100000000000 ∧ tsNear 130 100000000000 ∧ ¬ tsNear 131 100000000000 ∧
    ¬ tsNear (100 + 4611686018427387904) 100000000000 ∧ ¬ tsNear (100 + 36028797018963968) 100000000000 ∧
    ¬ tsNear 18446744073709551615 100000000000 := by
  decide

/-- **rejected_is_noop.** A packet that is not delivered — too short, replayed, forged (AEAD does not
open), wrong type, stale timestamp, another client's session id, malformed rest, or (client) a server
session change refused by the one-minute rule — leaves the unpacker state exactly as it was:
the filter(s), their existence, the session bookkeeping. So it cannot change which later packets are
accepted. Server and client unpacker. -/
theorem rejected_is_noop :
    (∀ (st : ServerState) (now : Nat) (p : Packet), (serverStep st now p).2 ≠ .ok → (serverStep st now p).1 = st) ∧
    (∀ (st : ClientState) (now : Nat) (p : Packet), (clientStep st now p).2 ≠ .ok → (clientStep st now p).1 = st) :=
  ⟨serverStep_noop, clientStep_noop⟩

example : ∃ (st : ServerState) (now : Nat) (p : Packet), (serverStep st now p).2 ≠ .ok :=
  ⟨serverInit 4, 0, { long := true, sid := 0, pid := 0, authentic := false, hdr := true, typ := 0, ts := 0, csid := 0, padOk := true, addrOk := true }, by decide⟩

/-- **junk_never_delivered.** Forged, wrong-type, stale packets — stale = the 64-bit timestamp word, read as `int64`,
is more than `MaxEpochDiff` s away from the clock, whatever its value — (and, on the client, packets that name
another client session) are never delivered, in any state, on a sane clock. -/
theorem junk_never_delivered :
    (∀ (st : ServerState) (now : Nat) (p : Packet), ClockOk now → serverJunk now p = true → (serverStep st now p).2 ≠ .ok) ∧
    (∀ (st : ClientState) (now : Nat) (p : Packet), ClockOk now → clientJunk st.csid now p = true → (clientStep st now p).2 ≠ .ok) :=
  ⟨fun _ _ _ hc h => serverJunk_rejected hc h, fun _ _ _ hc h => clientJunk_rejected hc h⟩

example : serverJunk 0 { long := true, sid := 0, pid := 0, authentic := true, hdr := true, typ := 0, ts := 31, csid := 0, padOk := true, addrOk := true } = true := by
  decide

/-- **junk_interleaving.** Interleaving any amount of such junk into a history changes no verdict on the
other packets: the verdicts of the non-junk packets of a history equal the verdicts of the history
with the junk removed (every state, every history; server and client). -/
theorem junk_interleaving :
    (∀ (st : ServerState) (evs : List Event), (∀ e ∈ evs, ClockOk e.1) →
      ((evs.zip (serverRun st evs)).filter (fun e => !serverJunk e.1.1 e.1.2)).map (·.2) =
        serverRun st (evs.filter (fun e => !serverJunk e.1 e.2))) ∧
    (∀ (st : ClientState) (evs : List Event), (∀ e ∈ evs, ClockOk e.1) →
      ((evs.zip (clientRun st evs)).filter (fun e => !clientJunk st.csid e.1.1 e.1.2)).map (·.2) =
        clientRun st (evs.filter (fun e => !clientJunk st.csid e.1 e.2))) :=
  ⟨junk_filter serverStep serverRun (fun _ => rfl) (fun _ _ _ _ => rfl) (fun _ => serverJunk) (fun _ _ _ => rfl)
      fun st now p hc hj => serverStep_noop st now p (serverJunk_rejected hc hj),
   junk_filter clientStep clientRun (fun _ => rfl) (fun _ _ _ _ => rfl) (fun st => clientJunk st.csid)
      (fun st now p => by rw [(clientStep_params st now p).1])
      fun st now p hc hj => clientStep_noop st now p (clientJunk_rejected hc hj)⟩

/-- **server_unpack_refines.** For every filter size in range, after every history `pre` (any mix of
genuine, replayed, reordered, forged, stale, malformed packets at any times) the server unpacker
delivers a packet iff it is long enough, authentic, its header validates now (complete, client type, timestamp
word within `MaxEpochDiff` s of the clock, well-formed rest), and its packet id is
fresh w.r.t. the ids delivered so far (not delivered; newer than, or fewer than `size` behind, the
newest delivered; or nothing delivered yet). -/
theorem server_unpack_refines (n : Nat) (h : SizeOk n) (pre : List Event) (now : Nat) (hck : ClockOk now) (p : Packet) :
    (serverStep (serverAfter (serverInit n) pre) now p).2 = .ok ↔
      (p.long = true ∧ p.authentic = true ∧
        (p.hdr = true ∧ p.typ = SSV.Gen.C04.HeaderTypeClientPacket ∧ tsNear p.ts now ∧ p.padOk = true ∧ p.addrOk = true) ∧
        Fresh n (serverDelivered (serverInit n) [] pre) p.pid) := by
  have := (serverStep_spec (sim_new h) (serverRun_inv (sim_new h) (serverInit_inv n) List.nodup_nil pre).1 now p).1
  rw [parseClientHeader_none_iff, tsValid_iff_near p.ts hck] at this
  exact this

/-- **server_at_most_once.** The server unpacker never delivers the same packet id twice in a session. -/
theorem server_at_most_once (n : Nat) (h : SizeOk n) (evs : List Event) :
    (serverDelivered (serverInit n) [] evs).Nodup :=
  (serverRun_inv (sim_new h) (serverInit_inv n) List.nodup_nil evs).2

example : serverRun (serverInit 4)
    [(0, { long := true, sid := 0, pid := 7, authentic := true, hdr := true, typ := 0, ts := 0, csid := 0, padOk := true, addrOk := true }),
     (0, { long := true, sid := 0, pid := 7, authentic := true, hdr := true, typ := 0, ts := 0, csid := 0, padOk := true, addrOk := true })]
    = [.ok, .replay] := by decide

/-- **client_at_most_once.** For every filter size in range, on every
history with a clock that never goes back (any mix of genuine, replayed, reordered, forged, stale,
foreign packets; any number of server sessions coming, going and coming back), no packet is delivered
twice: the (server session id, packet id, timestamp) triples of the delivered packets are pairwise
distinct — whether the packet's session is still current, is the old one, or was dropped in the
meantime (then the one-minute rule plus the timestamp check reject the replay).
Timestamps are arbitrary 64-bit words; the only sanity hypothesis `EvOk` is a clock whose `Unix()+30` is an
`int64`. The proof uses the arithmetic meaning of the check through `ts_expire`: a word that validated once validates
no more 61 s later (`SaltPool.valid_span`). An honest server uses each (session id, packet id) once, so a
replay is a packet with the same triple. -/
theorem client_at_most_once (n csid : Nat) (h : SizeOk n) (evs : List Event)
    (hm : MonoFrom 0 evs) (hr : ∀ e ∈ evs, EvOk e) :
    (clientOkKeys (clientInit n csid) evs).Nodup :=
  (client_run (st := clientInit n csid) (sim_new h) (clientInit_inv n csid) evs hm hr).1

example : ∃ evs : List Event, MonoFrom 0 evs ∧ (∀ e ∈ evs, EvOk e) ∧ clientRun (clientInit 4 9) evs = [.ok, .replay, .ok, .tooManySessions] :=
  ⟨[(1000000000, { long := true, sid := 5, pid := 7, authentic := true, hdr := true, typ := 1, ts := 1, csid := 9, padOk := true, addrOk := true }),
    (2000000000, { long := true, sid := 5, pid := 7, authentic := true, hdr := true, typ := 1, ts := 1, csid := 9, padOk := true, addrOk := true }),
    (2000000000, { long := true, sid := 5, pid := 8, authentic := true, hdr := true, typ := 1, ts := 1, csid := 9, padOk := true, addrOk := true }),
    (3000000000, { long := true, sid := 6, pid := 0, authentic := true, hdr := true, typ := 1, ts := 3, csid := 9, padOk := true, addrOk := true })],
   by simp [MonoFrom],
   by unfold EvOk; decide, by decide⟩

/-- **client_fresh_never_refused.** After every history `pre` on a monotone clock, a long-enough authentic
packet whose header validates now and whose server session is the current one (resp. the old one) is
delivered whenever its packet id is fresh w.r.t. the ids delivered in the present life of that session
(`ghostAfter` files every delivered packet under current / old / dropped exactly as the sessions move). -/
theorem client_fresh_never_refused (n csid : Nat) (h : SizeOk n) (pre : List Event)
    (hm : MonoFrom 0 pre) (hr : ∀ e ∈ pre, EvOk e) (t : Nat) (p : Packet)
    (hl : p.long = true) (ha : p.authentic = true) (hp : parseServerHeader t csid p = none) :
    let st := clientAfter (clientInit n csid) pre
    let g := ghostAfter (clientInit n csid) { cur := [], old := [], dropped := [] } pre
    (isCur st p.sid = true → Fresh n (g.cur.map (·.pid)) p.pid → (clientStep st t p).2 = .ok) ∧
    (isCur st p.sid = false → isOld st p.sid = true → Fresh n (g.old.map (·.pid)) p.pid → (clientStep st t p).2 = .ok) := by
  intro st g
  obtain ⟨_, _, ⟨T', hinv⟩, hfs, hcs⟩ := client_run (st := clientInit n csid) (sim_new h) (clientInit_inv n csid) pre hm hr
  have hfs' : st.filterSize = n := hfs
  have hcs' : st.csid = csid := hcs
  have := client_fresh_accepted hinv t p hl ha (by rw [hcs']; exact hp)
  rw [hfs'] at this
  refine ⟨fun a b => ?_, fun a b c => ?_⟩
  · rw [clientStep_res]; exact this.1 a b
  · rw [clientStep_res]; exact this.2 a b c

example :
    let pre : List Event := [(1000000000, { long := true, sid := 5, pid := 7, authentic := true, hdr := true, typ := 1, ts := 1, csid := 9, padOk := true, addrOk := true })]
    isCur (clientAfter (clientInit 4 9) pre) 5 = true ∧
    Fresh 4 ((ghostAfter (clientInit 4 9) { cur := [], old := [], dropped := [] } pre).cur.map (·.pid)) 8 := by
  decide

/-- **client_change_rate.** On a clock that never goes back, any two
deliveries that change the current server session (accept a packet of a session that is neither the
current nor the old one) are at least `clientSessionChangeMinInterval` = one minute apart; the first
session a client ever sees counts as a change. -/
theorem client_change_rate (st : ClientState) (T : Nat) (evs : List Event) (hm : MonoFrom T evs) :
    (clientChanges st evs).Pairwise (fun a b => a + SSV.Gen.C04.clientSessionChangeMinInterval ≤ b) := by
  induction evs generalizing st T with
  | nil => exact List.Pairwise.nil
  | cons ev r ih =>
    obtain ⟨t, p⟩ := ev
    obtain ⟨hTt, hm'⟩ := hm
    simp only [clientChanges]
    split
    · next hch =>
      exact List.Pairwise.cons
        (client_changes_spaced r hm' t (change_step hch.1 hch.2.1 hch.2.2).2 (Nat.le_refl _)) (ih _ _ hm')
    · exact ih _ _ hm'

example : clientChanges (clientInit 4 9)
    [(1000000000, { long := true, sid := 5, pid := 7, authentic := true, hdr := true, typ := 1, ts := 1, csid := 9, padOk := true, addrOk := true }),
     (61000000000, { long := true, sid := 6, pid := 0, authentic := true, hdr := true, typ := 1, ts := 61, csid := 9, padOk := true, addrOk := true })]
    = [1000000000, 61000000000] := by decide

open SSV.UdpMulti

/-- **eih_rejected_is_noop.** Behind the session table of a multi-user server a datagram that is not delivered —
too short, identity header of no known user, sealed under another user's key, replayed, stale, … — changes
nothing: no session is created, no filter is touched, in this or any other session. -/
theorem eih_rejected_is_noop (n : Nat) (t : Table) (now : Nat) (e : EPacket)
    (h : (multiStep n t now e).2 ≠ .res .ok) : (multiStep n t now e).1 = t :=
  multiStep_noop n t now e h

example : (multiStep 4 emptyTable 0
    { sep := true, eih := true, eihUser := none, keyUser := some 1,
      pkt := { long := true, sid := 7, pid := 0, authentic := true, hdr := true, typ := 0, ts := 0, csid := 0, padOk := true, addrOk := true } }).2
    = .userNotFound := by decide

/-- **eih_unpack_refines** (at-most-once and fresh-never-refused per (user, session)). For every filter size in
range, after every history `pre` over any number of users and client sessions, a datagram is delivered iff:
it has a separate header; it is sealed under the key of the session's user (for the first packet of a session:
of the user its identity header names); it is long enough; its header validates now (client type, timestamp
word within `MaxEpochDiff` s of the clock, well-formed); and its packet id is fresh w.r.t. the ids delivered
*in its own client session*. -/
theorem eih_unpack_refines (n : Nat) (h : SizeOk n) (pre : List MEvent) (now : Nat) (hck : ClockOk now) (e : EPacket) :
    (multiStep n (multiAfter n emptyTable pre) now e).2 = .res .ok ↔
      (e.sep = true ∧
       (∃ u, sessionUser (multiAfter n emptyTable pre) e = some u ∧ e.keyUser = some u) ∧
       e.pkt.long = true ∧
       (e.pkt.hdr = true ∧ e.pkt.typ = SSV.Gen.C04.HeaderTypeClientPacket ∧ tsNear e.pkt.ts now ∧ e.pkt.padOk = true ∧ e.pkt.addrOk = true) ∧
       Fresh n (proj e.pkt.sid (multiDelivered n emptyTable [] pre)) e.pkt.pid) := by
  obtain ⟨hinv, _⟩ := multiRun_inv (sim_new h) (emptyTable_inv n) List.nodup_nil pre
  have := (multiStep_spec (sim_new h) hinv now e).1
  rw [parseClientHeader_none_iff, tsValid_iff_near e.pkt.ts hck] at this
  exact this

/-- **eih_at_most_once.** No (client session id, packet id) is delivered twice, whatever the users, keys and
identity headers of the datagrams of the history. -/
theorem eih_at_most_once (n : Nat) (h : SizeOk n) (evs : List MEvent) :
    (multiDelivered n emptyTable [] evs).Nodup :=
  (multiRun_inv (sim_new h) (emptyTable_inv n) List.nodup_nil evs).2

/-- **eih_foreign_user_is_junk.** A datagram sealed under another user's key than the session's user (for a new
session: than the user its identity header names), or forged, is never delivered and changes nothing. -/
theorem eih_foreign_user_is_junk (n : Nat) (h : SizeOk n) (pre : List MEvent) (now : Nat) (e : EPacket)
    (hf : ∀ u, sessionUser (multiAfter n emptyTable pre) e = some u → e.keyUser ≠ some u) :
    (multiStep n (multiAfter n emptyTable pre) now e).2 ≠ .res .ok ∧
    (multiStep n (multiAfter n emptyTable pre) now e).1 = multiAfter n emptyTable pre := by
  obtain ⟨hinv, _⟩ := multiRun_inv (sim_new h) (emptyTable_inv n) List.nodup_nil pre
  have hne : (multiStep n (multiAfter n emptyTable pre) now e).2 ≠ .res .ok := by
    intro hk
    obtain ⟨_, ⟨u, hu, hku⟩, _⟩ := (multiStep_spec (sim_new h) hinv now e).1.mp hk
    exact hf u hu hku
  exact ⟨hne, multiStep_noop _ _ _ _ hne⟩

example : multiRun 4 emptyTable
    [(0, { sep := true, eih := true, eihUser := some 1, keyUser := some 1,
           pkt := { long := true, sid := 7, pid := 0, authentic := true, hdr := true, typ := 0, ts := 0, csid := 0, padOk := true, addrOk := true } }),
     (0, { sep := true, eih := true, eihUser := some 2, keyUser := some 2,
           pkt := { long := true, sid := 7, pid := 1, authentic := true, hdr := true, typ := 0, ts := 0, csid := 0, padOk := true, addrOk := true } }),
     (0, { sep := true, eih := true, eihUser := none, keyUser := some 1,
           pkt := { long := true, sid := 7, pid := 1, authentic := true, hdr := true, typ := 0, ts := 0, csid := 0, padOk := true, addrOk := true } }),
     (0, { sep := true, eih := true, eihUser := some 1, keyUser := some 1,
           pkt := { long := true, sid := 7, pid := 1, authentic := true, hdr := true, typ := 0, ts := 0, csid := 0, padOk := true, addrOk := true } })]
    = [.res .ok, .res .authFail, .res .ok, .res .replay] := by decide

end SSV.C04

#print axioms SSV.C04.gen_swfBlockBits
#print axioms SSV.C04.swf_refines
#print axioms SSV.C04.at_most_once
#print axioms SSV.C04.fresh_never_refused
#print axioms SSV.C04.refused_only_if_not_fresh
#print axioms SSV.C04.ring_access_in_range
#print axioms SSV.C04.add_behind_refused
#print axioms SSV.C04.gen_serverUnpackOrder
#print axioms SSV.C04.gen_clientUnpackOrder
#print axioms SSV.C04.gen_udp_constants
#print axioms SSV.C04.rejected_is_noop
#print axioms SSV.C04.junk_never_delivered
#print axioms SSV.C04.junk_interleaving
#print axioms SSV.C04.server_unpack_refines
#print axioms SSV.C04.server_at_most_once
#print axioms SSV.C04.client_at_most_once
#print axioms SSV.C04.client_change_rate
#print axioms SSV.C04.client_fresh_never_refused
#print axioms SSV.C04.gen_src_validateTimestamp
#print axioms SSV.C04.gen_udpHeaderChecks
#print axioms SSV.C04.timestamp_check_meaning
#print axioms SSV.C04.gen_swf_sources
#print axioms SSV.C04.eih_rejected_is_noop
#print axioms SSV.C04.eih_unpack_refines
#print axioms SSV.C04.eih_at_most_once
#print axioms SSV.C04.eih_foreign_user_is_junk
#print axioms SSV.C04.gen_udpHeaderOrder
#print axioms SSV.C04.header_first_fault_decides
