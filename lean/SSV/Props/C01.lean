import SSV.Proofs.StreamRequest
import SSV.Proofs.StreamResponse
import SSV.Proofs.StreamTimeout
/-
C01 — Shadowsocks 2022 TCP tunnel delivers the exact byte stream both ways.
The property theorems and the transparent AEAD `plainCrypto` of the `example`s (the hypotheses are
satisfiable); the lemmas are in SSV/Proofs/Stream*.lean. `C` is any AEAD/KDF/… satisfying `AeadOK`
(open ∘ seal = id, ciphertext length = plaintext length + tagSize).

The theorems depend on `SSV.Gen.C01` (regenerated from /repo on every run): the constants and the
facts `writeToFlushesLeftover`, `tunnelFlushesLeftover` (finding F1), `readFromHandlesDataFirst`,
`serverFirstReadHandlesDataFirst`, `readErrorsSticky`, `boundaryTimeoutRetryable` (stated once in
`SSV.Proofs.StreamCodec`), `connAddrFromSliceCopies` and `connWriteContextAlwaysStops` (decided under
`request_stable` and `dial_context_released`). With a fact `false` the model mirrors the unrepaired
code and the theorems that rest on it do not check.
-/
namespace SSV.C01
open SSV SSV.Stream SSV.Gen.C01

/-- a transparent AEAD satisfying the hypotheses (non-vacuity witness) -/
def plainCrypto : Crypto where
  enc := fun _ _ p => p ++ List.replicate tagSize 0
  dec := fun _ _ c => some (c.take (c.length - tagSize))
  kdf := fun psk salt => psk ++ salt
  eihEnc := fun _ _ b => b
  eihDec := fun _ _ b => b
  pskHash := fun psk => (psk ++ List.replicate IdentityHeaderLength 0).take IdentityHeaderLength

theorem plainCrypto_ok : AeadOK plainCrypto :=
  ⟨by intro k n p; simp [plainCrypto], by intro k n p; simp [plainCrypto]⟩

theorem plainCrypto_eih : EihOK plainCrypto :=
  ⟨by intro k s b; rfl, by intro k s b; rfl, by intro p; simp [plainCrypto]⟩

/-- **stream_roundtrip** (layer 1, every copy path): whatever sequence of `Write` / `ReadFrom` calls
produced the chunks (any lengths, including 0 and > 0xFFFF; `ReadFrom` from any scripted `io.Reader`:
short reads of every size, `(0, nil)` reads, data returned together with `io.EOF` or with another
error — `WCall.data` is everything the source handed over up to and including the first result with
an error), however the transport cut the ciphertext
into segments (`segs`, only their concatenation matters), and whatever mixture of `Read(n)` (any
`n ≥ 0`), `WriteTo` and tunnel copy the receiving side runs: no call fails, the calls hand over
consecutive pieces of exactly the written bytes — in order, each byte once — and a call reports the
end of the stream only after all of them. -/
theorem stream_roundtrip (C : Crypto) (hC : AeadOK C) (k : Bytes) (n0 : Nat) (calls : List WCall)
    (segs : List Bytes)
    (hseg : segs.flatten = (Writer.emit C ⟨k, n0⟩ (calls.flatMap WCall.chunks)).1.flatten)
    (ops : List ROp) :
    (Reader.run C ⟨k, n0, [], segs.flatten⟩ ops).length = ops.length ∧
    Delivers (calls.map WCall.data).flatten (Reader.run C ⟨k, n0, [], segs.flatten⟩ ops) := by
  have hs : Sync C ⟨k, n0, [], segs.flatten⟩ (calls.flatMap WCall.chunks) :=
    ⟨by rw [hseg, (emit_spec C ⟨k, n0⟩ _).1], calls_valid calls⟩
  have := run_ok hC ops _ _ hs
  simpa [pending, calls_flatten] using this

example : ∃ C, AeadOK C := ⟨plainCrypto, plainCrypto_ok⟩

theorem emitted_delivers (C : Crypto) (hC : AeadOK C) (k : Bytes) (n0 : Nat) (calls : List WCall) (ops : List ROp) :
    Delivers (calls.map WCall.data).flatten
      (Reader.run C ⟨k, n0, [], (Writer.emit C ⟨k, n0⟩ (calls.flatMap WCall.chunks)).1.flatten⟩ ops) := by
  simpa using (stream_roundtrip C hC k n0 calls [_] (by simp) ops).2

/-- the delivered bytes are a prefix of the written bytes (nothing invented, nothing reordered,
nothing duplicated) … -/
theorem delivered_is_prefix (C : Crypto) (hC : AeadOK C) (k : Bytes) (n0 : Nat) (calls : List WCall) (ops : List ROp) :
    ∃ rest, (calls.map WCall.data).flatten =
      ((Reader.run C ⟨k, n0, [], (Writer.emit C ⟨k, n0⟩ (calls.flatMap WCall.chunks)).1.flatten⟩ ops).map ROut.bytes).flatten ++ rest :=
  (emitted_delivers C hC k n0 calls ops).prefix

/-- … and when a call reports the end of the stream (a `Read` returning EOF, a `WriteTo` / tunnel
copy returning nil), everything written has been delivered by then, and nothing comes after. -/
theorem eof_only_at_end (C : Crypto) (hC : AeadOK C) (k : Bytes) (n0 : Nat) (calls : List WCall) (ops : List ROp)
    (pre : List ROut) (o : ROut) (post : List ROut)
    (he : Reader.run C ⟨k, n0, [], (Writer.emit C ⟨k, n0⟩ (calls.flatMap WCall.chunks)).1.flatten⟩ ops = pre ++ o :: post)
    (hend : o.sawEnd = true) :
    (calls.map WCall.data).flatten = (pre.map ROut.bytes).flatten ++ o.bytes ∧ (post.map ROut.bytes).flatten = [] :=
  Delivers.complete (emitted_delivers C hC k n0 calls ops) pre o post he hend

/-- progress: on an in-sync reader a `Read` into a non-empty buffer returns at least one byte while
bytes are pending and EOF when none are; `WriteTo` and the tunnel copy always run to the end. -/
theorem reader_progress (C : Crypto) (hC : AeadOK C) (r : Reader) (cs : List Bytes) (hs : Sync C r cs) :
    (∀ n, 0 < n → pending r cs ≠ [] → (r.step C (.read n)).1.bytes ≠ []) ∧
    (∀ n, pending r cs = [] → (r.step C (.read n)).1 = .fail .eof) ∧
    (r.step C .writeTo).1 = .copied (if r.left.length = 0 then cs else r.left :: cs) none ∧
    (r.step C .tunnel).1 = .copied (if r.left.length = 0 then cs else r.left :: cs) none := by
  refine ⟨fun n hn hp => ?_, fun n hp => ?_, ?_, ?_⟩
  · obtain ⟨_, h⟩ := read_ok hC r cs hs n; exact h.progress n rfl hn hp
  · obtain ⟨_, h⟩ := read_ok hC r cs hs n; exact h.readEnd n rfl hp
  · rw [Reader.step, hs.writeTo_eq hC]
  · rw [Reader.step, Reader.tunnel_eq, hs.writeTo_eq hC]

/-- **nonce_lockstep**: after any schedule the reader is still in sync with the chunks it has not
consumed, under the same key, and its counter is the writer's counter at that chunk boundary
(the writer ends at `n0 + 2·#chunks`; both advance by two per chunk). -/
theorem nonce_lockstep (C : Crypto) (hC : AeadOK C) (k : Bytes) (n0 : Nat) (calls : List WCall) (ops : List ROp) :
    let w := Writer.emit C ⟨k, n0⟩ (calls.flatMap WCall.chunks)
    let r := Reader.after C ⟨k, n0, [], w.1.flatten⟩ ops
    ∃ cs', Sync C r cs' ∧ r.key = w.2.key ∧ r.nonce + 2 * cs'.length = w.2.nonce := by
  have hs : Sync C ⟨k, n0, [], (Writer.emit C ⟨k, n0⟩ (calls.flatMap WCall.chunks)).1.flatten⟩ (calls.flatMap WCall.chunks) :=
    ⟨by rw [(emit_spec C ⟨k, n0⟩ _).1], calls_valid calls⟩
  obtain ⟨cs', h1, h2, h3⟩ := after_sync hC ops _ _ hs
  refine ⟨cs', h1, ?_, ?_⟩
  · rw [h2, (emit_spec C ⟨k, n0⟩ _).2.1]
  · rw [h3, (emit_spec C ⟨k, n0⟩ _).2.1]

/-- the code's 12-byte little-endian `increment` is the successor the model uses, up to 2^96 -/
theorem increment_is_successor (b : Bytes) (h : b.length = nonceSize) :
    leVal (incrementLE b) = (leVal b + 1) % 2 ^ 96 ∧ (incrementLE b).length = nonceSize := by
  refine ⟨?_, by rw [incrementLE_length, h]⟩
  rw [leVal_incrementLE, h]
  rfl

/-- **segmentation**: `io.ReadFull` over a transport that delivers arbitrary segments (empty ones
included) returns what it returns on the concatenation, and leaves the concatenation's rest. -/
theorem segmentation_irrelevant (segs : List Bytes) (n : Nat) (hn : n ≠ 0) :
    match readFull n segs.flatten with
    | .ok (bs, rest) => ∃ segs', readFullSeg n 0 segs = .ok (bs, segs') ∧ segs'.flatten = rest
    | .error e => readFullSeg n 0 segs = .error e := by
  have h := readFullSeg_flat n 0 segs
  unfold readFull
  rw [if_neg hn]
  by_cases hlen : segs.flatten.length < n
  · have e := h.2 hlen
    by_cases h0 : segs.flatten.length = 0
    · rw [if_pos h0]; rw [e, if_pos ⟨rfl, h0⟩]
    · rw [if_neg h0, if_pos hlen]; rw [e, if_neg (fun hh => h0 hh.2)]
  · have h0 : segs.flatten.length ≠ 0 := by omega
    rw [if_neg h0, if_neg hlen]
    exact h.1 _ _ (List.take_append_drop n _).symm (List.length_take_of_le (by omega))


/-- **p_first_partial** (client side of `p_first` / `request_observed`): `DialStream` puts the first
`room = streamMaxPayloadSize − addrLen − 2` bytes of the initial payload at the end of the
variable-length header, sealed under nonce 1 in the first transport write, and writes the excess
as ordinary chunks from nonce 2 on — so by `stream_roundtrip` (with the excess as the first
`Write`) the server's reads return `P.drop room` followed by the later writes.

The server-side half is `request_observed` below; `p_first` is the reader side: what the server reads
after the request. -/
theorem p_first_partial (C : Crypto) (cfg : ClientCfg) (ch : DialChoice) (target : Addr) (payload : Bytes) :
    let d := dial C cfg ch target payload
    let k := C.kdf cfg.psk ch.salt
    d.inReq = payload.take (roomForPayload target) ∧ d.excess = payload.drop (roomForPayload target) ∧
    d.inReq ++ d.excess = payload ∧
    (∃ pre vh, d.segs.head? = some (pre ++ C.enc k 1 vh) ∧ ∃ hd, vh = hd ++ d.inReq) ∧
    (d.segs.drop 1).flatten = encodeChunks C k 2 (writeChunks d.excess) ∧
    d.writer = ⟨k, 2 + 2 * (writeChunks d.excess).length⟩ := by
  have hem := emit_spec C ⟨C.kdf cfg.psk ch.salt, 2⟩ (writeChunks (dial C cfg ch target payload).excess)
  refine ⟨dial_inReq C cfg ch target payload, dial_excess C cfg ch target payload,
    by rw [dial_inReq, dial_excess, List.take_append_drop], ⟨_, _, rfl, _, rfl⟩, ?_⟩
  unfold dial
  exact ⟨hem.1, hem.2.1⟩


/-- **response_roundtrip** (server → client, first write and first read): a server conn that has not
written yet writes `b` (any non-empty length: the first `firstCap` bytes travel with the response
header — `4096 ≤ firstCap ≤ 0xFFFF` whatever capacities the Go allocator chose, `CapsOk` — the rest as
ordinary chunks), then performs any further `Write` / `ReadFrom` calls. The transport hands the
client's first read the fixed-length part (`hfr`: one segment that long, or `io.ReadFull` when
segmented headers are allowed). Then the client's first call — `Read` with any buffer length,
`WriteTo`, or the tunnel copy into a server conn (started or not) — hands over the first bytes of
`b` followed by the later writes, in order, and leaves a plain reader in sync with the remaining
chunks, so every later call is covered by `stream_roundtrip`'s invariant (`run_ok`). -/
theorem response_roundtrip (C : Crypto) (hC : AeadOK C) (s : SWriter) (hs : s.w = none) (ch : RespChoice)
    (hcaps : CapsOk s.respPrefix.length s.psk.length ch = true) (hsalt : ch.salt.length = s.psk.length)
    (b : Bytes) (hb : b.length ≠ 0) (calls : List WCall)
    (c : CReader) (now : Int) (hts : ClockOK ch.ts now)
    (hr : c.r = none) (hpsk : c.psk = s.psk) (hpre : c.respPrefix = s.respPrefix) (hrs : c.reqSalt = s.reqSalt)
    (hrsl : s.reqSalt.length = s.psk.length)
    (hfr : ∃ w1, (s.write C ch b).2.w = some w1 ∧
      firstRead c.allowSeg (c.respPrefix.length + c.psk.length + TCPRequestFixedLengthHeaderLength + c.psk.length + tagSize) c.segs =
        .ok (((s.write C ch b).1 ++ (w1.emit C (calls.flatMap WCall.chunks)).1).flatten.take
              (c.respPrefix.length + c.psk.length + TCPRequestFixedLengthHeaderLength + c.psk.length + tagSize))
            (((s.write C ch b).1 ++ (w1.emit C (calls.flatMap WCall.chunks)).1).flatten.drop
              (c.respPrefix.length + c.psk.length + TCPRequestFixedLengthHeaderLength + c.psk.length + tagSize))) :
    let stream := b ++ (calls.map WCall.data).flatten
    (∀ n, ∃ r' cs', (c.read C now n).2.r = some r' ∧ Sync C r' cs' ∧ (c.read C now n).1.err = none ∧
        stream = (c.read C now n).1.bytes ++ pending r' cs' ∧ (0 < n → (c.read C now n).1.bytes ≠ [])) ∧
    ((c.writeTo C now).1.bytes = stream ∧ (c.writeTo C now).1.err = none) ∧
    (∀ started, (c.tunnel C now started).1.bytes = stream ∧ (c.tunnel C now started).1.err = none) := by
  intro stream
  obtain ⟨w1, hw1, hfr⟩ := hfr
  obtain ⟨w1', hw1', hwire⟩ := SWriter.first_write C s hs ch b hb (calls.flatMap WCall.chunks) _ rfl
  obtain rfl : w1' = w1 := Option.some.inj (hw1'.symm.trans hw1)
  have hcap := firstCap_bounds _ _ ch hcaps
  rw [hwire] at hfr
  obtain ⟨hread, hcopy⟩ := client_first_call hC s ch _ _ c now hts hsalt hr hpsk hpre hrs hrsl
    (by simp only [List.length_take]; omega) (by simp only [List.length_take]; omega)
    (ValidChunks.append (writeChunks_valid _) (calls_valid calls)) hfr
  have hstream : stream = b.take (firstCap s.respPrefix.length s.psk.length ch) ++
      (writeChunks (b.drop (firstCap s.respPrefix.length s.psk.length ch)) ++ calls.flatMap WCall.chunks).flatten := by
    simp only [stream, List.flatten_append, writeChunks_flatten, calls_flatten]
    rw [← List.append_assoc, List.take_append_drop]
  rw [hstream]
  exact ⟨fun n => (hread n).imp fun _ h => ⟨_, h⟩, hcopy⟩


/-- **request_observed**: for every configuration pair (`Paired`: same PSK and no identity header, or
the client's iPSK is the server's and the server's user table maps the client's PSK hash to its
owner — the situation after the relays stripped their headers), every request prefix, every target
`T`, every payload `P`, every admissible draw of salt / padding / timestamp (`RndOk`, `ClockOK`), and
every segmentation that hands the first read the fixed-length part (`hfr`: one segment at least that
long, or `io.ReadFull` when segmented headers are allowed): `HandleStream` returns exactly
`(T up to 4-in-6 unmapping, P.take room, owner)` and a reader positioned at nonce 2 on the bytes
that follow the request. -/
theorem request_observed (C : Crypto) (hC : AeadOK C) (hE : EihOK C) (cc : ClientCfg) (sc : ServerCfg) (user : String)
    (hp : Paired C cc sc user) (ch : DialChoice) (hsalt : ch.salt.length = cc.psk.length)
    (t : Addr) (ht : t.Valid = true) (P : Bytes) (hr : RndOk P.length ch.rnd = true)
    (now : Int) (hts : ClockOK ch.ts now) (req later : Bytes) (tail : List Bytes)
    (hreq : (dial C cc ch t P).segs = req :: tail) (segs : List Bytes)
    (hfr : firstRead sc.allowSeg
        (sc.reqPrefix.length + (if sc.psk.length = 0 then sc.ipsk.length else sc.psk.length) +
          (if sc.psk.length = 0 then IdentityHeaderLength else 0) + TCPRequestFixedLengthHeaderLength + tagSize) segs =
      .ok ((req ++ later).take (sc.reqPrefix.length + (if sc.psk.length = 0 then sc.ipsk.length else sc.psk.length) +
              (if sc.psk.length = 0 then IdentityHeaderLength else 0) + TCPRequestFixedLengthHeaderLength + tagSize))
          ((req ++ later).drop (sc.reqPrefix.length + (if sc.psk.length = 0 then sc.ipsk.length else sc.psk.length) +
              (if sc.psk.length = 0 then IdentityHeaderLength else 0) + TCPRequestFixedLengthHeaderLength + tagSize))) :
    handle C sc now segs =
      .request ⟨t.norm, P.take (roomForPayload t), user⟩ ⟨C.kdf cc.psk ch.salt, 2, [], later⟩ ch.salt cc.psk := by
  obtain ⟨vh, tl, hvl, hpv, hd⟩ := dial_request C cc ch t ht P hr
  obtain ⟨rfl, -⟩ := List.cons.inj (hd.symm.trans hreq)
  obtain ⟨hpre, hmode⟩ := hp
  -- what the server's mode makes of salt and identity header
  have hm : ch.salt.length = (if sc.psk.length = 0 then sc.ipsk.length else sc.psk.length) ∧
      (identityHeaders C cc ch.salt).flatten.length = (if sc.psk.length = 0 then IdentityHeaderLength else 0) ∧
      (if sc.psk.length = 0 then lookupUser C sc.users (C.eihDec sc.ipsk ch.salt (identityHeaders C cc ch.salt).flatten)
        else some ⟨"", sc.psk⟩) = some ⟨user, cc.psk⟩ := by
    rcases hmode with ⟨hip, hpsk, hpl, hun⟩ | ⟨hip, hp0, hil, hlook⟩
    · have hp0 : sc.psk.length ≠ 0 := by rw [hpsk]; exact hpl
      simp only [if_neg hp0]
      exact ⟨by rw [hpsk]; exact hsalt, by simp [identityHeaders, hip], by rw [hun, hpsk]⟩
    · simp only [if_pos hp0]
      exact ⟨hsalt.trans hil.symm, by simp [identityHeaders, eihHashes, hip, hE.enc_len, hE.hash_len],
        by simp [identityHeaders, eihHashes, hip, hE.dec_enc, hlook]⟩
  obtain ⟨hsl, hidl, hu⟩ := hm
  generalize (identityHeaders C cc ch.salt).flatten = idh at *
  -- the first read returns the fixed-length part
  have hlen : (sc.reqPrefix ++ ch.salt ++ idh ++ C.enc (C.kdf cc.psk ch.salt) 0 (fixedHeader ch.ts vh.length)).length =
      sc.reqPrefix.length + (if sc.psk.length = 0 then sc.ipsk.length else sc.psk.length) +
        (if sc.psk.length = 0 then IdentityHeaderLength else 0) + TCPRequestFixedLengthHeaderLength + tagSize := by
    simp only [List.length_append, hC.enc_len, fixedHeader_length, hsl, hidl, Nat.add_assoc]
  rw [← hpre, List.append_assoc _ _ later, ← hlen, List.take_left, List.drop_left, hlen] at hfr
  exact handle_genuine hC sc now segs ⟨user, cc.psk⟩ ch.salt idh vh later ch.ts t.norm _ hsl hidl hu hts hvl hpv hfr

example : ∃ (C : Crypto) (cc : ClientCfg) (sc : ServerCfg) (user : String), AeadOK C ∧ EihOK C ∧ Paired C cc sc user :=
  ⟨plainCrypto, ⟨[1], [[2]], [], [], false⟩, ⟨[], [2], [⟨"u", [1]⟩], [], [], false, false⟩, "u",
    plainCrypto_ok, plainCrypto_eih, rfl, Or.inr ⟨rfl, rfl, rfl, rfl⟩⟩


/-- **request_observed_relayed** (identity-header depth 1, 2, 3, … — with `request_observed` for depth 0
this covers every iPSK chain the property quantifies over): the client is configured with the chain
`front ++ [sc.ipsk]` (`front`: the iPSKs of the SIP023 relays, any number). Every relay decrypts the
first identity header with its iPSK-derived key, finds the hash of the next hop's key, strips the
header and forwards (`relayAll`); what reaches the server — the holder of the last iPSK — is byte for
byte the request of the same client configured with `[sc.ipsk]` alone (`relay_chain_request`), so
`HandleStream` returns `(T up to 4-in-6 unmapping, P.take room, owner)` as in `request_observed`.
A client that puts the wrong key hash into any header (seeded change C01-4) makes some relay refuse. -/
theorem request_observed_relayed (C : Crypto) (hC : AeadOK C) (hE : EihOK C) (cc : ClientCfg) (sc : ServerCfg) (user : String)
    (front : List Bytes) (hip : cc.ipsks = front ++ [sc.ipsk])
    (hp : Paired C { cc with ipsks := [sc.ipsk] } sc user) (ch : DialChoice) (hsalt : ch.salt.length = cc.psk.length)
    (t : Addr) (ht : t.Valid = true) (P : Bytes) (hr : RndOk P.length ch.rnd = true)
    (now : Int) (hts : ClockOK ch.ts now) (later : Bytes) :
    ∃ req tl forwarded, (dial C cc ch t P).segs = req :: tl ∧
      relayAll C cc.reqPrefix.length ch.salt.length cc.ipsks (req ++ later) = some forwarded ∧
      ∀ segs, firstRead sc.allowSeg
          (sc.reqPrefix.length + (if sc.psk.length = 0 then sc.ipsk.length else sc.psk.length) +
            (if sc.psk.length = 0 then IdentityHeaderLength else 0) + TCPRequestFixedLengthHeaderLength + tagSize) segs =
        .ok (forwarded.take (sc.reqPrefix.length + (if sc.psk.length = 0 then sc.ipsk.length else sc.psk.length) +
                (if sc.psk.length = 0 then IdentityHeaderLength else 0) + TCPRequestFixedLengthHeaderLength + tagSize))
            (forwarded.drop (sc.reqPrefix.length + (if sc.psk.length = 0 then sc.ipsk.length else sc.psk.length) +
                (if sc.psk.length = 0 then IdentityHeaderLength else 0) + TCPRequestFixedLengthHeaderLength + tagSize)) →
        handle C sc now segs =
          .request ⟨t.norm, P.take (roomForPayload t), user⟩ ⟨C.kdf cc.psk ch.salt, 2, [], later⟩ ch.salt cc.psk := by
  obtain ⟨req, req1, tl, h1, h2, h3⟩ := relay_chain_request hE cc front sc.ipsk hip ch t P later
  refine ⟨req, tl, req1 ++ later, h1, h3, fun segs hfr => ?_⟩
  exact request_observed C hC hE { cc with ipsks := [sc.ipsk] } sc user hp ch hsalt t ht P hr now hts req1 later tl h2 segs hfr

/-- **p_first** (reader side): on a reader at nonce 2 under key `k` — the one `HandleStream` returns by
`request_observed` — facing the chunks of `P.drop room` (`p_first_partial`) and of the later writes,
any schedule delivers `P.drop room` followed by everything the client writes later; with `P.take room`
inside the request that is `P` first. The theorem itself mentions neither `dial` nor `handle`: the
three statements are put together by reading, not by a fourth theorem. -/
theorem p_first (C : Crypto) (hC : AeadOK C) (k : Bytes) (t : Addr) (P : Bytes) (calls : List WCall) (ops : List ROp) :
    let later := encodeChunks C k 2 (writeChunks (P.drop (roomForPayload t)) ++ calls.flatMap WCall.chunks)
    P.take (roomForPayload t) ++ (P.drop (roomForPayload t) ++ (calls.map WCall.data).flatten) =
      P ++ (calls.map WCall.data).flatten ∧
    Delivers (P.drop (roomForPayload t) ++ (calls.map WCall.data).flatten) (Reader.run C ⟨k, 2, [], later⟩ ops) := by
  intro later
  refine ⟨by rw [← List.append_assoc, List.take_append_drop], ?_⟩
  have hs : Sync C ⟨k, 2, [], later⟩ (writeChunks (P.drop (roomForPayload t)) ++ calls.flatMap WCall.chunks) :=
    ⟨rfl, ValidChunks.append (writeChunks_valid _) (calls_valid calls)⟩
  have := (run_ok hC ops _ _ hs).2
  simpa [pending, writeChunks_flatten, calls_flatten] using this


/-- **request_stable**: the target address in the `ConnRequest` is a value: it reads the same when
the server looks at it again after its conn has written (whatever now occupies the buffer the
request was parsed in). Depends on the regenerated fact `connAddrFromSliceCopies`
(`socks5.ConnAddrFromSlice` copies the domain name; `HandleStream` parses inside the conn's write
buffer, so an aliasing parser makes the address change under the server's feet). -/
theorem request_stable (a : Addr) (overwritten : Bytes) : addrSeenLater a overwritten = a := by
  have hf : connAddrFromSliceCopies = true := by decide
  cases a <;> simp [addrSeenLater, hf]

/-- **stream_roundtrip_conn**: `stream_roundtrip` for the conn with its sticky read error
(`readErr`, finding F22): on a genuine stream the guard never fires, the outcomes are the same. -/
theorem stream_roundtrip_conn (C : Crypto) (hC : AeadOK C) (k : Bytes) (n0 : Nat) (calls : List WCall)
    (segs : List Bytes)
    (hseg : segs.flatten = (Writer.emit C ⟨k, n0⟩ (calls.flatMap WCall.chunks)).1.flatten)
    (ops : List ROp) :
    SReader.run C ⟨⟨k, n0, [], segs.flatten⟩, none, []⟩ ops = Reader.run C ⟨k, n0, [], segs.flatten⟩ ops ∧
    Delivers (calls.map WCall.data).flatten (SReader.run C ⟨⟨k, n0, [], segs.flatten⟩, none, []⟩ ops) := by
  have h := stream_roundtrip C hC k n0 calls segs hseg ops
  have e := srun_eq_run C ops ⟨k, n0, [], segs.flatten⟩ h.1
  exact ⟨e, by rw [e]; exact h.2⟩


/-- **transient_timeout_at_chunk_boundary**: the transport reports read deadlines (a `Read` of the
transport returning a timeout error with 0 bytes) at chunk boundaries — any number of them, at any
boundaries, several at the same boundary (empty groups): the stream is the concatenation of the
chunk groups `g0 :: gs`, a deadline fires after each group. Whatever schedule the caller runs — `Read`
with any buffer sizes, `WriteTo`, tunnel copy, in any mixture, calling again after every reported
deadline — the calls hand over consecutive pieces of exactly the written bytes, in order, each byte
once; the only errors reported are the deadlines (one per scripted deadline) and end of stream, the
latter only after everything; the conn's sticky error is never set. A copy call runs until the end
of the stream or the next deadline. Depends on the regenerated facts `readErrorsSticky` and
`boundaryTimeoutRetryable` (the sticky read error is set only when bytes of an unfinished chunk were
consumed or a chunk failed to authenticate). -/
theorem transient_timeout_at_chunk_boundary (C : Crypto) (hC : AeadOK C) (k : Bytes) (n0 : Nat)
    (g0 : List Bytes) (gs : List (List Bytes)) (hv0 : ValidChunks g0) (hv : ∀ g ∈ gs, ValidChunks g) (ops : List ROp) :
    let s : SReader := { r := ⟨k, n0, [], encodeChunks C k n0 g0⟩, later := encodeGroups C k (n0 + 2 * g0.length) gs }
    DeliversT (g0.flatten ++ (gs.map List.flatten).flatten) (s.run C ops) ∧ (s.after C ops).err = none ∧
    (∀ op, (∀ n, op ≠ .read n) → (s.step C op).1.sawEnd = true ∨ (s.step C op).1.err = some .timeout) := by
  intro s
  have hs : TSync C s g0 gs := ⟨rfl, ⟨rfl, hv0⟩, rfl, hv⟩
  obtain ⟨h1, h2⟩ := trun_ok hC ops s g0 gs hs
  refine ⟨by simpa [pendingT, pending, s] using h1, h2, fun op hop => ?_⟩
  obtain ⟨_, _, h⟩ := tstep_ok hC s g0 gs hs op
  exact h.copy hop

/-- **midchunk_timeout_is_permanent** (the negative): the deadline fires after some, not all, bytes of a
chunk (the stretch `q` is a non-empty proper prefix of the chunk's encoding): the call hands over
nothing and reports the deadline, and every later call of any kind fails with it and hands over
nothing — cipher and stream are out of step, nothing may be authenticated in the chunk's place. -/
theorem midchunk_timeout_is_permanent (C : Crypto) (hC : AeadOK C) (s : SReader) (p q q2 nx : Bytes) (rest : List Bytes)
    (herr : s.err = none) (hleft : s.r.left = []) (hwire : s.r.wire = q) (hlater : s.later = nx :: rest)
    (h0 : p.length ≠ 0) (hmax : p.length ≤ streamMaxPayloadSize)
    (hq : sealChunk C s.r.key s.r.nonce p = q ++ q2) (hq1 : q ≠ []) (hq2 : q2 ≠ []) (op : ROp) (ops : List ROp) :
    (s.step C op).1.bytes = [] ∧ (s.step C op).1.err = some .timeout ∧
    SReader.run C (s.step C op).2 ops = ops.map (fun op => failedOut op .timeout) := by
  have h : (s.step C op).1.bytes = [] ∧ (s.step C op).1.err = some .timeout ∧ (s.step C op).2.err = some .timeout := by
    -- the call's first `read` fails having consumed part of the chunk, or exactly its length chunk
    obtain ⟨e, n', hc, hmid⟩ := readChunk_partial hC s.r.key s.r.nonce p q q2 h0 hmax hq hq1 hq2
    rw [← hwire] at hc
    have hr := Reader.step_read_error hleft hc op
    have hend : (s.r.step C op).1.hitEnd = true := by
      rw [hr]
      rcases hmid with rfl | ⟨rfl, -⟩ <;> cases op <;> rfl
    rw [SReader.step_deadline C s op nx rest herr hlater hend, hr]
    rcases hmid with rfl | ⟨rfl, rfl⟩
    · cases op <;> simp [failedOut, ROut.asTimeout, ROut.bytes, ROut.err]
    · -- the nonce advanced by one: its parity changed
      have hpar : (s.r.nonce + 1) % 2 ≠ s.r.nonce % 2 := by omega
      cases op <;> simp [ROut.asTimeout, ROut.bytes, ROut.err, hpar]
  refine ⟨h.1, h.2.1, ?_⟩
  have := failed_run C (s.step C op).2.r .timeout (s.step C op).2.later ops
  rw [← h.2.2] at this
  exact this


/-- **response_roundtrip_readfrom**: the server's first write is a `ReadFrom` from ANY scripted source —
short reads of every size, `(0, nil)` reads, data returned together with `io.EOF` (the
`iotest.DataErrReader` style) or with another error, also in the very first read, also when everything
fits the first chunk and nothing was written before. Every byte the source hands over
(`Src.takenServerFirst`) reaches the client, in order, once: the first bytes travel with the response
header, the rest as chunks; the client's first `WriteTo` / tunnel copy delivers all of it, a first
`Read` delivers its beginning and leaves a reader in sync with the rest. Depends on the regenerated
facts `readFromHandlesDataFirst` and `serverFirstReadHandlesDataFirst` (the loops handle `nr > 0`
before they look at `err`). -/
theorem response_roundtrip_readfrom (C : Crypto) (hC : AeadOK C) (s : SWriter) (hs : s.w = none) (ch : RespChoice)
    (hcaps : CapsOk s.respPrefix.length s.psk.length ch = true) (hsalt : ch.salt.length = s.psk.length)
    (src : Src) (hsome : Src.takenServerFirst (firstCap s.respPrefix.length s.psk.length ch) src ≠ [])
    (c : CReader) (now : Int) (hts : ClockOK ch.ts now)
    (hr : c.r = none) (hpsk : c.psk = s.psk) (hpre : c.respPrefix = s.respPrefix) (hrs : c.reqSalt = s.reqSalt)
    (hrsl : s.reqSalt.length = s.psk.length)
    (hfr : firstRead c.allowSeg (c.respPrefix.length + c.psk.length + TCPRequestFixedLengthHeaderLength + c.psk.length + tagSize) c.segs =
        .ok ((s.readFrom C ch src).1.flatten.take (c.respPrefix.length + c.psk.length + TCPRequestFixedLengthHeaderLength + c.psk.length + tagSize))
            ((s.readFrom C ch src).1.flatten.drop (c.respPrefix.length + c.psk.length + TCPRequestFixedLengthHeaderLength + c.psk.length + tagSize))) :
    let stream := Src.takenServerFirst (firstCap s.respPrefix.length s.psk.length ch) src
    (∀ n, ∃ r' cs', (c.read C now n).2.r = some r' ∧ Sync C r' cs' ∧ (c.read C now n).1.err = none ∧
        stream = (c.read C now n).1.bytes ++ pending r' cs' ∧ (0 < n → (c.read C now n).1.bytes ≠ [])) ∧
    ((c.writeTo C now).1.bytes = stream ∧ (c.writeTo C now).1.err = none) ∧
    (∀ started, (c.tunnel C now started).1.bytes = stream ∧ (c.tunnel C now started).1.err = none) := by
  intro stream
  have hcap := firstCap_bounds _ _ ch hcaps
  rcases SWriter.first_readFrom C s hs ch src (by omega) with ⟨hnil, _⟩ | ⟨p0, cs, h0, hle, hv, hdata, hwire⟩
  · exact absurd hnil hsome
  · rw [hwire] at hfr
    obtain ⟨hread, hcopy⟩ := client_first_call hC s ch p0 cs c now hts hsalt hr hpsk hpre hrs hrsl h0 (by omega) hv hfr
    rw [show stream = p0 ++ cs.flatten from hdata.symm]
    exact ⟨fun n => (hread n).imp fun _ h => ⟨_, h⟩, hcopy⟩


/-- **writeto_into_any_sink**: `WriteTo(w)` on an in-sync conn into ANY sink that keeps the `io.Writer`
contract (it may take fewer bytes than offered, with an error, at any call — also for the flushed
left-over): what the sink has taken is a prefix of the pending stream (in order, nothing twice); the
only error reported is the sink's; if the sink never failed it has taken everything. -/
theorem writeto_into_any_sink (C : Crypto) (hC : AeadOK C) (r : Reader) (cs : List Bytes) (hs : Sync C r cs)
    (hleft : r.left.length ≤ streamMaxPayloadSize) (sink : List SinkRes) (hk : SinkOK sink) :
    ∃ pieces e, (r.writeToSink C sink).1 = .copied pieces e ∧ (∃ rest, pending r cs = pieces.flatten ++ rest) ∧
      (e = none → pieces.flatten = pending r cs) ∧ (e = none ∨ e = some .sinkErr) := by
  obtain ⟨pieces, e, r', _, cs', lost, h, hc⟩ := writeToSink_sync hC hs hleft hk
  refine ⟨pieces, e, by rw [h], ⟨lost ++ pending r' cs', by rw [hc.split, List.append_assoc]⟩, fun h0 => ?_, hc.errs⟩
  obtain ⟨h1, h2⟩ := hc.clean h0
  rw [hc.split, h1, h2, List.append_nil, List.append_nil]


/-- **destination_write_failure**: a copy (`WriteTo`, or the tunnel copy, whose destination conn fails
when its transport refuses a write: `accept = 0` together with the error) into a destination that
fails at any call. The error surfaces; what the destination took is a prefix of the pending stream; the
source conn stays in sync: the stream is exactly (taken) ++ (lost: at most the rest of the ONE chunk
that was in flight; if the failure hit the flush of the left-over, nothing — the left-over stays
buffered) ++ (still pending, to be delivered by later calls) — nothing is delivered twice, nothing
beyond the chunk in flight is lost, and the bytes counted as copied are bytes the destination took. -/
theorem destination_write_failure (C : Crypto) (hC : AeadOK C) (r : Reader) (cs : List Bytes) (hs : Sync C r cs)
    (hleft : r.left.length ≤ streamMaxPayloadSize) (sink : List SinkRes) (hk : SinkOK sink) :
    ∃ pieces e cs' lost, (r.writeToSink C sink).1 = .copied pieces e ∧ Sync C (r.writeToSink C sink).2.1 cs' ∧
      pending r cs = pieces.flatten ++ lost ++ pending (r.writeToSink C sink).2.1 cs' ∧
      lost.length ≤ streamMaxPayloadSize ∧ (e = none → lost = [] ∧ pending (r.writeToSink C sink).2.1 cs' = []) ∧
      (e = none ∨ e = some .sinkErr) := by
  obtain ⟨pieces, e, r', sink', cs', lost, h, hc⟩ := writeToSink_sync hC hs hleft hk
  rw [h]
  exact ⟨pieces, e, cs', lost, rfl, hc.sync, hc.split, hc.lost_le, hc.clean, hc.errs⟩


/-- **dial_context_released**: when `DialStream` returns, nothing is registered on the dial context any
more, for every payload length (in particular on both sides of `room`, where the excess is written
through `netio.ConnWriteContext`): cancelling the dial context, or its deadline expiring, after the dial
cannot reach into the session, so every clause above holds for such sessions unchanged. Depends on the
regenerated fact `connWriteContextAlwaysStops` (`ConnWriteContextFunc` calls `stop()` unconditionally). -/
theorem dial_context_released (C : Crypto) (cc : ClientCfg) (ch : DialChoice) (t : Addr) (P : Bytes) :
    (dial C cc ch t P).ctxArmed = false := by
  have hf : connWriteContextAlwaysStops = true := by decide
  simp [dial, hf]

/-- the splitting loops of `Write` / `ReadFrom` lose nothing and respect the chunk limit -/
theorem writer_chunks_valid (calls : List WCall) :
    ValidChunks (calls.flatMap WCall.chunks) ∧
    (calls.flatMap WCall.chunks).flatten = (calls.map WCall.data).flatten :=
  ⟨calls_valid calls, calls_flatten calls⟩

end SSV.C01

#print axioms SSV.C01.plainCrypto_ok
#print axioms SSV.C01.stream_roundtrip
#print axioms SSV.C01.emitted_delivers
#print axioms SSV.C01.delivered_is_prefix
#print axioms SSV.C01.eof_only_at_end
#print axioms SSV.C01.reader_progress
#print axioms SSV.C01.nonce_lockstep
#print axioms SSV.C01.increment_is_successor
#print axioms SSV.C01.segmentation_irrelevant
#print axioms SSV.C01.writer_chunks_valid
#print axioms SSV.C01.p_first_partial
#print axioms SSV.C01.response_roundtrip
#print axioms SSV.C01.plainCrypto_eih
#print axioms SSV.C01.request_observed
#print axioms SSV.C01.p_first
#print axioms SSV.C01.request_stable
#print axioms SSV.C01.stream_roundtrip_conn
#print axioms SSV.C01.transient_timeout_at_chunk_boundary
#print axioms SSV.C01.midchunk_timeout_is_permanent
#print axioms SSV.C01.response_roundtrip_readfrom
#print axioms SSV.C01.writeto_into_any_sink
#print axioms SSV.C01.request_observed_relayed
#print axioms SSV.C01.destination_write_failure
#print axioms SSV.C01.dial_context_released
