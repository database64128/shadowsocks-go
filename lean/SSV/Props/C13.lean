import SSV.Proofs.TcpRelay
/-
C13 — The TCP relay connects clients to the routed destination and mirrors half-closes (PARTIAL).

The theorems are about `SSV.TcpRelay.handleConn`, which is the INTERPRETATION of the step program regenerated from
service/tcp.go on every run (`SSV.Gen.C13`), and about the two copy loops regenerated from netio/stream.go.
They hold for every environment `e : Env`: every request, router answer, Proceed/deadline outcome, wait-read outcome
(kind and byte count: kernel timing enters here as a universally quantified input), dial result, pair of byte streams
and every interleaving `e.sched` of the two copy loops (any list of labels; labels that are not enabled are no-ops).

What is NOT covered (hence partial): that the kernel's TCP behaves like the model's streams (a loop delivers a prefix of
its source in order), the protocol codecs behind HandleStream / DialStream / Proceed / Abort (C01, C07), the router's
choice (C09). Those are sampled by the loopback engine corr_c13.
-/
namespace SSV.C13
open SSV SSV.TcpRelay SSV.Gen.C13

/-- a sample environment (used by the satisfiability examples): a SOCKS5-like server in front of a native client,
the client's first 2 bytes arrive within the wait window -/
def sampleEnv : Env :=
  { serverNative := false, waitDisabled := false, bufSize := 8, req := some ⟨"a:1", [], "u"⟩, routeErr := none,
    clientNative := true, proceedOk := true, setDeadlineOk := true, clientStream := [1, 2, 3], waitKind := .data, waitN := 2,
    clearDeadlineOk := true, dialErr := none, targetStream := [9],
    sched := [.chunk .right 1, .chunk .left 1, .eof .left, .eof .right] }

/-- The brief wait for the initial payload happens iff the request carried no payload, the routed client can carry one,
the server protocol cannot, and the listener did not disable it — exactly the condition of the source
(`len(req.Payload) == 0 && clientInfo.NativeInitialPayload && lnc.waitForInitialPayload`, with
`waitForInitialPayload = !serverNativeInitialPayload && !lnc.DisableInitialPayloadWait`). -/
theorem wait_decision (e : Env) (r : Req) (hr : e.req = some r) (hroute : e.routeErr = none)
    (hp : e.proceedOk = true) (hs : e.setDeadlineOk = true) :
    (∃ n, Action.waitRead n ∈ handleConn e) ↔
      (r.payload = [] ∧ e.clientNative = true ∧ e.serverNative = false ∧ e.waitDisabled = false) := by
  simp [← waits_iff, mem_routed_iff hr hroute, occurs, hp, hs]

example : (∃ n, Action.waitRead n ∈ handleConn sampleEnv) := ⟨8, by decide⟩

/-- Order of the key calls: when the relay waits, success is signalled (Proceed) BEFORE anything else; when it does not, DialStream with the request's own payload comes first. -/
theorem wait_decision_order (e : Env) (r : Req) (hr : e.req = some r) (hroute : e.routeErr = none) :
    (waits e r = true → ∃ t, handleConn e = .handshake :: .routed :: .proceed :: t) ∧
    (waits e r = false → ∃ t, handleConn e = .handshake :: .routed :: .dial r.addr r.payload :: t) := by
  rw [handleConn_cases e r hr hroute]
  constructor <;> exact fun hw => ⟨_, by rw [hw]; rfl⟩

/-- DialStream is called at most once, with exactly the requested address, and with exactly the request's payload or
exactly the bytes the wait read returned — never both (the wait only happens when the request's payload is empty). -/
theorem payload_once (e : Env) (r : Req) (hr : e.req = some r) (hroute : e.routeErr = none)
    (a : String) (p : Bytes) (h : Action.dial a p ∈ handleConn e) :
    a = r.addr ∧
    p = (if waits e r then e.clientStream.take (waitBytes e) else r.payload) ∧
    (waits e r = true → r.payload = []) ∧
    dialCount (handleConn e) = 1 := by
  obtain ⟨hd, rfl, rfl⟩ := (mem_routed_iff hr hroute).1 h
  exact ⟨rfl, rfl, fun hw => ((waits_iff e r).1 hw).1, by rw [dialCount_routed hr hroute, if_pos hd]⟩

example : Action.dial "a:1" [1, 2] ∈ handleConn sampleEnv := by decide

/-- For EVERY interleaving of the copy loops and every wait-read outcome, what the remote side has received (DialStream's
payload followed by what the copy wrote) is a prefix of `request payload ++ client stream`: nothing is repeated, nothing is
skipped, the bytes handed to DialStream are not read again by the copy. -/
theorem payload_once_delivered_prefix (e : Env) (r : Req) (hr : e.req = some r) (hroute : e.routeErr = none)
    (hd : e.dialErr = none) :
    ∃ rest, targetReceived (handleConn e) ++ rest = r.payload ++ e.clientStream := by
  rw [← dialPayload_append, targetReceived_routed hr hroute]
  by_cases hc : copies e r = true
  · refine ⟨(copyRun e (consumedByWait e r)).todoL, ?_⟩
    rw [if_pos (dials_of_copies hc), if_pos hc, List.append_assoc, (copyRun_inv e (consumedByWait e r) .left).split]
  · rw [if_neg hc, List.append_nil]
    split
    · exact ⟨_, rfl⟩
    · exact ⟨_, List.nil_append _⟩

/-- … and once the client's end-of-stream has been passed on (CloseWrite on the remote side) without a copy error, the
remote side has received exactly `request payload ++ client stream`, whatever the interleaving and the wait-read outcome. -/
theorem payload_once_delivered (e : Env) (r : Req) (hr : e.req = some r) (hroute : e.routeErr = none)
    (hd : e.dialErr = none) (hnf : ∀ l ∈ e.sched, l ≠ .fail .left)
    (hcw : Action.closeWrite .right ∈ handleConn e) :
    targetReceived (handleConn e) = r.payload ++ e.clientStream := by
  obtain ⟨hc, hcw'⟩ := (mem_routed_iff hr hroute).1 hcw
  have inv := copyRun_inv e (consumedByWait e r) .left
  rw [targetReceived_routed hr hroute, hc, if_pos rfl, if_pos (dials_of_copies hc),
    inv.delivered (inv.closed_eq_done ▸ hcw') (failed_run e.sched _ .left hnf rfl), dialPayload_append]

example : Action.closeWrite .right ∈ handleConn sampleEnv ∧ targetReceived (handleConn sampleEnv) = [1, 2, 3] := by decide

/-- A failing Proceed, a failing SetReadDeadline, a wait read that fails with anything but a timeout, or a failing
deadline reset on the wait path: the connection is dropped — nothing is dialed, nothing is aborted (success was already
signalled), nothing is recorded, and the last thing that happens is the close of the client connection. (Real TCP rarely or
never produces these branches; the scripted-connection engine exercises them.) -/
theorem wait_path_failure_drops (e : Env) (r : Req) (hr : e.req = some r) (hroute : e.routeErr = none)
    (hw : waits e r = true)
    (hf : e.proceedOk = false ∨ e.setDeadlineOk = false ∨ e.waitKind = .error ∨ e.clearDeadlineOk = false) :
    dialCount (handleConn e) = 0 ∧ (∀ c, Action.abort c ∉ handleConn e) ∧
    (∀ u d up, Action.collect u d up ∉ handleConn e) ∧ (handleConn e).getLast? = some .closeClient := by
  have hnd := dials_eq_false.2 ⟨hw, hf⟩
  have hc := copies_of_not_dials hnd
  refine ⟨by rw [dialCount_routed hr hroute, hnd]; rfl, ?_, ?_, getLast_routed hr hroute hc⟩
  all_goals simp [mem_routed_iff hr hroute, occurs, hw, hc]

example : waits { sampleEnv with waitKind := .error } ⟨"a:1", [], "u"⟩ = true := by decide

/-- End-of-stream that arrives TOGETHER with data in the wait read (one Read returning n > 0 and io.EOF): the n bytes are
the DialStream payload, the copy then starts after them, so they are forwarded exactly once; and when the client-side loop
sees the end of the stream the write shutdown is passed on (CloseWrite on the remote side) with exactly the client's bytes
delivered. -/
theorem wait_eof_with_data (e : Env) (r : Req) (hr : e.req = some r) (hroute : e.routeErr = none)
    (hw : waits e r = true) (hp : e.proceedOk = true) (hs : e.setDeadlineOk = true) (hk : e.waitKind = .eof)
    (hc : e.clearDeadlineOk = true) (hd : e.dialErr = none) :
    handleConn e = .handshake :: .routed :: .proceed :: .setDeadline :: .waitRead e.bufSize :: .clearDeadline ::
      fromDial e r true (e.clientStream.take (waitBytes e)) (waitBytes e) ∧
    ((∀ l ∈ e.sched, l ≠ .fail .left) → Action.closeWrite .right ∈ handleConn e →
      targetReceived (handleConn e) = e.clientStream) := by
  refine ⟨?_, ?_⟩
  · rw [handleConn_cases e r hr hroute]
    simp [afterWait, hw, hp, hs, hk, hc]
  · intro hnf hcw
    have := payload_once_delivered e r hr hroute hd hnf hcw
    rwa [((waits_iff e r).1 hw).1, List.nil_append] at this

example : Action.closeWrite .right ∈ handleConn { sampleEnv with waitKind := .eof, waitN := 3, sched := [.eof .left, .chunk .right 1, .eof .right] } := by decide

/-- A router failure is answered with Abort(code of the router error); nothing is dialed, nothing is proceeded. -/
theorem failure_reply_route (e : Env) (r : Req) (c : Code) (hr : e.req = some r) (h : e.routeErr = some c) :
    handleConn e = [.handshake, .abort c, .closeClient] := by
  simp [handleConn, hr, finish, runSteps, handleConnProgram, execStep, h, abortIf, routeAbort, St.emit, St.ret]

/-- A failed DialStream is answered with Abort(code of the dial error) iff the pending connection was not yet proceeded;
no other code is ever used. -/
theorem failure_reply (e : Env) (r : Req) (c : Code) (hr : e.req = some r) (hroute : e.routeErr = none)
    (hd : e.dialErr = some c) :
    (Action.abort c ∈ handleConn e ↔ Action.proceed ∉ handleConn e) ∧
    (∀ c', Action.abort c' ∈ handleConn e → c' = c) ∧
    (Action.proceed ∈ handleConn e ↔ waits e r = true) := by
  simp only [mem_routed_iff hr hroute, occurs, hd]
  cases waits e r <;> simp

example : ∃ (e : Env) (r : Req) (c : Code), e.req = some r ∧ e.routeErr = none ∧ e.dialErr = some c ∧ Action.abort c ∈ handleConn e :=
  ⟨{ sampleEnv with clientNative := false, dialErr := some 111 }, ⟨"a:1", [], "u"⟩, 111, rfl, rfl, rfl, by decide⟩

/-- In no environment at all does one connection see both an Abort and a Proceed (no failure reply after the success
reply, no success reply after a failure reply), and an Abort always carries the code of the failure that happened. -/
theorem never_abort_and_proceed (e : Env) (c : Code) (h : Action.abort c ∈ handleConn e) :
    Action.proceed ∉ handleConn e ∧ (e.routeErr = some c ∨ (e.routeErr = none ∧ e.dialErr = some c)) := by
  cases hr : e.req with
  | none => simp [handleConn, hr] at h
  | some r =>
    cases hroute : e.routeErr with
    | some c' =>
      rw [failure_reply_route e r c' hr hroute] at h ⊢
      obtain rfl : c = c' := by simpa using h
      exact ⟨by simp, .inl rfl⟩
    | none =>
      -- the only Abort of a routed request is DialStream's, and it is there because the connection was not yet proceeded
      obtain ⟨hw, hd⟩ := (mem_routed_iff hr hroute).1 h
      simp [mem_routed_iff hr hroute, occurs, hd, hw]

/-- The two copy loops, for every pair of streams and EVERY interleaving `sched`:
(1) CloseWrite has been issued on one side exactly when the loop reading from the other side has ended;
(2) when that loop ended by end-of-stream, everything its source sent had been written before (EOF is not passed on early,
    nothing is lost in front of it);
(3) a step of one loop changes nothing the opposite loop owns, and whatever the opposite loop could do it still can do
    (the opposite direction keeps flowing);
(4) a loop that has not ended can always take a step (no stuck state of the copy logic itself). -/
theorem half_close (a b : Bytes) (sched : List Label) (s : Side) :
    let c := runSched (CopySt.init a b) sched
    c.cw (otherSide s) = c.done s ∧
    (c.done s = true → c.failed s = false → c.rx (otherSide s) = (match s with | .left => a | .right => b)) ∧
    (∀ l l', l.side = s → l'.side = otherSide s →
      loopView (stepCopy c l) (otherSide s) = loopView c (otherSide s) ∧ enabled (stepCopy c l) l' = enabled c l') ∧
    (c.done s = false → enabled c (.eof s) = true ∨ enabled c (.chunk s (c.todo s).length) = true) := by
  intro c
  have inv := loopInv_run sched (loopInv_init a b s)
  rw [loopView_eq] at inv
  refine ⟨inv.closed_eq_done, inv.delivered, ?_, ?_⟩
  · intro l l' hl hl'
    subst hl
    exact ⟨step_frame c l, opposite_keeps_running c l l' hl'⟩
  · intro hnd
    cases ht : c.todo s with
    | nil => left; simp [enabled, hnd, ht]
    | cons x xs => right; simp [enabled, hnd, ht, Nat.blt, Nat.ble_eq]

/-- End-of-stream from one side becomes a write shutdown of the other side: when the loop reading from `s` sees EOF, the
step issues CloseWrite on the opposite side, ends only that loop, and does so without an error. -/
theorem half_close_eof (a b : Bytes) (sched : List Label) (s : Side)
    (h : enabled (runSched (CopySt.init a b) sched) (.eof s) = true) :
    let c' := stepCopy (runSched (CopySt.init a b) sched) (.eof s)
    c'.cw (otherSide s) = true ∧ c'.done s = true ∧ c'.failed s = false ∧
    loopView c' (otherSide s) = loopView (runSched (CopySt.init a b) sched) (otherSide s) := by
  intro c'
  obtain ⟨h1, h2, h3⟩ := eof_becomes_closeWrite _ s h
  exact ⟨h1, h2, h3, step_frame _ (.eof s)⟩

example : enabled (runSched (CopySt.init [1] [2, 3]) [.chunk .left 1]) (.eof .left) = true := by decide

/-- The handler reports a CloseWrite towards the remote side exactly when the copy ran and the client-side loop ended, and
towards the client exactly when the remote-side loop ended (EOF order is mirrored, per direction). -/
theorem half_close_in_handler (e : Env) (r : Req) (hr : e.req = some r) (hroute : e.routeErr = none)
    (hw : waits e r = false) (hd : e.dialErr = none) (hp : e.proceedOk = true) :
    (Action.closeWrite .right ∈ handleConn e ↔ (copyRun e 0).doneL = true) ∧
    (Action.closeWrite .left ∈ handleConn e ↔ (copyRun e 0).doneR = true) := by
  rw [← (copyRun_inv e 0 .left).closed_eq_done, ← (copyRun_inv e 0 .right).closed_eq_done]
  simp [mem_routed_iff hr hroute, occurs, copies_iff, dials_of_not_waits hw, consumedByWait_eq_zero hw, hd, hp, CopySt.cw]

/-- The figures handed to the statistics collector: the user of the request, downlink = bytes written to the client,
uplink = bytes handed to the remote side (DialStream's payload, counted once, plus what the copy wrote). For every
interleaving and every wait-read outcome, INCLUDING schedules whose loops end with `fail` labels (copy errors): the
figures are then the bytes delivered up to the error. -/
theorem stats_exact (e : Env) (r : Req) (hr : e.req = some r) (hroute : e.routeErr = none)
    (u : String) (d up : Nat) (h : Action.collect u d up ∈ handleConn e) :
    u = r.user ∧ up = (targetReceived (handleConn e)).length ∧ d = (clientReceived (handleConn e)).length := by
  obtain ⟨hc, _, rfl, rfl, rfl⟩ := (mem_routed_iff hr hroute).1 h
  rw [targetReceived_routed hr hroute, clientReceived_routed hr hroute, hc, if_pos rfl, if_pos rfl,
    if_pos (dials_of_copies hc), List.length_append, (copyRun_inv e (consumedByWait e r) .left).count,
    (copyRun_inv e (consumedByWait e r) .right).count, Nat.add_comm]
  exact ⟨rfl, rfl, rfl⟩

example : Action.collect "u" 1 3 ∈ handleConn sampleEnv := by decide

/-- The session IS recorded whenever BidirectionalCopy returned — for every schedule, in particular those in which a loop
ends with a `fail` label (read or write error, e.g. the remote resets after data was relayed): the collect call comes before
the handler's `if err != nil { return }`. Together with `stats_exact` the recorded figures are the bytes delivered each way
up to the error. (`copied ∈ trace ∧ blocked ∉ trace` says exactly that both loops have returned.) -/
theorem stats_recorded (e : Env) (r : Req) (hr : e.req = some r) (hroute : e.routeErr = none)
    (a b : Bytes) (hc : Action.copied a b ∈ handleConn e) (hnb : Action.blocked ∉ handleConn e) :
    Action.collect r.user (clientReceived (handleConn e)).length (targetReceived (handleConn e)).length ∈ handleConn e := by
  have hcp := ((mem_routed_iff hr hroute).1 hc).1
  have h := (mem_routed_iff hr hroute (a := .collect r.user _ _)).2
    ⟨hcp, Decidable.not_not.1 fun hn => hnb ((mem_routed_iff hr hroute).2 ⟨hcp, hn⟩), rfl, rfl, rfl⟩
  obtain ⟨_, hup, hd⟩ := stats_exact e r hr hroute r.user _ _ h
  rw [← hup, ← hd]; exact h

/-- a session that relayed data and then ended with errors on both loops is recorded with what was delivered -/
example : Action.collect "u" 1 3 ∈ handleConn { sampleEnv with sched := [.chunk .right 1, .chunk .left 1, .fail .right, .fail .left] } := by decide

end SSV.C13

#print axioms SSV.C13.wait_decision
#print axioms SSV.C13.wait_decision_order
#print axioms SSV.C13.payload_once
#print axioms SSV.C13.payload_once_delivered_prefix
#print axioms SSV.C13.payload_once_delivered
#print axioms SSV.C13.wait_path_failure_drops
#print axioms SSV.C13.wait_eof_with_data
#print axioms SSV.C13.failure_reply_route
#print axioms SSV.C13.failure_reply
#print axioms SSV.C13.never_abort_and_proceed
#print axioms SSV.C13.half_close
#print axioms SSV.C13.half_close_eof
#print axioms SSV.C13.half_close_in_handler
#print axioms SSV.C13.stats_exact
#print axioms SSV.C13.stats_recorded
