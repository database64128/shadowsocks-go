import SSV.Model.Relay
import SSV.Proofs.RelayStep
import SSV.Proofs.RelayReply
import SSV.Proofs.RelayBatch
import SSV.Proofs.RelayFair
/-
C11 — property theorems (model: SSV/Model/Relay.lean; invariants: `Inv` in SSV/Proofs/RelayStep.lean, `RInv` in RelayReply,
`FInv` in RelayFate).

`run cfg State.init acts` ranges over ALL action lists = all interleavings of any number of sessions,
any unpack results (garbage included), any resolver answers in any order, any client address changes.
-/
namespace SSV.C11
open SSV.Relay

/-- The packer assignment implemented by the CURRENT source (Gen fact `packerShared`) gives every
session incarnation its own packer. Fails to elaborate while `DirectUDPClient.NewSession` hands out a stored packer (F8). -/
theorem code_packer_per_session : ∀ a b : Nat,
    packerOfShared SSV.Gen.C11.packerShared a = packerOfShared SSV.Gen.C11.packerShared b → a = b := by
  intro a b h
  simp [packerOfShared, SSV.Gen.C11.packerShared] at h
  exact h

/-- Gen side conditions: in all four receive loops the table insert follows the `continue` taken on a failed
unpack, lookup/insert/enqueue happen under the mutex, and the cleanup closes the channel and deletes the entry
under the same mutex; every other `UDPClient` builds its packer inside `NewSession`. -/
theorem code_facts : codeRecvOK = true ∧ codeCleanupOK = true ∧ SSV.Gen.C11.clientPackerFresh.all (·.2) = true := by
  decide

/-- **no_cross_session_send.** In every reachable state of every interleaving, if sessions do not share a
packer instance, each datagram an uplink put on the wire was made from a packet the receive loop accepted for
THAT session incarnation, carries that packet (payload), and is addressed to the target the packet names:
the literal IP and port, or — for a domain target — an address the resolver answered for that very domain, same port. -/
theorem no_cross_session_send (cfg : Config) (hinj : ∀ a b, cfg.packerOf a = cfg.packerOf b → a = b)
    (acts : List Act) :
    ∀ w ∈ (run cfg State.init acts).sent,
      (∃ src, (w.sid, src, w.pkt) ∈ (run cfg State.init acts).recvd) ∧
      destOK cfg.upstream (run cfg State.init acts).answers w :=
  fun w hw => ⟨(finv_run acts finv_init).sentOwn w hw, (inv_run hinj acts (inv_init cfg)).sent w hw⟩

/-- … instantiated with what the source says now (every protocol parameter free: capacity, keying, whether the
server protocol carries a source, direct client or any upstream proxy address). -/
theorem no_cross_session_send_code (cap : Nat) (byAddr src : Bool) (up : Option (IP × Nat)) (acts : List Act) :
    ∀ w ∈ (run (codeConfig cap byAddr src up) State.init acts).sent,
      (∃ a, (w.sid, a, w.pkt) ∈ (run (codeConfig cap byAddr src up) State.init acts).recvd) ∧
      destOK up (run (codeConfig cap byAddr src up) State.init acts).answers w :=
  no_cross_session_send _ code_packer_per_session acts

example : ∃ cfg : Config, ∀ a b, cfg.packerOf a = cfg.packerOf b → a = b :=
  ⟨⟨4, true, true, false, none, fun s => s⟩, fun _ _ h => h⟩

/-- with an upstream proxy everything goes to the proxy, the named target travels inside -/
example : (run ⟨4, true, true, false, some (99, 1080), fun s => s⟩ State.init
    [.recv 1 1 (some ⟨.dom 7 53, 100⟩), .initOk 0, .take 0]).sent = [⟨0, ⟨.dom 7 53, 100⟩, 99, 1080⟩] := by decide

/-- the F8 witness: A resolves X (→ 10), B resolves Y (→ 20) on the SAME packer; A reads the cached IP after B overwrote it -/
def f8Witness : List Act :=
  [ .recv 1 1 (some ⟨.dom 7 53, 100⟩), .recv 2 2 (some ⟨.dom 8 53, 200⟩), .initOk 0, .initOk 1,
    .take 0, .resolved 0 (some 10), .storeIP 0,          -- A: cache = (X, 10), about to read it
    .take 1, .resolved 1 (some 20), .storeIP 1,          -- B: cache = (Y, 20)
    .readSend 0 ]                                        -- A sends X's datagram to 20

/-- **Negation with a shared packer** (the source tree before the F8 repair): a reachable state has a datagram
of session 0, whose packet names domain 7, on the wire towards an address the resolver never gave for domain 7. -/
theorem shared_packer_cross_send :
    ∃ w ∈ (run ⟨4, true, true, false, none, packerOfShared true⟩ State.init f8Witness).sent,
      ¬ destOK none (run ⟨4, true, true, false, none, packerOfShared true⟩ State.init f8Witness).answers w := by
  decide

/-- the same schedule is harmless with a packer per session -/
example : ∀ w ∈ (run ⟨4, true, true, false, none, packerOfShared false⟩ State.init f8Witness).sent,
      destOK none (run ⟨4, true, true, false, none, packerOfShared false⟩ State.init f8Witness).answers w := by
  decide

/-- **garbage_is_noop.** A datagram that fails to parse or authenticate (unpack result `none`) changes
nothing: no table entry, no session (= no goroutines, no socket), no queue, no cache — in any state. -/
theorem garbage_is_noop (cfg : Config) (h : cfg.insertFirst = false) (st : State) (key : Key) (src : Addr) :
    step cfg st (.recv key src none) = st := by
  -- the one arm a datagram that does not unpack can fire is the insert before the unpack
  refine step_elim (P := (· = st)) (fun _ => rfl) fun ha _ => ?_
  cases ha with | recvEmpty _ hi => rw [h] at hi; cases hi

theorem garbage_is_noop_code (cap : Nat) (byAddr src : Bool) (st : State) (key : Key) (a : Addr) :
    step (codeConfig cap byAddr src) st (.recv key a none) = st :=
  garbage_is_noop _ (by simp [codeConfig, code_facts.1]) st key a

/-- address-keyed relays: a datagram from another address never reaches this session (its key IS its address) -/
theorem nat_keyed_by_address (cfg : Config) (hb : cfg.byAddr = true) (st : State) (key : Key) (src : Addr)
    (r : Option Pkt) (h : key ≠ src) : step cfg st (.recv key src r) = st := by
  simp [step, recv, hb, h]

/-- had the insert preceded the unpack, garbage WOULD create a session (the model can tell the difference) -/
example : (step ⟨4, true, true, true, none, fun s => s⟩ State.init (.recv 1 1 none)).next = 1 := by decide

/-- **replies_to_owner.** Every reply a downlink wrote is addressed to the source address of the most
recent packet accepted for that session incarnation at the time of sending (its owner's LATEST address),
carries the true source exactly when the protocol has a source field, and — for address-keyed relays —
that address is the session's key. (`insertFirst = false`: sessions exist only through an accepted packet.) -/
theorem replies_to_owner (cfg : Config) (hif : cfg.insertFirst = false) (acts : List Act) :
    ∀ r ∈ (run cfg State.init acts).replies,
      lastAddr ((run cfg State.init acts).recvd.take r.stamp) r.sid = some r.to ∧
      r.src = (if cfg.carriesSource then some r.fromSrc else none) ∧
      (cfg.byAddr = true → ∃ s, (run cfg State.init acts).sess r.sid = some s ∧ r.to = s.key) := by
  intro r hr
  obtain ⟨_, h2, h3, s, hs, h4⟩ := (rinv_run hif acts (rinv_init cfg)).rep r hr
  exact ⟨h2, h3, fun hb => ⟨s, hs, h4 hb⟩⟩

theorem replies_to_owner_code (cap : Nat) (byAddr src : Bool) (acts : List Act) :
    ∀ r ∈ (run (codeConfig cap byAddr src) State.init acts).replies,
      lastAddr ((run (codeConfig cap byAddr src) State.init acts).recvd.take r.stamp) r.sid = some r.to ∧
      r.src = (if src then some r.fromSrc else none) ∧
      (byAddr = true → ∃ s, (run (codeConfig cap byAddr src) State.init acts).sess r.sid = some s ∧ r.to = s.key) :=
  replies_to_owner _ (by simp [codeConfig, code_facts.1]) acts

example : (run ⟨4, false, true, false, none, fun s => s⟩ State.init
    [.recv 9 1 (some ⟨.ip 5 53, 100⟩), .initOk 0, .recv 9 2 (some ⟨.ip 5 53, 101⟩), .down 0 (some ((5, 53), 300))]).replies
    = [⟨0, 2, some (5, 53), (5, 53), 300, 2⟩] := by decide

/-- **ss2022_follows_address.** In a session-keyed relay, a packet that unpacks for an existing session
arriving from a NEW client address creates no new session: the table is unchanged, the same incarnation
stays, and its published client address becomes the new one (so by `replies_to_owner` later replies go there). -/
theorem ss2022_follows_address (cfg : Config) (hif : cfg.insertFirst = false) (hb : cfg.byAddr = false)
    (acts : List Act) (key : Key) (sid : Nat) (src : Addr) (q : Pkt)
    (ht : (run cfg State.init acts).table key = some sid) :
    (step cfg (run cfg State.init acts) (.recv key src (some q))).table = (run cfg State.init acts).table ∧
    (step cfg (run cfg State.init acts) (.recv key src (some q))).next = (run cfg State.init acts).next ∧
    ∃ s, (step cfg (run cfg State.init acts) (.recv key src (some q))).sess sid = some s ∧ s.clientAddr = src ∧ s.key = key := by
  obtain ⟨s, hs, hk⟩ := (rinv_run hif acts (rinv_init cfg)).tab key sid ht
  simp only [step, recv, hb, Bool.false_and, ht, hs]
  refine ⟨rfl, rfl, ?_⟩
  simp [setSess, enqueue_eq, hk]

example : (run ⟨4, false, true, false, none, fun s => s⟩ State.init [.recv 9 1 (some ⟨.ip 5 53, 100⟩)]).table 9 = some 0 := by decide

/-- **Delivery, one packet.** The packet at the head of a started session's queue is put on the wire by that
session's own steps (plus one resolver answer if its domain is not cached), and by `no_cross_session_send` towards the
right destination. One schedule is exhibited; every interleaving and the whole queue are the subject of
`accepted_packets_sent_or_documented_drop`. Sessions closed before their queue drained belong to the life cycle (C12). -/
theorem enqueued_head_leaves_partial (cfg : Config) (st : State) (sid : Nat) (s : Sess) (q : Pkt) (rest : List Pkt)
    (hs : st.sess sid = some s) (hst : s.started = true) (hpc : s.pc = .idle) (hq : s.queue = q :: rest) (ip : IP) :
    ∃ acts : List Act, acts ⊆ [.take sid, .resolved sid (some ip), .storeIP sid, .readSend sid] ∧
      ∃ a p, (run cfg st acts).sent = st.sent ++ [⟨sid, q, a, p⟩] := by
  cases hup : cfg.upstream with
  | some ap =>
    obtain ⟨a, p⟩ := ap
    exact ⟨[.take sid], List.cons_subset_cons _ (List.nil_subset _), a, p, by
      simp [run, step, take, hs, hst, hpc, hq, hup, setSess]⟩
  | none =>
    cases htg : q.target with
    | ip a p =>
      exact ⟨[.take sid], List.cons_subset_cons _ (List.nil_subset _), a, p, by
        simp [run, step, take, hs, hst, hpc, hq, hup, htg, setSess]⟩
    | dom d p =>
      by_cases hhit : (st.cache (cfg.packerOf sid)).dom = some d
      · exact ⟨[.take sid, .readSend sid], by simp, (st.cache (cfg.packerOf sid)).ip, p, by
          simp [run, step, take, readSend, hs, hst, hpc, hq, hup, htg, hhit, setSess, updF, Target.port]⟩
      · exact ⟨[.take sid, .resolved sid (some ip), .storeIP sid, .readSend sid], by simp, ip, p, by
          simp [run, step, take, resolved, storeIP, readSend, hs, hst, hpc, hq, hup, htg, hhit, setSess, updF, Target.port]⟩

example : ∃ (st : State) (s : Sess), st.sess 0 = some s ∧ s.started = true ∧ s.pc = .idle ∧ s.queue = [⟨.dom 7 53, 100⟩] :=
  ⟨run ⟨4, true, true, false, none, fun s => s⟩ State.init [.recv 1 1 (some ⟨.dom 7 53, 100⟩), .initOk 0], _, rfl, rfl, rfl, rfl⟩

/-- Gen side condition: the COMPLETE list of places where the uplink and receive loops of both relays (generic and
mmsg) give a packet buffer back, classified. Uplinks: only after a failed `PackInPlace` and after the write. -/
theorem code_drop_rules : codeDropRulesOK = true := by decide

/-- the uplink of a started session is never stuck while anything is pending: one of its own steps (or an answer /
failure of the resolver) is enabled -/
theorem uplink_never_stuck (st : State) (sid : Nat) (s : Sess) (hs : st.sess sid = some s) (hst : s.started = true)
    (hw : 0 < work s) : ∃ a, enabledUpB st sid a = true := by
  cases hpc : s.pc with
  | idle =>
    refine ⟨.take sid, ?_⟩
    have : s.queue ≠ [] := by
      intro h; simp [work, hpc, h] at hw
    simp [enabledUpB, hs, hst, hpc, this]
  | resolving q d => exact ⟨.resolved sid none, by simp [enabledUpB, hs, hpc]⟩
  | storedDomain q ip => exact ⟨.storeIP sid, by simp [enabledUpB, hs, hpc]⟩
  | storedIP q => exact ⟨.readSend sid, by simp [enabledUpB, hs, hpc]⟩

/-- conservation + FIFO in every reachable state: the packets accepted into a session's queue are, in order, exactly
those that already have a fate, then the one in flight, then the queue — nothing disappears, nothing is reordered -/
theorem queue_conservation_fifo (cfg : Config) (acts : List Act) (sid : Nat) (s : Sess)
    (hs : (run cfg State.init acts).sess sid = some s) :
    enqOf (run cfg State.init acts) sid = fateOf (run cfg State.init acts) sid ++ pend s :=
  (finv_run acts finv_init).fifo_some hs

theorem fate_sent_is_sent (cfg : Config) (acts : List Act) :
    ∀ e ∈ (run cfg State.init acts).fate, ∀ ip port, e.2.2 = .sent ip port →
      (⟨e.1, e.2.1, ip, port⟩ : Sent) ∈ (run cfg State.init acts).sent :=
  (finv_run acts finv_init).sentLog

/-- **Progress under fairness.** Fairness is the explicit hypothesis `hfair`: in the rest of the run — ANY interleaving
with the receive loop, other sessions, downlinks, evictions — the uplink goroutine of `sid` is scheduled for at least
`work s` of its enabled steps (a `resolved` step = the resolver eventually answers or fails; by `uplink_never_stuck`
such a step is always available while something is pending). Then every packet that was pending in the session at
that point (the one inside `PackInPlace` and the whole send queue) has LEFT the uplink, in FIFO order: the session's
fate log continues exactly with these packets. Each fate is one of the documented ones (`Fate`: sent / resolver
failed / pack failed / session never started; `code_drop_rules` ties the list to the source), a `sent` fate is a
datagram of `sent` (`fate_sent_is_sent`, hence to the named destination by `no_cross_session_send`). A packet that
is NOT accepted into the queue is logged in `qdrop` (queue full) by `recv`; no theorem here speaks about `qdrop`. -/
theorem accepted_packets_sent_or_documented_drop (cfg : Config) (pre acts : List Act) (sid : Nat) (s : Sess)
    (hs : (run cfg State.init pre).sess sid = some s)
    (hfair : work s ≤ upTurns cfg sid (run cfg State.init pre) acts) :
    ∃ Z, fateOf (run cfg (run cfg State.init pre) acts) sid = fateOf (run cfg State.init pre) sid ++ pend s ++ Z :=
  pending_get_fates (finv_run pre finv_init) acts sid s hs hfair

example : upTurns ⟨4, true, true, false, none, fun s => s⟩ 0
    (run ⟨4, true, true, false, none, fun s => s⟩ State.init [.recv 1 1 (some ⟨.dom 7 53, 100⟩), .initOk 0])
    [.take 0, .recv 2 2 (some ⟨.ip 9 53, 101⟩), .resolved 0 none] = 2 := by decide

/-- Gen side condition for the four recvmmsg/sendmmsg relay loops (NAT + session, uplink + downlink): every
send-side vector is filled at the kept-counter, the counter is declared per batch and incremented once after the
fills, the slice handed to `WriteMsgs` ends at the counter, message `i` points at slot `i`, a downlink reads message
`i` from buffer `i`. Fails to elaborate when an index expression changes (e.g. `siovec[i]` for `siovec[ns]`). -/
theorem code_batch_facts : codeBatchOK = true := by decide

/-- **batch_sends_exactly_kept.** For every batch (any length up to the vector size), every pattern of dropped
messages inside it and whatever EARLIER batches left in the send vector: the messages handed to sendmmsg are
exactly the kept ones, in order, each with its own header and payload (`α` = a re-packed datagram). -/
theorem batch_sends_exactly_kept {α : Type} (slots : List α) (rx : List (Option α)) (h : rx.length ≤ slots.length) :
    (batchSend .counter slots rx).2 = rx.filterMap id := by
  have := batchLoop_counter rx 0 0 slots (by simpa using h)
  simpa [batchSend] using this

/-- … for the fill mode each of the four loops of the CURRENT source uses -/
theorem batch_sends_exactly_kept_code {α : Type} : ∀ p ∈ SSV.Gen.C11.batchProgs, ∀ fill, progFill p.2 = some fill →
    ∀ (slots : List α) (rx : List (Option α)), rx.length ≤ slots.length → (batchSend fill slots rx).2 = rx.filterMap id := by
  intro p hp fill hf slots rx h
  have hall := code_batch_facts
  simp only [codeBatchOK, Bool.and_eq_true, List.all_eq_true] at hall
  have hp' := (hall.2 p hp).1
  simp only [beq_iff_eq] at hp'
  rw [hp'] at hf
  cases hf
  exact batch_sends_exactly_kept slots rx h

example : (batchSend .counter [70, 71, 72] [none, some 5, none, some 6]).2 = [5, 6] := by decide

/-- the negation for a loop that fills at the receive index (`siovec[i]`): a dropped message in front of a good one
makes the relay send a stale entry of an earlier batch instead of the good reply -/
theorem recv_index_fill_sends_stale :
    (batchSend .recvIndex [70, 71] [none, some 5]).2 = [70] ∧ [none, some 5].filterMap id = [5] := by decide

end SSV.C11

#print axioms SSV.C11.code_packer_per_session
#print axioms SSV.C11.code_facts
#print axioms SSV.C11.no_cross_session_send
#print axioms SSV.C11.no_cross_session_send_code
#print axioms SSV.C11.shared_packer_cross_send
#print axioms SSV.C11.garbage_is_noop
#print axioms SSV.C11.garbage_is_noop_code
#print axioms SSV.C11.replies_to_owner
#print axioms SSV.C11.replies_to_owner_code
#print axioms SSV.C11.ss2022_follows_address
#print axioms SSV.C11.enqueued_head_leaves_partial
#print axioms SSV.C11.code_drop_rules
#print axioms SSV.C11.uplink_never_stuck
#print axioms SSV.C11.accepted_packets_sent_or_documented_drop
#print axioms SSV.C11.queue_conservation_fifo
#print axioms SSV.C11.fate_sent_is_sent
#print axioms SSV.C11.code_batch_facts
#print axioms SSV.C11.batch_sends_exactly_kept
#print axioms SSV.C11.batch_sends_exactly_kept_code
#print axioms SSV.C11.recv_index_fill_sends_stale
#print axioms SSV.C11.nat_keyed_by_address
