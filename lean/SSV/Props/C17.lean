import SSV.Proofs.Lru
import SSV.Proofs.Dns
/-
C17 — The resolver returns only upstream's answers, honours TTLs, degrades safely.

Property theorems about the models `SSV.Model.Lru` (cache/cache.go) and `SSV.Model.Dns`
(dns/dns.go). Facts that come from the source (`SSV.Gen.C17`): the two transaction ids, the
rcode classes, the shape of every expiry assignment of `parseMsg` (`failureExpiryMin`,
`answerExpiryMin`, `soaOnlyIfZero`), the caching time of failures, the retry counts.
`expiry_le_every_ttl` rests on `failureExpiryMin = true`; with the other shape of that assignment
(finding F11: a failure rcode overwrites the expiry unconditionally) it does not check.
-/
namespace SSV.C17
open SSV.Dns SSV.Gen.C17 SSV.Lru

/-- **lru_refines_map.** For EVERY capacity and EVERY sequence of Get/Set/Insert/Remove/Contains,
the pointer-level model of `BoundedCache` (heap nodes with `prev`/`next`, `head`, `tail`, the
`nodeByKey` index) never dereferences nil, answers exactly like a map restricted to the `cap` most
recently used keys (`Lru.Spec`), and its list and index stay consistent: `All()` enumerates exactly
the represented entries from least to most recently used and terminates, `Backward()` the reverse,
`Len()` is their number, keys are distinct and there are never more than `cap` of them. -/
theorem lru_refines_map {K V : Type} [DecidableEq K] (capacity : Int) (ops : List (Lru.Op K V)) :
    ∃ c outs s,
      Lru.run (Lru.new capacity) ops = some (c, outs) ∧
      Lru.Spec.run (Lru.new capacity : Lru.Cache K V).cap [] ops = (s, outs) ∧
      Lru.all c = (s, true) ∧ Lru.backward c = (s.reverse, true) ∧ Lru.len c = s.length ∧
      (s.map Prod.fst).Nodup ∧ s.length ≤ c.cap ∧ c.cap = (Lru.new capacity : Lru.Cache K V).cap := by
  obtain ⟨c, outs, L, h1, hr, -, h4⟩ := run_spec (new capacity : Cache K V) [] ops (new_rep capacity)
  have hil := hr.idx_length
  refine ⟨c, outs, L.map ent, h1, ?_, ?_, ?_, ?_, ?_, ?_, hr.hcap⟩
  · exact h4.symm
  · simp only [all, hr.head, hil]
    exact walkNext_seg c.heap L none _ hr.seg (Nat.le_succ _)
  · simp only [backward, hr.tail, hil]
    have := walkPrev_seg c.heap L.reverse none (L.length + 1) (by rw [List.reverse_reverse]; exact hr.seg) (by simp)
    rwa [List.reverse_reverse, List.map_reverse] at this
  · rw [len, hil, List.length_map]
  · rw [List.map_map]
    exact hr.keys
  · rw [List.length_map, hr.hcap]
    exact hr.len

example : (Lru.run (Lru.new 2 : Lru.Cache Nat Nat) [.set 1 10, .set 2 20, .get 1, .set 3 30, .get 2, .get 1]).map (·.2)
    = some [.done, .done, .got (some 10), .done, .got none, .got (some 10)] := by decide

/-- the specification really is a bounded map: a `Get` changes no binding -/
theorem spec_get_keeps_bindings {K V : Type} [DecidableEq K] (s : Lru.Spec K V) (k k' : K) :
    Lru.Spec.find (Lru.Spec.get s k).1 k' = Lru.Spec.find s k' := find_get s k k'

/-- the specification is the bounded map the property speaks of: after `Set k v` a lookup of `k` finds `v` (any capacity) -/
theorem spec_set_find_self {K V : Type} [DecidableEq K] (cap : Nat) (s : Spec K V) (k : K) (v : V) :
    Spec.find (Spec.set cap s k v) k = some v := by
  fun_cases Spec.set cap s k v with
  | case1 hf =>
    have hn := (find_none_iff s k).1 hf
    have : Spec.find (if s.length = cap then s.tail else s) k = none := by
      rw [find_none_iff]; intro p hp
      split at hp
      · exact hn p (List.mem_of_mem_tail hp)
      · exact hn p hp
    simp [Spec.add, find_append, this, Spec.find]
  | case2 w hf => simp [Spec.touch, find_append, find_erase_self, Spec.find]

/-- … and a `Set` that does not evict (the key was present, or the cache is not full) changes no other binding -/
theorem spec_set_find_other {K V : Type} [DecidableEq K] (cap : Nat) (s : Spec K V) (k k' : K) (v : V) (hk : k' ≠ k)
    (hroom : Spec.find s k ≠ none ∨ s.length ≠ cap) :
    Spec.find (Spec.set cap s k v) k' = Spec.find s k' := by
  have hkk : ¬ k = k' := fun e => hk e.symm
  fun_cases Spec.set cap s k v with
  | case1 hf =>
    have hl : s.length ≠ cap := by
      rcases hroom with h | h
      · exact absurd hf h
      · exact h
    simp [Spec.add, hl, find_append, Spec.find, hkk]
  | case2 w hf =>
    simp [Spec.touch, find_append, find_erase_ne s k k' hk, Spec.find, hkk]

example : Lru.Spec.find (Lru.Spec.set 2 [(1, 10), (2, 20)] 3 30) 3 = some 30 ∧ Lru.Spec.find (Lru.Spec.set 2 [(1, 10), (2, 20)] 3 30) 1 = none ∧
    Lru.Spec.find (Lru.Spec.set 3 [(1, 10), (2, 20)] 3 30) 1 = some 10 := by decide

/-- **node_key_stable** (pointer stability, for the `*Entry`-returning API `SSV.Gen.C17.entryPointerAPIs` =
`GetEntry`): starting from a new cache, whatever operations run, a node that exists after a prefix of
the operations still exists after the whole sequence and still carries the same key: nodes are never
recycled for another key, so a pointer obtained for key `k` can never alias the binding of another
key. -/
theorem node_key_stable {K V : Type} [DecidableEq K] (capacity : Int) (ops1 ops2 : List (Lru.Op K V))
    (c1 c2 : Lru.Cache K V) (o1 o2 : List (Lru.Out V))
    (h1 : Lru.run (Lru.new capacity) ops1 = some (c1, o1)) (h2 : Lru.run c1 ops2 = some (c2, o2))
    (i : Nat) (n : Lru.Node K V) (hn : c1.heap i = some n) :
    ∃ n', c2.heap i = some n' ∧ n'.key = n.key := by
  obtain ⟨c1', _, L1, e1, hi1, -⟩ := run_spec (new capacity : Cache K V) [] ops1 (new_rep capacity)
  cases e1.symm.trans h1
  obtain ⟨c2', _, _, e2, -, s2, -⟩ := run_spec c1 L1 ops2 hi1
  cases e2.symm.trans h2
  exact s2 i n hn

/-- **expiry_le_every_ttl.** Whatever the upstream script (UDP events, TCP connections) and the
configuration: the builder `sendQueries` ends with is the result of feeding `parseMsg` a sequence
`tr` of timed messages that all really came from upstream (datagrams from the configured server
address, frames of the lookup's TCP connections), and for EVERY message of that sequence that was
looked at (its family still open, usable header): the final expiry is set and is at most
`receive time + ttl` for every answer record of it that parses, and at most
`receive time + rcodeFailureCachingDuration` if it carries a failure rcode. Depends on the Gen facts `failureExpiryMin`, `answerExpiryMin`, `soaOnlyIfZero`. -/
theorem expiry_le_every_ttl (cfg : Config) (now : Nat) (up : Upstream) :
    ∃ tr, (sendQueries cfg now up).b = feed {} tr ∧ Sourced (FromUpstream up) tr ∧
      ∀ pre t m u post, tr = pre ++ (t, Wire.msg m, u) :: post → Open (feed {} pre) m → Usable m →
        (m.qOk = true → ∀ x ∈ m.answers, ExpLe (sendQueries cfg now up).b.exp (t + x.ttl * sec)) ∧
        (rcodeFailure.contains m.rcode = true →
          ExpLe (sendQueries cfg now up).b.exp (t + rcodeFailureCachingDuration)) := by
  obtain ⟨tr, h1, h2⟩ := sendQueries_trace cfg now up
  refine ⟨tr, h1, h2, ?_⟩
  intro pre t m u post htr ho hu
  rw [h1, htr, feed_append]
  simp only [feed]
  obtain ⟨ha, hf⟩ := parseMsg_le _ t m u ho hu
  exact ⟨fun hq x hx => (feed_spec post _).1 _ (ha hq x hx), fun h => (feed_spec post _).1 _ (hf h)⟩

/-- the F11 witness: an A answer with TTL 10 s, then AAAA SERVFAIL, both looked at. The entry expires after
10 s (the bound of `expiry_le_every_ttl`), not after the 30 s of the failure. -/
def f11Up : Upstream := { conns := [.conn
  [.wire 0 (.msg { id := 4, response := true, ra := true, tc := false, rcode := 0, qOk := true,
                   answers := [{ kind := 1, ttl := 10, addr := "c0000201" }], ansEnd := .done, auths := [], authEnd := .done }),
   .wire 0 (.msg { id := 6, response := true, ra := true, tc := false, rcode := 2, qOk := true,
                   answers := [], ansEnd := .done, auths := [], authEnd := .done })] (.close 0)] }

example : (sendQueries { hasUDP := false, hasTCP := true, cap := 4 } 0 f11Up).b.exp = some (10 * sec) := by decide

/-- a fresh lookup result is the builder's result -/
theorem fresh_is_builder (cfg : Config) (st : State) (name : String) (up : Upstream) (r : Result)
    (h : (lookup cfg st name up).out = .fresh r) : r = (sendQueries cfg st.now up).b.result := by
  rcases lookup_cases cfg st name up with ⟨_, -, -, e⟩ | ⟨-, -, ⟨-, -, e⟩ | ⟨-, -, e⟩⟩ <;> rw [e] at h
  · cases h
  · split at h <;> cases h
  · cases h; rfl

/-- **no_reuse_after_expiry.** (a) A lookup is served from the cache only while the entry's expiry
has not passed: then the cached entry is returned as it is and upstream is not asked. (b) Once the
expiry of the cached entry has passed (or there is none), upstream is asked again. -/
theorem no_reuse_after_expiry (cfg : Config) (st : State) (name : String) (up : Upstream) :
    (∀ r, (lookup cfg st name up).out = .hit r →
        Spec.find st.cache name = some r ∧ (∃ e, r.exp = some e ∧ st.now ≤ e) ∧ (lookup cfg st name up).send = none) ∧
    ((∀ r, Spec.find st.cache name = some r → r.hasExpired st.now = true) →
        (lookup cfg st name up).send = some (sendQueries cfg st.now up)) := by
  rcases lookup_cases cfg st name up with ⟨r0, hf, he, e⟩ | ⟨hall, hs, hrest⟩
  · refine ⟨fun r h => ?_, fun hall => absurd (hall r0 hf) (by simp [he])⟩
    rw [e] at h ⊢
    cases h
    refine ⟨hf, ?_, rfl⟩
    unfold Result.hasExpired at he
    cases hx : r0.exp with
    | none => simp [hx] at he
    | some x => exact ⟨x, rfl, by simpa [hx] using he⟩
  · refine ⟨fun r h => ?_, fun _ => hs⟩
    rcases hrest with ⟨-, -, e⟩ | ⟨-, -, e⟩ <;> rw [e] at h
    · split at h <;> cases h
    · cases h

/-- **stale_only_on_failure.** An expired entry is served only if it is the cached entry for the
name, it has expired, and asking upstream failed (not both families answered on any transport). -/
theorem stale_only_on_failure (cfg : Config) (st : State) (name : String) (up : Upstream) (r : Result)
    (h : (lookup cfg st name up).out = .stale r) :
    Spec.find st.cache name = some r ∧ r.hasExpired st.now = true ∧ (sendQueries cfg st.now up).b.isDone = false := by
  rcases lookup_cases cfg st name up with ⟨_, -, -, e⟩ | ⟨hall, -, ⟨hd, -, e⟩ | ⟨-, -, e⟩⟩ <;> rw [e] at h
  · cases h
  · split at h <;> cases h
    rename_i hf
    exact ⟨hf, hall r hf, hd⟩
  · cases h

/-- the UDP receive loop only ever reports "done" when both families are done, and while it runs
the builder is not done: every other way of leaving it (timeout/silence, truncation, unusable
response) leaves the lookup unfinished. -/
theorem udp_unfinished_unless_done (dl : Nat) (evs : List UdpEv) (o : UdpOut) (h0 : o.b.isDone = false)
    (hs : (udpLoop dl o evs).why ≠ .done) : (udpLoop dl o evs).b.isDone = false :=
  udpLoop_unfinished dl evs o h0 hs

/-- **fallback_order.** (1) UDP is tried first when configured; unless its receive loop ended because
both families were answered — i.e. whenever it ended by timeout/silence (unanswered), by a truncated
response, or by an unusable response — the lookup is unfinished after UDP. (2) TCP is consulted exactly
when a TCP client is configured and the lookup is unfinished after the UDP phase (or there was none).
That the lookup fails exactly when the builder is not done after both phases is `lookup` itself; see
`stale_only_on_failure`. -/
theorem fallback_order (cfg : Config) (now : Nat) (up : Upstream) :
    ((sendQueriesUDP {} now up.udp).why ≠ .done → (sendQueriesUDP {} now up.udp).b.isDone = false) ∧
    (sendQueries cfg now up).tcpTried =
      (cfg.hasTCP && !(if cfg.hasUDP then (sendQueriesUDP {} now up.udp).b.isDone else false)) := by
  refine ⟨fun h => udpLoop_unfinished _ up.udp { b := {}, now := now } rfl h, ?_⟩
  unfold sendQueries
  dsimp only
  cases cfg.hasUDP with
  | false =>
    -- no UDP phase: the builder is still the empty one, which is not done
    cases cfg.hasTCP <;> rfl
  | true =>
    -- the builder is the one the UDP phase left
    cases hd : (sendQueriesUDP {} now up.udp).b.isDone <;> cases cfg.hasTCP <;> simp [hd]

/-- **fallback_order, budgets.** Each transport arms its own `lookupTimeout` (Gen facts `udpOwnBudget`,
`tcpOwnBudget`: the only deadlines of the package are the first statements of `sendQueriesUDP` and
`sendQueriesTCP`). So a UDP phase that ends by timeout — upstream silent for the whole
`lookupTimeout` — ends at `now + lookupTimeout`, and the TCP fallback then runs with a FRESH full
budget (deadline `now + 2·lookupTimeout`): the result of the lookup is exactly the result of the TCP
retry loop under that budget, i.e. the lookup fails only if TCP fails within its own budget. -/
theorem tcp_fresh_budget_after_udp_timeout (cfg : Config) (now : Nat) (up : Upstream)
    (hU : cfg.hasUDP = true) (hT : cfg.hasTCP = true)
    (hto : (sendQueriesUDP {} now up.udp).why = .timeout) :
    udpOwnBudget = true ∧ tcpOwnBudget = true ∧
    (sendQueriesUDP {} now up.udp).now = now + lookupTimeout ∧
    (sendQueries cfg now up).b =
      (tcpLoop (now + lookupTimeout + lookupTimeout) tcpAttempts
        { b := (sendQueriesUDP {} now up.udp).b, now := now + lookupTimeout } up.conns).b := by
  have hnow : (sendQueriesUDP {} now up.udp).now = now + lookupTimeout := udpLoop_timeout_now _ _ _ hto
  have hnd : (sendQueriesUDP {} now up.udp).b.isDone = false :=
    udpLoop_unfinished _ up.udp { b := {}, now := now } rfl (by
      have : (udpLoop (now + lookupTimeout) { b := {}, now := now } up.udp).why = .timeout := hto
      rw [this]; intro h; cases h)
  refine ⟨rfl, rfl, hnow, ?_⟩
  unfold sendQueries
  simp only [hU, hT, if_true, hnd, Bool.not_false, Bool.and_self, sendQueriesTCP, hnow]

/-- UDP silent for the whole lookup timeout, TCP answers both queries: the lookup succeeds, 20 s late. -/
def silentUdpUp : Upstream := { udp := [.silence], conns := f11Up.conns }

example : (sendQueries { hasUDP := true, hasTCP := true, cap := 4 } 0 silentUdpUp).b.isDone = true ∧
    (sendQueries { hasUDP := true, hasTCP := true, cap := 4 } 0 silentUdpUp).now = lookupTimeout := by decide

/-- **malformed_no_poison** (1): if every message upstream sends for this lookup is one `parseMsg`
rejects (garbage, wrong id, not a response, RA=0, unknown rcode, malformed at any stage), the
lookup does not complete, whatever the order, transport and timing. -/
theorem malformed_never_completes (cfg : Config) (now : Nat) (up : Upstream)
    (hbad : ∀ w, FromUpstream up w → Bad w) : (sendQueries cfg now up).b.isDone = false := by
  obtain ⟨tr, h1, h2⟩ := sendQueries_trace cfg now up
  have := feed_bad_done tr {} (fun e he => hbad e.2.1 (h2 e he))
  rw [h1]
  simp only [Builder.isDone, this.1, this.2]
  rfl

/-- **malformed_no_poison** (2): a lookup that does not end with a fresh upstream result (cache hit,
stale answer, failure) leaves every binding of the cache as it was — only the recency order moves. -/
theorem no_poison (cfg : Config) (st : State) (name : String) (up : Upstream)
    (hnf : ∀ r, (lookup cfg st name up).out ≠ .fresh r) (k : String) :
    Spec.find (lookup cfg st name up).st.cache k = Spec.find st.cache k := by
  rcases lookup_cases cfg st name up with ⟨_, -, -, e⟩ | ⟨-, -, ⟨-, hc, -⟩ | ⟨-, -, e⟩⟩
  · rw [e]; exact find_get st.cache name k
  · rw [hc]; exact find_get st.cache name k
  · exact absurd e (hnf _)

/-- **answers_only.** Every address in the builder `sendQueries` ends with — hence in every fresh
lookup result (`fresh_is_builder`) — is the address of an A/AAAA record in the answer section of a
message that (i) really came from upstream for this lookup: a datagram whose source is the configured
server address or a frame on one of the lookup's own TCP connections (datagrams from other sources are
never parsed), (ii) carries one of the lookup's own two transaction ids, and (iii) is a response
(QR=1) with RA=1. For all upstream scripts, orders, transports and timings. -/
theorem answers_only (cfg : Config) (now : Nat) (up : Upstream) (x : String)
    (hx : x ∈ (sendQueries cfg now up).b.addrs) :
    ∃ m, FromUpstream up (.msg m) ∧ AddrIn m x := by
  obtain ⟨tr, h1, h2⟩ := sendQueries_trace cfg now up
  rw [h1] at hx
  rcases (feed_spec tr {}).2 x hx with h | ⟨e, he, m, hm, ha⟩
  · simp [Builder.addrs] at h
  · exact ⟨m, by rw [← hm]; exact h2 e he, ha⟩

example : "c0000201" ∈ (sendQueries { hasUDP := false, hasTCP := true, cap := 4 } 0 f11Up).b.addrs := by decide

/-- a message with a foreign transaction id has no effect at all -/
theorem foreign_id_no_effect (b : Builder) (t : Nat) (m : Msg) (u : Bool) (h4 : m.id ≠ idV4) (h6 : m.id ≠ idV6) :
    parseMsg b t (.msg m) u = (b, none) := by
  simp [parseMsg, idCheck, h4, h6]

/-- **answers_only_conc.** Concurrent lookups on one resolver: each `Lookup` is a locked cache probe
(`Act.probe`), an unlocked upstream round trip, and a locked store (`Act.finish`); the actions of any
number of goroutines interleave ARBITRARILY, the cache has any capacity (evictions included). In every
interleaving, every result handed to a caller for name `X` — fresh, served from the cache, or stale —
is the completed result of an upstream round trip that was made for a lookup of `X` itself
(`Justified`: some goroutine probed `X` at `t0`, its round trip ended with script `up`, the result is
what `sendQueries` built from `up`), and so every address in it comes from an accepted upstream answer
to a query for `X` (`answers_only`). No binding ever moves from one name to another. This rests on the
Gen facts that `Lookup` reads the cache only by `Get(name)` and writes it only by `Set(name, result)`
under the mutex (no entry pointer survives the unlocked part), and on `lru_refines_map` for the cache. -/
theorem answers_only_conc (cfg : Config) (acts : List Act) :
    ∀ e ∈ (crun cfg {} acts).2, ∀ r, Carries e.out r →
      ∃ tid t0 up, Act.probe tid e.name t0 ∈ acts ∧ Act.finish tid up ∈ acts ∧
        (sendQueries cfg t0 up).b.isDone = true ∧ r = (sendQueries cfg t0 up).b.result ∧
        ∀ x ∈ r.a ++ r.aaaa, ∃ m, FromUpstream up (.msg m) ∧ AddrIn m x := by
  have hinv : CInv cfg acts ({} : CState) := ⟨(by intro kv h; cases h), (by intro tp h; cases h)⟩
  intro e he r hr
  obtain ⟨tid, t0, up, p1, p2, p3, p4⟩ := crun_inv cfg acts acts {} (fun _ h => h) hinv e he r hr
  refine ⟨tid, t0, up, p1, p2, p3, p4, ?_⟩
  intro x hx
  rw [p4] at hx
  exact answers_only cfg t0 up x hx

/-- the Gen facts the concurrent model and the pointer-level cache model stand on (GEN-BROKEN, i.e. a
broken tie, if the source has another shape) -/
theorem gen_shapes : lookupProbeIsGet = true ∧ lookupStoreIsSetByName = true ∧ insertAllocatesFreshNode = true ∧
    udpOwnBudget = true ∧ tcpOwnBudget = true ∧ answerTTLBeforeBody = true := by
  decide

end SSV.C17

#print axioms SSV.C17.lru_refines_map
#print axioms SSV.C17.spec_get_keeps_bindings
#print axioms SSV.C17.node_key_stable
#print axioms SSV.C17.expiry_le_every_ttl
#print axioms SSV.C17.fresh_is_builder
#print axioms SSV.C17.no_reuse_after_expiry
#print axioms SSV.C17.stale_only_on_failure
#print axioms SSV.C17.udp_unfinished_unless_done
#print axioms SSV.C17.fallback_order
#print axioms SSV.C17.tcp_fresh_budget_after_udp_timeout
#print axioms SSV.C17.malformed_never_completes
#print axioms SSV.C17.no_poison
#print axioms SSV.C17.answers_only
#print axioms SSV.C17.foreign_id_no_effect
#print axioms SSV.C17.answers_only_conc
#print axioms SSV.C17.gen_shapes
#print axioms SSV.C17.spec_set_find_self
#print axioms SSV.C17.spec_set_find_other
