import SSV.Proofs.Config
/-
C18 — Configurations are either rejected at load or run without invariant violations.

Model: SSV.Model.Config (`validate` = service.Config.Manager on the modelled fields; every number,
table and the presence of the load-time checks for F4 / F15 / F20 / F25 / F26 comes from SSV.Gen.C18).  The documented side (README.md, field comments, the property statement)
is the `Doc` namespace below: literal constants, independent of Gen.

Each per-item validator accepts exactly what its documented specification (`ServerSpec`, `ClientSpec`, `ULSpec`, `TLSpec`)
describes (`serverSpec_iff`, `clientSpec_iff`, `ulSpec_iff`, `tlSpec_iff`).  For whole configurations: acceptance implies
every invariant the statement names (`accepted_sound` and the theorems whose docstring carries its name), a configuration
violating one is refused with an error (`violating_rejected`, `dangling_rejected`, `client_address_rejected`), omitted ≡ "" ≡
the documented default (`defaults`, `defaults_all`), legacy single-listener fields ≡ the listener arrays Config.Migrate
produces (`legacy_equiv`).  The `gen_*` theorems are side conditions on the regenerated facts: they fail to elaborate on a
tree without the fixes F4 / F12 / F15 / F20 / F25 / F26, or with changed bounds / defaults.

"No accepted combination leads to a crash once traffic flows" is decided PARTIALLY: `no_crash_configs` gives
the two preconditions under which C04 and C06 prove the packet paths panic-free; the behaviour of
started services is only sampled (smoke engine of corr_c18).
-/
namespace SSV.C18
open SSV.Config SSV.Gen

namespace Doc
/-- "the MTU is at least 1280" -/
def minMTU : Int := 1280
/-- "Shadowsocks 2022 NAT timeouts are no shorter than the replay window" (60 s, in ns) -/
def replayWindow : Int := 60000000000
-- README / field comments: batch sizes 1..1024 (0 = default), capacity >= 64 (0 = default)
def maxBatch : Int := 1024
def minCapacity : Int := 64
-- documented defaults: NAT timeout "The default value is 5 minutes.", batch sizes 256 / 64, capacity 1024, filter size 256
def natTimeout : Int := 300000000000
def relayBatch : Int := 256
def recvBatch : Int := 64
def sendCapacity : Int := 1024
def filterSize : Nat := 256
-- README "Security": `ForceReset` (default), `PadPlainDNS` (default)
def rejectPolicy : String := "ForceReset"
def paddingPolicy : String := "PadPlainDNS"
/-- "key lengths match the method" -/
def keyLen : Proto → Option Nat
  | .ss128 => some 16
  | .ss256 => some 32
  | _ => none
end Doc

theorem gen_pskLen (p : Proto) : pskLenFor p = Doc.keyLen p := by
  cases p <;> decide

theorem gen_mtu : (C18.serverMTUMin : Int) = Doc.minMTU ∧ (C18.clientMTUMin : Int) = Doc.minMTU := by decide

/-- the default NAT timeout is the documented 5 min, the code's replay window covers the documented 60 s, and the
    session server's minimum is not above the default -/
theorem gen_nat : (C18.natTimeoutDefault : Int) = Doc.natTimeout ∧ Doc.replayWindow ≤ (C18.ReplayWindowDuration : Int) ∧
    (C18.ss2022MinNATTimeout : Int) ≤ Doc.natTimeout := by decide

theorem gen_perf : (C18.relayBatchMax : Int) = Doc.maxBatch ∧ (C18.recvBatchMax : Int) = Doc.maxBatch ∧
    (C18.sendCapMin : Int) = Doc.minCapacity ∧ (C18.relayBatchDefault : Int) = Doc.relayBatch ∧
    (C18.recvBatchDefault : Int) = Doc.recvBatch ∧ (C18.sendCapDefault : Int) = Doc.sendCapacity := by decide

/-- F12: the nil branch of `Policy()` and the text "" both give the documented default -/
theorem gen_policy_defaults :
    rejectOf none = some Doc.rejectPolicy ∧ rejectOf (some "") = some Doc.rejectPolicy ∧
    rejectOf (some Doc.rejectPolicy) = some Doc.rejectPolicy ∧
    paddingOf none = some Doc.paddingPolicy ∧ paddingOf (some "") = some Doc.paddingPolicy ∧
    paddingOf (some Doc.paddingPolicy) = some Doc.paddingPolicy := by decide

theorem gen_filter_default : C18.DefaultSlidingWindowFilterSize = Doc.filterSize := by decide

/-- F15: the filter size is validated at load, with a bound far below the overflow of the ring computation -/
theorem gen_filter_bound :
    (∃ m, C18.serverFilterSizeMax = some m ∧ m + 63 < 2 ^ 63) ∧ (∃ m, C18.clientFilterSizeMax = some m ∧ m + 63 < 2 ^ 63) :=
  ⟨⟨_, rfl, by decide⟩, ⟨_, rfl, by decide⟩⟩

/-- F4 / F20: the load-time checks exist -/
theorem gen_checks_present :
    C18.directTargetOnlyRequiresIP = true ∧ C18.domainSetNamesUnique = true ∧ C18.prefixSetNamesUnique = true := by decide

/-- the replay window the NAT timeouts are measured against covers the (2·MaxEpochDiff+1) s during which a
    timestamp validates (C03 proves that much necessary) -/
theorem gen_replay_window : (2 * C18.MaxEpochDiff + 1) * 1000000000 ≤ C18.ReplayWindowDuration := by decide

/-- every server stores its index in `serverIndexByName` (the extractor accepts no other loop shape) -/
theorem gen_server_index : C18.serverIndexEveryServer = true := by decide

/-- Gen side condition: both guards in front of `http.ServeMux.Handle` exist, hence no `PANIC:` class is reachable -/
theorem gen_api_guards : C18.apiSecretPathChecked = true ∧ C18.apiPprofIndexHasMethod = true := by decide

/-- the checks of `checkAddresses` are the independent statements the model mirrors (the extractor accepts no other shape) -/
theorem gen_client_addresses : C18.clientAddressChecksIndependent = true := by decide

/-- the session server advertises exactly the replay window as its minimum NAT timeout -/
theorem gen_nat_exact : (C18.ss2022MinNATTimeout : Int) = (C18.ReplayWindowDuration : Int) := by decide

/-- the smallest explicit NAT timeout a UDP listener of the protocol may carry: the CODE's replay window (61 s), which is
    what `Configure` compares with, not the documented 60 s (`Doc.replayWindow`, below it by `gen_nat`) -/
def natFloor (p : Proto) : Int := if p.isSS then (C18.ReplayWindowDuration : Int) else 0

theorem minNatOf_eq (p : Proto) : minNatOf p = natFloor p := by
  unfold minNatOf natFloor
  rw [gen_nat_exact]

theorem isSS_minNat {p : Proto} (h : p.isSS = true) : minNatOf p = (C18.ss2022MinNATTimeout : Int) := by
  unfold minNatOf
  rw [if_pos h]

theorem minNat_le (p : Proto) : minNatOf p ≤ Doc.natTimeout := by
  unfold minNatOf
  split
  · exact gen_nat.2.2
  · decide

structure ULInv (minNat : Int) (e : EffUL) : Prop where
  relay : 1 ≤ e.relayBatch ∧ e.relayBatch ≤ Doc.maxBatch
  recv : 1 ≤ e.recvBatch ∧ e.recvBatch ≤ Doc.maxBatch
  cap : Doc.minCapacity ≤ e.sendCap
  nat : minNat ≤ Doc.natTimeout → minNat ≤ e.natTimeout

/-- the documented conditions on a UDP listener; `floor` is the session server's minimum NAT timeout -/
structure ULSpec (floor : Int) (l : UL) : Prop where
  network : l.network = "udp" ∨ l.network = "udp4" ∨ l.network = "udp6"
  batchMode : l.batchMode = "" ∨ l.batchMode = "no" ∨ l.batchMode = "sendmmsg"
  relay : 0 ≤ l.relayBatch ∧ l.relayBatch ≤ Doc.maxBatch
  recv : 0 ≤ l.recvBatch ∧ l.recvBatch ≤ Doc.maxBatch
  cap : l.sendCap = 0 ∨ Doc.minCapacity ≤ l.sendCap
  nat : l.natTimeout = 0 ∨ floor ≤ l.natTimeout

theorem ulSpec_iff {m : Int} {l : UL} : ULSpec m l ↔ ∃ e, checkUL m l = .ok e := by
  have ⟨g1, g2, g3, _⟩ := gen_perf
  simp only [checkUL_iff]
  constructor
  · intro h
    obtain ⟨rb, hrb⟩ := (rangeDefault_dom (d := C18.relayBatchDefault) (by decide)).1.mp (g1 ▸ h.relay)
    obtain ⟨sb, hsb⟩ := (rangeDefault_dom (d := C18.recvBatchDefault) (by decide)).1.mp (g2 ▸ h.recv)
    obtain ⟨cc, hcc⟩ := capDefault_dom.1.mp (g3 ▸ h.cap)
    obtain ⟨nt, hnt⟩ := natEff_dom.1.mp h.nat
    exact ⟨⟨l.batchMode, rb, sb, cc, nt⟩, h.network, ⟨(batchModes_iff _).mpr h.batchMode, rfl⟩, hrb, hsb, hcc, natEff_eq_some.mp hnt⟩
  · rintro ⟨e, ok⟩
    exact ⟨ok.network, (batchModes_iff _).mp ok.batchMode.1, g1 ▸ (rangeDefault_dom (by decide)).1.mpr ⟨_, ok.relay⟩,
      g2 ▸ (rangeDefault_dom (by decide)).1.mpr ⟨_, ok.recv⟩, g3 ▸ capDefault_dom.1.mpr ⟨_, ok.cap⟩,
      natEff_dom.1.mpr ⟨_, natEff_eq_some.mpr ok.nat⟩⟩

theorem ul_sound {minNat : Int} {l : UL} {e : EffUL} (h : checkUL minNat l = .ok e) : ULInv minNat e := by
  have ok := checkUL_iff.mp h
  have ⟨g1, g2, g3, _⟩ := gen_perf
  exact ⟨g1 ▸ (rangeDefault_dom (by decide)).2 _ ok.relay, g2 ▸ (rangeDefault_dom (by decide)).2 _ ok.recv,
    g3 ▸ capDefault_dom.2 _ ok.cap, gen_nat.1 ▸ natEff_dom.2 _ (natEff_eq_some.mpr ok.nat)⟩

structure TLSpec (l : TL) : Prop where
  network : l.network = "tcp" ∨ l.network = "tcp4" ∨ l.network = "tcp6"
  timeout : 0 ≤ l.waitTimeout
  buf : 0 ≤ l.waitBuf

theorem tlSpec_iff {l : TL} : TLSpec l ↔ ∃ u, checkTL l = .ok u := by
  simp only [checkTL, ite_error_eq_ok, Bool.not_eq_true, Bool.not_eq_false', bor3_eq_true_iff, Int.not_lt, and_true, exists_const]
  exact ⟨fun ⟨a, b, c⟩ => ⟨a, b, c⟩, fun ⟨a, b, c⟩ => ⟨a, b, c⟩⟩

theorem pskOK_keyLen {p : Proto} {n : Nat} {l : List Nat} :
    pskOK p n l = true ↔ Doc.keyLen p = some n ∧ ∀ k ∈ l, Doc.keyLen p = some k := by
  simp only [pskOK_iff, gen_pskLen]

/-- the documented conditions on one server (modelled fields); the NAT floor of `udpL` alone is the code's constant
    (`natFloor`), so that the specification is exactly what is accepted (`serverSpec_iff`) -/
structure ServerSpec (s : Server) : Prop where
  tunnel : s.proto = .direct → s.tunnel ≠ .absent
  httpTLS : s.proto = .http → s.httpTLS = true → s.httpCertList = true
  httpCert : s.proto = .http → s.allTCP ≠ [] → s.httpCertList = false   -- no certificate store in the modelled subset
  psk : s.proto.isSS = true → Doc.keyLen s.proto = some s.pskLen
  filter : s.proto.isSS = true → s.filterSize ≤ 1048576
  upsk : s.proto.isSS = true → s.upsk ≠ .missing ∧ ∀ l, s.upsk = .keys l → Doc.keyLen s.proto = some l
  tcpProto : s.allTCP ≠ [] → s.proto ≠ .other
  tcpL : ∀ l ∈ s.allTCP, TLSpec l
  mtu : s.allUDP ≠ [] → Doc.minMTU ≤ s.mtu
  udpProto : s.allUDP ≠ [] → s.proto.serverUDP = true
  targetOnly : s.allUDP ≠ [] → s.proto = .direct → s.targetOnly = true → s.tunnel = .ip
  udpL : ∀ l ∈ s.allUDP, ULSpec (natFloor s.proto) l

/-- acceptance of a server is `ServerSpec`; the other two conjuncts say what is returned (`ServerInv` speaks of the
    effective listeners) -/
theorem serverSpec_iff {s : Server} {e : EffServer} :
    checkServer s = .ok e ↔ ServerSpec s ∧ mapE (checkUL (minNatOf s.proto)) s.allUDP = .ok e.udp ∧ e = s.eff e.udp := by
  have hmtu : ¬ s.mtu < (C18.serverMTUMin : Int) ↔ Doc.minMTU ≤ s.mtu := gen_mtu.1 ▸ Int.not_lt
  -- every row of the two tables and every stage becomes the field of `ServerSpec` it enforces; what is left is their order
  simp only [checkServer_iff, Server.initChecks, Server.udpChecks, firstErr_cons_none, firstErr_nil, and_true,
    Bool.and_eq_false_imp, Bool.not_eq_false', Bool.not_eq_true', decide_eq_true_eq, decide_eq_false_iff_not,
    List.isEmpty_eq_false_iff, mapE_isOk_iff, ← tlSpec_iff, Addr.valid_iff, Proto.serverTCP_iff, upskOK_iff, gen_pskLen,
    pskOK_keyLen, filterSizeOK_iff (max := C18.serverFilterSizeMax) (m := 1048576) rfl, hmtu, gen_checks_present.1,
    Bool.and_eq_true, and_imp, Bool.and_true, ne_eq, Decidable.not_not]
  constructor
  · rintro ⟨⟨a1, a2, a3, a4, a5, a6⟩, tl, ⟨b1, b2, b3⟩, ul, up, he⟩
    refine ⟨⟨a1, a2, fun h t => a6 t h, fun h => (a3 h).1, a4, up, a5, tl, b1, b3, fun t h => b2 t h, fun l hl => ?_⟩, ul, he⟩
    obtain ⟨_, _, hl'⟩ := mapE_ok_mem ul l hl
    exact minNatOf_eq _ ▸ ulSpec_iff.mpr ⟨_, hl'⟩
  · rintro ⟨sp, ul, he⟩
    exact ⟨⟨sp.tunnel, sp.httpTLS, fun h => ⟨sp.psk h, nofun⟩, sp.filter, sp.tcpProto, fun t h => sp.httpCert h t⟩, sp.tcpL,
      ⟨sp.mtu, fun t h => sp.targetOnly t h, sp.udpProto⟩, ul, sp.upsk, he⟩

/-- the invariants the statement names, for one server -/
structure ServerInv (s : Server) (e : EffServer) : Prop where
  /-- key lengths match the method (PSK and the uPSK store) -/
  psk : s.proto.isSS = true → Doc.keyLen s.proto = some s.pskLen
  upsk : s.proto.isSS = true → s.upsk ≠ .missing ∧ ∀ l, s.upsk = .keys l → Doc.keyLen s.proto = some l
  /-- the MTU is at least 1280 when UDP is served -/
  mtu : s.allUDP ≠ [] → Doc.minMTU ≤ s.mtu
  /-- ss2022 NAT timeouts are no shorter than the replay window (the code's constant, itself >= the documented 60 s) -/
  nat : s.proto.isSS = true → ∀ u ∈ e.udp, (C18.ReplayWindowDuration : Int) ≤ u.natTimeout ∧ Doc.replayWindow ≤ u.natTimeout
  /-- the documented ranges of the tuning knobs -/
  perf : ∀ u ∈ e.udp, 1 ≤ u.relayBatch ∧ u.relayBatch ≤ Doc.maxBatch ∧ 1 ≤ u.recvBatch ∧ u.recvBatch ≤ Doc.maxBatch ∧
    Doc.minCapacity ≤ u.sendCap
  /-- every configured listener (array or legacy) was built -/
  listeners : e.udp.length = s.allUDP.length ∧ e.tcp = s.allTCP.length
  /-- a direct server has its tunnel address -/
  tunnel : s.proto = .direct → s.tunnel ≠ .absent

theorem server_sound {s : Server} {e : EffServer} (h : checkServer s = .ok e) : ServerInv s e := by
  obtain ⟨sp, hudp, he⟩ := serverSpec_iff.mp h
  have hul : ∀ u ∈ e.udp, ULInv (minNatOf s.proto) u := fun u hu =>
    have ⟨_, _, hl⟩ := mapE_ok_mem_result hudp u hu
    ul_sound hl
  refine ⟨sp.psk, sp.upsk, sp.mtu, fun hs u hu => ?_,
    fun u hu => ⟨(hul u hu).relay.1, (hul u hu).relay.2, (hul u hu).recv.1, (hul u hu).recv.2, (hul u hu).cap⟩,
    ⟨mapE_length hudp, by rw [he]; rfl⟩, sp.tunnel⟩
  have inv := hul u hu
  rw [isSS_minNat hs] at inv
  have n1 := gen_nat_exact
  obtain ⟨_, n4, n5⟩ := gen_nat
  have := inv.nat n5
  exact ⟨by omega, by omega⟩

/-- the documented conditions on one client (modelled fields) -/
structure ClientSpec (k : Client) : Prop where
  network : k.network = "" ∨ k.network = "ip" ∨ k.network = "ip4" ∨ k.network = "ip6"
  /-- `endpoint` xor (`tcpAddress` / `udpAddress` for the enabled networks), nothing for `direct` -/
  addresses : k.addressesOK = true
  socks5 : k.proto = .socks5 → k.s5auth = true → lenOK k.s5userLen = true ∧ lenOK k.s5passLen = true
  psk : k.proto.isSS = true → Doc.keyLen k.proto = some k.pskLen ∧ ∀ n ∈ k.ipskLens, Doc.keyLen k.proto = some n
  filter : k.proto.isSS = true → k.filterSize ≤ 1048576
  tcpProto : k.enableTCP = true → k.proto.clientTCP = true
  mtu : k.enableUDP = true → Doc.minMTU ≤ k.mtu
  udpProto : k.enableUDP = true → k.proto.clientUDP = true

theorem clientSpec_iff {k : Client} : ClientSpec k ↔ ∃ e, checkClient k = .ok e := by
  have hmtu : ¬ k.mtu < (C18.clientMTUMin : Int) ↔ Doc.minMTU ≤ k.mtu := gen_mtu.2 ▸ Int.not_lt
  simp only [checkClient_iff, exists_and_left, exists_eq, Client.checks, firstErr_cons_none, firstErr_nil, and_true, Bool.and_eq_false_imp, Bool.not_eq_false',
    decide_eq_true_eq, decide_eq_false_iff_not, Bool.and_eq_true, and_imp, pskOK_keyLen,
    filterSizeOK_iff (max := C18.clientFilterSizeMax) (m := 1048576) rfl, hmtu, networkOK, Bool.or_eq_true, or_assoc]
  exact ⟨fun ⟨a1, a2, a3, a4, a5, a6, a7, a8⟩ => ⟨a1, a2, a3, a4, a5, a6, a7, a8⟩,
    fun ⟨a1, a2, a3, a4, a5, a6, a7, a8⟩ => ⟨a1, a2, a3, a4, a5, a6, a7, a8⟩⟩

/-- the invariants the statement names, for one client -/
structure ClientInv (k : Client) : Prop where
  psk : k.proto.isSS = true → Doc.keyLen k.proto = some k.pskLen ∧ ∀ n ∈ k.ipskLens, Doc.keyLen k.proto = some n
  mtu : k.enableUDP = true → Doc.minMTU ≤ k.mtu

theorem client_sound {k : Client} (sp : ClientSpec k) : ClientInv k := ⟨sp.psk, sp.mtu⟩

structure Accepted (c : Config) (e : Eff) : Prop where
  servers : c.servers ≠ []
  clients : checkClients [] (effectiveClients c) = .ok e.clients
  groups : checkGroups ((effectiveClients c).map (·.name)) [] c.groups (tcpNamesOf (effectiveClients c)) (udpNamesOf (effectiveClients c)) =
    .ok (e.tcpNames, e.udpNames)
  resolvers : checkResolvers e.tcpNames e.udpNames [] c.resolvers = .ok ()
  serverNames : checkUnique "dup-server" [] (c.servers.map (·.name)) = .ok ()
  router : checkRouter c.router (c.resolvers.map (·.name)) e.tcpNames e.udpNames (c.servers.map (·.name)) = .ok ()
  effServers : mapE checkServer c.servers = .ok e.servers
  api : checkApi c.api = .ok ()
  routes : e.routes = routeKinds c.router

theorem validate_iff {c : Config} {e : Eff} : validate c = .ok e ↔ Accepted c e := by
  constructor
  · fun_cases validate c
    case case9 h0 _ ecs h1 tcp udp h2 h3 h4 h5 ess h6 h7 =>
      rintro ⟨⟩
      exact ⟨List.isEmpty_eq_false_iff.mp (by simpa using h0), h1, h2, h3, h4, h5, h6, h7, rfl⟩
    all_goals nofun
  · rintro ⟨h0, h1, h2, h3, h4, h5, h6, h7, h8⟩
    simp only [validate, List.isEmpty_eq_false_iff.mpr h0, h1, h2, h3, h4, h5, h6, h7, ← h8, Bool.false_eq_true, if_false]

theorem accepted_clientSpec {c : Config} {e : Eff} (h : validate c = .ok e) {k : Client} (hk : k ∈ effectiveClients c) :
    ClientSpec k := by
  obtain ⟨ek, _, hc⟩ := mapE_ok_mem (checkClients_iff.mp (validate_iff.mp h).clients).2 k hk
  exact clientSpec_iff.mpr ⟨_, hc⟩

theorem accepted_serverSpec {c : Config} {e : Eff} (h : validate c = .ok e) {s : Server} (hs : s ∈ c.servers) :
    ServerSpec s := by
  obtain ⟨es, _, hc⟩ := mapE_ok_mem (validate_iff.mp h).effServers s hs
  exact (serverSpec_iff.mp hc).1

/-- references of one route resolve (client per network, resolver, servers, sets) -/
structure RouteInv (rt : Route) (c : Config) (e : Eff) : Prop where
  tcpClient : rt.client ≠ "reject" → (rt.network = "" ∨ rt.network = "tcp") → rt.client ∈ e.tcpNames
  udpClient : rt.client ≠ "reject" → (rt.network = "" ∨ rt.network = "udp") → rt.client ∈ e.udpNames
  resolver : rt.resolver ≠ "" → rt.resolver ∈ c.resolvers.map (·.name)
  servers : ∀ n ∈ rt.fromServers, n ∈ c.servers.map (·.name)
  domainSets : ∀ n ∈ rt.toDomainSets, n ∈ c.router.domainSets
  prefixSets : (∀ n ∈ rt.fromPrefixSets, n ∈ c.router.prefixSets) ∧ (∀ n ∈ rt.toPrefixSets, n ∈ c.router.prefixSets)

theorem route_sound {rt : Route} {c : Config} {e : Eff}
    (h : checkRoute rt (c.resolvers.map (·.name)) e.tcpNames e.udpNames (c.servers.map (·.name)) c.router.domainSets c.router.prefixSets = .ok ()) :
    RouteInv rt c e := by
  have ok := checkRoute_iff.mp h
  -- every row that looks a name up becomes the field of `RouteInv` it enforces; the other rows are dropped
  simp only [Route.checks, portChecks, firstErr_append_none, firstErr_cons_none, firstErr_nil, and_true, Bool.and_eq_false_imp,
    Bool.and_eq_true, and_imp, Bool.or_eq_true, decide_eq_true_eq, Bool.not_eq_false', List.all_eq_true, List.contains_iff_mem] at ok
  obtain ⟨⟨⟨⟨⟨-, -, -, -, hres, -, htcp, hudp, hsrv⟩, -⟩, hfp⟩, -⟩, hds, -, htp⟩ := ok
  exact ⟨htcp, hudp, hres, hsrv, hds, hfp, htp⟩

/-- **accepted_sound**: every configuration `Manager` accepts satisfies the invariants the statement names. -/
theorem accepted_sound {c : Config} {e : Eff} (h : validate c = .ok e) :
    -- per server: key lengths, MTU, ss2022 NAT timeout >= replay window, tuning ranges, listeners built
    (∀ s ∈ c.servers, ∃ es ∈ e.servers, checkServer s = .ok es ∧ ServerInv s es) ∧
    -- per client (the default client included): key lengths, MTU
    (∀ k ∈ effectiveClients c, ClientInv k) ∧
    -- names are unique
    ((effectiveClients c).map (·.name)).Nodup ∧ (c.servers.map (·.name)).Nodup ∧ (c.resolvers.map (·.name)).Nodup ∧
    c.router.domainSets.Nodup ∧ c.router.prefixSets.Nodup ∧
    -- every referenced client, resolver, set and server exists
    (∀ rt ∈ c.router.routes, RouteInv rt c e) ∧
    (c.router.defaultTCP ≠ "" → c.router.defaultTCP ≠ "reject" → c.router.defaultTCP ∈ e.tcpNames) ∧
    (c.router.defaultUDP ≠ "" → c.router.defaultUDP ≠ "reject" → c.router.defaultUDP ∈ e.udpNames) := by
  have acc := validate_iff.mp h
  have ⟨⟨cnd, _⟩, _⟩ := checkClients_iff.mp acc.clients
  have ⟨rnd, _, _⟩ := checkResolvers_ok acc.resolvers
  have ⟨snd, _⟩ := checkUnique_iff.mp acc.serverNames
  obtain ⟨r1, r2, r3, r4, hr⟩ := checkRouter_ok acc.router
  have dnd := setNamesOK_true.mp (gen_checks_present.2.1 ▸ r3)
  have pnd := setNamesOK_true.mp (gen_checks_present.2.2 ▸ r4)
  refine ⟨?_, ?_, cnd, snd, rnd, dnd, pnd, ?_, ?_, ?_⟩
  · intro s hs
    obtain ⟨es, hes, hc⟩ := mapE_ok_mem acc.effServers s hs
    exact ⟨es, hes, hc, server_sound hc⟩
  · exact fun k hk => client_sound (accepted_clientSpec h hk)
  · intro rt hrt
    exact route_sound (checkRoutes_ok hr rt hrt)
  · intro h1 h2
    exact ((defaultClientOK_iff.mp r1).resolve_left h2).resolve_left h1
  · intro h1 h2
    exact ((defaultClientOK_iff.mp r2).resolve_left h2).resolve_left h1

/-- a non-trivial accepted configuration (ss2022 server with TCP and UDP, natTimeout 2 min) -/
def exServer : Server :=
  { name := "s", proto := .ss128, pskLen := 16, mtu := 1500, tcpListeners := [{}],
    udpListeners := [{ natTimeout := 120000000000 }] }

/-- the error class of a result (`none`: accepted) -/
def errorOf {α : Type} : R α → Option String
  | .error e => some e
  | .ok _ => none

example : errorOf (validate { servers := [exServer] }) = none := by decide

theorem rejected_of_not_ok {c : Config} (h : ∀ e, validate c ≠ .ok e) : ∃ err, validate c = .error err := by
  cases hv : validate c with
  | error err => exact ⟨err, rfl⟩
  | ok e => exact absurd hv (h e)

/-- **violating_rejected**: a configuration that violates one of the named invariants is refused with an error. -/
theorem violating_rejected {c : Config}
    (bad :
      -- a key (PSK, uPSK store) whose length does not match the method
      (∃ s ∈ c.servers, s.proto.isSS = true ∧ (Doc.keyLen s.proto ≠ some s.pskLen ∨ s.upsk = .missing ∨ ∃ l, s.upsk = .keys l ∧ Doc.keyLen s.proto ≠ some l)) ∨
      (∃ k ∈ effectiveClients c, k.proto.isSS = true ∧ (Doc.keyLen k.proto ≠ some k.pskLen ∨ ∃ n ∈ k.ipskLens, Doc.keyLen k.proto ≠ some n)) ∨
      -- an ss2022 UDP listener (array or legacy) with an explicit NAT timeout below the replay window
      (∃ s ∈ c.servers, s.proto.isSS = true ∧ ∃ l ∈ s.allUDP, l.natTimeout ≠ 0 ∧ l.natTimeout < Doc.replayWindow) ∨
      -- UDP with an MTU below 1280
      (∃ s ∈ c.servers, s.allUDP ≠ [] ∧ s.mtu < Doc.minMTU) ∨
      (∃ k ∈ effectiveClients c, k.enableUDP = true ∧ k.mtu < Doc.minMTU) ∨
      -- tuning knobs outside the documented ranges
      (∃ s ∈ c.servers, ∃ l ∈ s.allUDP, l.relayBatch < 0 ∨ Doc.maxBatch < l.relayBatch ∨ l.recvBatch < 0 ∨ Doc.maxBatch < l.recvBatch ∨
        (l.sendCap ≠ 0 ∧ l.sendCap < Doc.minCapacity)) ∨
      -- duplicate names
      ¬ ((effectiveClients c).map (·.name)).Nodup ∨ ¬ (c.servers.map (·.name)).Nodup ∨ ¬ (c.resolvers.map (·.name)).Nodup ∨
      ¬ c.router.domainSets.Nodup ∨ ¬ c.router.prefixSets.Nodup ∨
      -- dangling references
      (∃ rt ∈ c.router.routes, (rt.resolver ≠ "" ∧ rt.resolver ∉ c.resolvers.map (·.name)) ∨ (∃ n ∈ rt.fromServers, n ∉ c.servers.map (·.name)) ∨
        (∃ n ∈ rt.toDomainSets, n ∉ c.router.domainSets) ∨ (∃ n ∈ rt.fromPrefixSets, n ∉ c.router.prefixSets) ∨ (∃ n ∈ rt.toPrefixSets, n ∉ c.router.prefixSets))) :
    ∃ err, validate c = .error err := by
  apply rejected_of_not_ok
  intro e h
  have ⟨_, hk, n1, n2, n3, n4, n5, hrt, _, _⟩ := accepted_sound h
  rcases bad with ⟨s, hs', hss, hb⟩ | ⟨k, hk', hss, hb⟩ | ⟨s, hs', hss, l, hl, hnz, hlt⟩ | ⟨s, hs', hne, hlt⟩ | ⟨k, hk', hu, hlt⟩ |
      ⟨s, hs', l, hl, hb⟩ | hb | hb | hb | hb | hb | ⟨rt, hrt', hb⟩
  · have sp := accepted_serverSpec h hs'
    rcases hb with hb | hb | ⟨l, hl, hb⟩
    · exact hb (sp.psk hss)
    · exact (sp.upsk hss).1 hb
    · exact hb ((sp.upsk hss).2 l hl)
  · have inv := hk k hk'
    rcases hb with hb | ⟨n, hn, hb⟩
    · exact hb (inv.psk hss).1
    · exact hb ((inv.psk hss).2 n hn)
  · have hn := ((accepted_serverSpec h hs').udpL l hl).nat
    rw [natFloor, if_pos hss] at hn
    have := gen_nat.2.1
    omega
  · have := (accepted_serverSpec h hs').mtu hne
    omega
  · have := (hk k hk').mtu hu
    omega
  · have sp := (accepted_serverSpec h hs').udpL l hl
    have := sp.relay
    have := sp.recv
    have := sp.cap
    omega
  · exact hb n1
  · exact hb n2
  · exact hb n3
  · exact hb n4
  · exact hb n5
  · have inv := hrt rt hrt'
    rcases hb with ⟨h1, h2⟩ | ⟨n, hn, h2⟩ | ⟨n, hn, h2⟩ | ⟨n, hn, h2⟩ | ⟨n, hn, h2⟩
    · exact h2 (inv.resolver h1)
    · exact h2 (inv.servers n hn)
    · exact h2 (inv.domainSets n hn)
    · exact h2 (inv.prefixSets.1 n hn)
    · exact h2 (inv.prefixSets.2 n hn)

/-- the hypotheses of `violating_rejected` are satisfiable: an ss2022 UDP listener with natTimeout 59 s -/
example : errorOf (validate { servers := [{ exServer with udpListeners := [{ natTimeout := 59000000000 }] }] }) = some "nat-timeout" := by
  decide

/-- **legacy_equiv**: a configuration written with the legacy single-listener fields (`enableTCP`, `enableUDP`,
    `natTimeoutSec`, `udp*BatchSize`, ...) is decided exactly like the listener arrays `Config.Migrate` produces:
    same acceptance, same error class, same effective services. -/
theorem legacy_equiv (c : Config) : validate c.migrate = validate c :=
  validate_congr_servers c Server.migrate (fun _ => rfl) (fun s _ => checkServer_migrate s)

/-- non-trivial instance: legacy UDP with natTimeoutSec 59 on an ss2022 server is refused both ways -/
example : errorOf (validate { servers := [{ exServer with udpListeners := [], enableUDP := true, natTimeoutSec := 59 }] }) = some "nat-timeout" ∧
    errorOf (validate (Config.migrate { servers := [{ exServer with udpListeners := [], enableUDP := true, natTimeoutSec := 59 }] })) = some "nat-timeout" :=
  ⟨by decide, by decide⟩

/-- write the documented default where a policy is omitted or "" -/
def normPolicy (d : String) : Option String → Option String
  | none => some d
  | some s => if s = "" then some d else some s

/-- a UDP listener with every omitted (zero) value replaced by the documented default -/
def explicitUL (l : UL) : UL :=
  { l with natTimeout := if l.natTimeout = 0 then Doc.natTimeout else l.natTimeout,
           relayBatch := if l.relayBatch = 0 then Doc.relayBatch else l.relayBatch,
           recvBatch := if l.recvBatch = 0 then Doc.recvBatch else l.recvBatch,
           sendCap := if l.sendCap = 0 then Doc.sendCapacity else l.sendCap }

/-- a server with every omitted / empty policy, filter size and listener value written out as documented -/
def explicitServer (s : Server) : Server :=
  { s with reject := normPolicy Doc.rejectPolicy s.reject, padding := normPolicy Doc.paddingPolicy s.padding,
           filterSize := if s.filterSize = 0 then Doc.filterSize else s.filterSize,
           udpListeners := s.udpListeners.map explicitUL }

/-- a client with omitted network / padding policy / filter size written out as documented -/
def explicitClient (k : Client) : Client :=
  { k with network := if k.network = "" then "ip" else k.network,
           padding := normPolicy Doc.paddingPolicy k.padding,
           filterSize := if k.filterSize = 0 then Doc.filterSize else k.filterSize }

theorem apply_normPolicy {β : Type} (f : Option String → β) {d : String} (h0 : f (some d) = f none)
    (h1 : f (some d) = f (some "")) : ∀ r, f (normPolicy d r) = f r
  | none => h0
  | some s => by
    by_cases hs : s = ""
    · rw [hs]; exact h1
    · simp [normPolicy, hs]

theorem rejectOf_norm (r : Option String) : rejectOf (normPolicy Doc.rejectPolicy r) = rejectOf r :=
  apply_normPolicy rejectOf (by decide) (by decide) r

theorem paddingOf_norm (r : Option String) : paddingOf (normPolicy Doc.paddingPolicy r) = paddingOf r :=
  apply_normPolicy paddingOf (by decide) (by decide) r

theorem relay_explicit (x : Int) :
    rangeDefault (if x = 0 then Doc.relayBatch else x) C18.relayBatchMax C18.relayBatchDefault =
    rangeDefault x C18.relayBatchMax C18.relayBatchDefault :=
  apply_ite_default (rangeDefault · C18.relayBatchMax C18.relayBatchDefault) (by decide) x

theorem recv_explicit (x : Int) :
    rangeDefault (if x = 0 then Doc.recvBatch else x) C18.recvBatchMax C18.recvBatchDefault =
    rangeDefault x C18.recvBatchMax C18.recvBatchDefault :=
  apply_ite_default (rangeDefault · C18.recvBatchMax C18.recvBatchDefault) (by decide) x

theorem cap_explicit (x : Int) : capDefault (if x = 0 then Doc.sendCapacity else x) = capDefault x :=
  apply_ite_default capDefault (by decide) x

theorem nat_explicit {minNat : Int} (hm : minNat ≤ Doc.natTimeout) (x : Int) :
    natEff minNat (if x = 0 then Doc.natTimeout else x) = natEff minNat x := by
  refine apply_ite_default (natEff minNat) ?_ x
  -- written out, the default passes the minimum; omitted, it is what is substituted
  rw [natEff_eq_some.mpr (.inl ⟨rfl, rfl⟩),
    natEff_eq_some (m := minNat) (n := Doc.natTimeout) |>.mpr (.inr ⟨by decide, by rw [natTooSmall_eq]; simpa using hm, rfl⟩)]
  exact congrArg some gen_nat.1.symm

theorem checkUL_explicit {minNat : Int} (hm : minNat ≤ Doc.natTimeout) (l : UL) :
    checkUL minNat (explicitUL l) = checkUL minNat l := by
  unfold checkUL explicitUL
  dsimp only
  rw [relay_explicit, recv_explicit, cap_explicit, nat_explicit hm]

theorem filterOK_explicit (max : Option Nat) (hmax : ∀ m, max = some m → Doc.filterSize ≤ m) (n : Nat) :
    filterSizeOK max (if n = 0 then Doc.filterSize else n) = filterSizeOK max n := by
  refine apply_ite_default (filterSizeOK max) ?_ n
  cases max with
  | none => rfl
  | some m => simp [filterSizeOK, hmax m rfl]

theorem effFilter_explicit (n : Nat) : effFilterSize (if n = 0 then Doc.filterSize else n) = effFilterSize n :=
  apply_ite_default effFilterSize (by decide) n

/-- omitted ≡ "" ≡ documented default, for one server written with listener arrays -/
theorem checkServer_explicit (s : Server) (hu : s.enableUDP = false) : checkServer (explicitServer s) = checkServer s := by
  have hT : (explicitServer s).allTCP = s.allTCP := rfl
  have hU : (explicitServer s).allUDP = s.udpListeners.map explicitUL := by
    simp [Server.allUDP, explicitServer, hu]
  have hU0 : s.allUDP = s.udpListeners := by simp [Server.allUDP, hu]
  have hmap : mapE (checkUL (minNatOf s.proto)) (s.udpListeners.map explicitUL) = mapE (checkUL (minNatOf s.proto)) s.udpListeners := by
    rw [mapE_map]
    exact mapE_congr (fun l _ => checkUL_explicit (minNat_le s.proto) l)
  have hemp : (s.udpListeners.map explicitUL).isEmpty = s.udpListeners.isEmpty := List.isEmpty_map
  have hf := filterOK_explicit C18.serverFilterSizeMax (by intro m hm; cases hm; decide) s.filterSize
  have he := effFilter_explicit s.filterSize
  unfold checkServer Server.initChecks Server.udpChecks Server.eff
  rw [hT, hU, hU0]
  simp only [explicitServer, hmap, hemp, hf, he, rejectOf_norm, paddingOf_norm]
  rfl

/-- omitted ≡ "" ≡ documented default, for one client -/
theorem checkClient_explicit (k : Client) : checkClient (explicitClient k) = checkClient k := by
  have hf := filterOK_explicit C18.clientFilterSizeMax (by intro m hm; cases hm; decide) k.filterSize
  have he := effFilter_explicit k.filterSize
  have hn := apply_ite_default networkOK (a := "") (d := "ip") (by decide) k.network
  -- the effective network name: writing "ip" for "" twice is writing it once
  have hi := apply_ite_default (fun n => if n = "" then "ip" else n) (a := "") (d := "ip") rfl k.network
  unfold checkClient Client.checks Client.eff Client.addressesOK explicitClient
  dsimp only at hi ⊢
  rw [hf, he, hn, hi, paddingOf_norm]

/-- **defaults**, servers: after `Config.Migrate`, writing out every omitted / "" policy, every zero
    NAT timeout, batch size, channel capacity and filter size of every server as the DOCUMENTED default
    (README / field comments, `Doc`) changes nothing: same acceptance, same error, same effective services. -/
theorem defaults (c : Config) :
    validate { c.migrate with servers := c.migrate.servers.map explicitServer } = validate c := by
  rw [← legacy_equiv c]
  exact validate_congr_servers c.migrate explicitServer (fun _ => rfl)
    fun s hs => checkServer_explicit s (migrate_enableUDP hs)

/-- what `exServer` (reject / padding policy and filter size omitted) becomes -/
def exEff : EffServer :=
  { name := "s", proto := .ss128, tcp := 1,
    udp := [{ batchMode := "", relayBatch := Doc.relayBatch, recvBatch := Doc.recvBatch, sendCap := Doc.sendCapacity,
              natTimeout := 120000000000 }],
    reject := some Doc.rejectPolicy, padding := some Doc.paddingPolicy, filterSize := some Doc.filterSize }

/-- the three spellings of the reject policy of `exServer` (omitted, "", "ForceReset") give the same services -/
example : checkServer exServer = checkServer { exServer with reject := some "" } ∧
    checkServer exServer = checkServer { exServer with reject := some "ForceReset" } ∧
    checkServer exServer = .ok exEff :=
  ⟨rfl, rfl, rfl⟩

theorem two63 : 2 ^ 63 = 9223372036854775808 := by decide

theorem effFilter_bound {n : Nat} (h : n ≤ 1048576) : 1 ≤ effFilterSize n ∧ effFilterSize n + 63 < 2 ^ 63 := by
  rw [two63]
  unfold effFilterSize
  split
  · rw [gen_filter_default]; decide
  · omega

/-- the preconditions under which the packet paths are proved panic-free (C04 / F15: `1 ≤ size`, `size+63 < 2^63`;
    C06/F4: the direct server's reply path calls `IPPort()` on the tunnel address when target-only is set) -/
structure NoCrashServer (s : Server) : Prop where
  targetOnly : s.proto = .direct → s.allUDP ≠ [] → s.targetOnly = true → s.tunnel = .ip
  filter : s.proto.isSS = true → 1 ≤ effFilterSize s.filterSize ∧ effFilterSize s.filterSize + 63 < 2 ^ 63

theorem no_crash_server {s : Server} (sp : ServerSpec s) : NoCrashServer s :=
  ⟨fun hd hne => sp.targetOnly hne hd, fun hs => effFilter_bound (sp.filter hs)⟩

/-- **no_crash_configs**: every accepted combination satisfies the preconditions of the no-panic theorems. -/
theorem no_crash_configs {c : Config} {e : Eff} (h : validate c = .ok e) :
    (∀ s ∈ c.servers, NoCrashServer s) ∧
    (∀ k ∈ effectiveClients c, k.proto.isSS = true → 1 ≤ effFilterSize k.filterSize ∧ effFilterSize k.filterSize + 63 < 2 ^ 63) :=
  ⟨fun _ hs => no_crash_server (accepted_serverSpec h hs),
    fun _ hk hss => effFilter_bound ((accepted_clientSpec h hk).filter hss)⟩

/-- F4 / F15 witnesses are refused: target-only with a domain; the filter sizes 2^64-1 and 2^64-64 -/
example : errorOf (validate { servers := [{ name := "d", proto := .direct, tunnel := .domain, targetOnly := true, mtu := 1500, udpListeners := [{}] }] }) = some "server-targetonly" ∧
    errorOf (validate { servers := [{ exServer with filterSize := 18446744073709551615 }] }) = some "server-filter-size" ∧
    errorOf (validate { servers := [{ exServer with filterSize := 18446744073709551552 }] }) = some "server-filter-size" :=
  ⟨by decide, by decide, by decide⟩

/-- the whole configuration with every documented default written out (after `Config.Migrate`) -/
def explicitConfig (c : Config) : Config :=
  { c.migrate with servers := c.migrate.servers.map explicitServer, clients := c.clients.map explicitClient }

/-- **defaults**, servers and clients: `defaults` with the clients' omitted network, padding policy and filter size
    written out as well -/
theorem defaults_all (c : Config) : validate (explicitConfig c) = validate c :=
  (validate_congr_clients { c.migrate with servers := c.migrate.servers.map explicitServer } explicitClient
    (fun _ => rfl) (fun _ => rfl) (fun _ => rfl) checkClient_explicit).trans (defaults c)

/-- **accepted_sound**, client groups: group names are unique and differ from every client name; every member
    of a group is among the names usable for that network (clients and groups) when the loop has ended. -/
theorem accepted_groups {c : Config} {e : Eff} (h : validate c = .ok e) :
    (c.groups.map (·.name)).Nodup ∧
    (∀ g ∈ c.groups, g.name ∉ (effectiveClients c).map (·.name)) ∧
    (∀ g ∈ c.groups, (∀ m ∈ g.tcpClients, m ∈ e.tcpNames) ∧ (∀ m ∈ g.udpClients, m ∈ e.udpNames)) ∧
    (∀ k ∈ effectiveClients c, (k.enableTCP = true → k.name ∈ e.tcpNames) ∧ (k.enableUDP = true → k.name ∈ e.udpNames)) := by
  have acc := validate_iff.mp h
  have ⟨nd, ns, mem, mt, mu, _, _⟩ := checkGroups_ok acc.groups
  refine ⟨nd, (fun g hg => (ns g hg).2), mem, ?_⟩
  intro k hk
  exact ⟨fun ht => mt _ (List.mem_map_of_mem (List.mem_filter.mpr ⟨hk, ht⟩)),
    fun hu => mu _ (List.mem_map_of_mem (List.mem_filter.mpr ⟨hk, hu⟩))⟩

/-- **accepted_sound**, resolvers: the TCP / UDP client a resolver names exists for that network -/
theorem accepted_resolvers {c : Config} {e : Eff} (h : validate c = .ok e) :
    ∀ r ∈ c.resolvers, (r.tcpClient ≠ "" → r.tcpClient ∈ e.tcpNames) ∧ (r.udpClient ≠ "" → r.udpClient ∈ e.udpNames) := by
  have acc := validate_iff.mp h
  have ⟨_, _, hall⟩ := checkResolvers_ok acc.resolvers
  intro r hr
  exact checkResolver_ok (hall r hr)

/-- every name a configuration defines for clients: the (effective) clients and the client groups -/
def clientNames (c : Config) : List String := (effectiveClients c).map (·.name) ++ c.groups.map (·.name)

theorem names_sub {c : Config} {e : Eff} (h : validate c = .ok e) :
    (∀ n ∈ e.tcpNames, n ∈ clientNames c) ∧ (∀ n ∈ e.udpNames, n ∈ clientNames c) := by
  have ⟨_, _, _, _, _, b1, b2⟩ := checkGroups_ok (validate_iff.mp h).groups
  exact ⟨fun n hn => List.mem_append.mpr ((b1 n hn).imp_left ((List.filter_sublist.map _).subset ·)),
    fun n hn => List.mem_append.mpr ((b2 n hn).imp_left ((List.filter_sublist.map _).subset ·))⟩

/-- **violating_rejected**, references to clients and client-group names: a route, a default client name, a group
    member or a resolver client that names no client or group at all, a duplicate group name, or a group named like a
    client, is refused. -/
theorem dangling_rejected {c : Config}
    (bad :
      (∃ rt ∈ c.router.routes, rt.client ≠ "reject" ∧ (rt.network = "" ∨ rt.network = "tcp" ∨ rt.network = "udp") ∧ rt.client ∉ clientNames c) ∨
      (c.router.defaultTCP ≠ "" ∧ c.router.defaultTCP ≠ "reject" ∧ c.router.defaultTCP ∉ clientNames c) ∨
      (c.router.defaultUDP ≠ "" ∧ c.router.defaultUDP ≠ "reject" ∧ c.router.defaultUDP ∉ clientNames c) ∨
      (∃ g ∈ c.groups, (∃ m ∈ g.tcpClients, m ∉ clientNames c) ∨ (∃ m ∈ g.udpClients, m ∉ clientNames c)) ∨
      (∃ r ∈ c.resolvers, (r.tcpClient ≠ "" ∧ r.tcpClient ∉ clientNames c) ∨ (r.udpClient ≠ "" ∧ r.udpClient ∉ clientNames c)) ∨
      ¬ (c.groups.map (·.name)).Nodup ∨
      (∃ g ∈ c.groups, g.name ∈ (effectiveClients c).map (·.name))) :
    ∃ err, validate c = .error err := by
  apply rejected_of_not_ok
  intro e h
  have ⟨_, _, _, _, _, _, _, hrt, hdt, hdu⟩ := accepted_sound h
  have ⟨gnd, gcn, gmem, _⟩ := accepted_groups h
  have hres := accepted_resolvers h
  have ⟨st, su⟩ := names_sub h
  rcases bad with ⟨rt, hrt', hc, hn, hb⟩ | ⟨h1, h2, hb⟩ | ⟨h1, h2, hb⟩ | ⟨g, hg, hb⟩ | ⟨r, hr, hb⟩ | hb | ⟨g, hg, hb⟩
  · have inv := hrt rt hrt'
    rcases hn with hn | hn | hn
    · exact hb (st _ (inv.tcpClient hc (Or.inl hn)))
    · exact hb (st _ (inv.tcpClient hc (Or.inr hn)))
    · exact hb (su _ (inv.udpClient hc (Or.inr hn)))
  · exact hb (st _ (hdt h1 h2))
  · exact hb (su _ (hdu h1 h2))
  · rcases hb with ⟨m, hm, hb⟩ | ⟨m, hm, hb⟩
    · exact hb (st _ ((gmem g hg).1 m hm))
    · exact hb (su _ ((gmem g hg).2 m hm))
  · rcases hb with ⟨h1, hb⟩ | ⟨h1, hb⟩
    · exact hb (st _ ((hres r hr).1 h1))
    · exact hb (su _ ((hres r hr).2 h1))
  · exact hb gnd
  · exact gcn g hg hb

/-- satisfiable: a route to a client that does not exist -/
example : errorOf (validate { servers := [exServer], router := { routes := [{ name := "r", client := "nosuch" }] } }) = some "route-tcp-notfound" := by
  decide

/-- an accepted configuration with a client, a client group over it and a resolver using the group
    (the hypotheses of `accepted_groups` / `accepted_resolvers` are satisfiable) -/
def exConfig : Config :=
  { servers := [exServer],
    clients := [{ name := "a", proto := .direct, enableTCP := true, enableUDP := true, mtu := 1500 }],
    groups := [{ name := "g", tcpPolicy := "round-robin", tcpClients := ["a"] }],
    resolvers := [{ name := "d", addrValid := true, tcpClient := "g" }],
    router := { defaultTCP := "g", routes := [{ name := "r", network := "tcp", client := "g", resolver := "d", fromServers := ["s"] }] } }

example : errorOf (validate exConfig) = none := by decide

/-- **no_crash_configs**, route matching: in an accepted configuration the `fromServers` bit set of every route
    (capacity `len(serverIndexByName)`) has a bit for the index of EVERY server - also unnamed ones - so
    `SourceServerCriterion.Meet` never indexes out of range, whichever server a request arrives on. -/
theorem server_index_in_range {c : Config} {e : Eff} (h : validate c = .ok e) :
    c.bitsetCapacity = c.servers.length ∧ ∀ i, i < c.servers.length → i < c.bitsetCapacity := by
  have ⟨_, _, _, snd, _⟩ := accepted_sound h
  have hcap : c.bitsetCapacity = c.servers.length := by
    unfold Config.bitsetCapacity
    rw [mapSize_nodup snd, List.length_map]
  exact ⟨hcap, fun i hi => by rw [hcap]; exact hi⟩

/-- why the uniqueness check must cover every server: with two unnamed servers the map has one entry, the second
    server's index is out of range - and such a configuration is refused -/
example : Config.bitsetCapacity { servers := [{ exServer with name := "" }, { exServer with name := "" }] } = 1 ∧
    errorOf (validate { servers := [{ exServer with name := "" }, { exServer with name := "" }] }) = some "dup-server" ∧
    errorOf (validate { servers := [{ exServer with name := "edge" }, { exServer with name := "" }] }) = none :=
  ⟨by decide, by decide, by decide⟩

theorem firstErr_all_false : ∀ {l : List (Bool × String)}, (∀ p ∈ l, p.1 = false) → firstErr l = none
  | [], _ => rfl
  | (c, e) :: _, h =>
    firstErr_cons_none.mpr ⟨h (c, e) List.mem_cons_self, firstErr_all_false fun p hp => h p (List.mem_cons_of_mem _ hp)⟩

theorem checkUL_complete {floor : Int} {l : UL} (h : ULSpec floor l) : ∃ e, checkUL floor l = .ok e := ulSpec_iff.mp h

theorem checkTL_complete {l : TL} (h : TLSpec l) : ∃ u, checkTL l = .ok u := tlSpec_iff.mp h

theorem checkServer_complete {s : Server} (h : ServerSpec s) : ∃ e, checkServer s = .ok e := by
  obtain ⟨uls, huls⟩ := mapE_isOk_iff.mpr fun l hl => checkUL_complete (minNatOf_eq _ ▸ h.udpL l hl)
  exact ⟨s.eff uls, serverSpec_iff.mpr ⟨h, huls, rfl⟩⟩

theorem checkClient_complete {k : Client} (h : ClientSpec k) : ∃ e, checkClient k = .ok e := clientSpec_iff.mp h

theorem checkClients_complete : ∀ {cs : List Client} {seen : List String},
    (cs.map (·.name)).Nodup → (∀ k ∈ cs, k.name ∉ seen) → (∀ k ∈ cs, ClientSpec k) → ∃ es, checkClients seen cs = .ok es := by
  intro cs seen hnd hns hsp
  obtain ⟨es, h⟩ := mapE_isOk_iff.mpr fun k hk => checkClient_complete (hsp k hk)
  exact ⟨es, checkClients_iff.mpr ⟨⟨hnd, hns⟩, h⟩⟩

theorem checkUnique_complete {code : String} : ∀ {ns seen : List String},
    ns.Nodup → (∀ n ∈ ns, n ∉ seen) → checkUnique code seen ns = .ok () :=
  fun hnd hns => checkUnique_iff.mpr ⟨hnd, hns⟩

/-- **completeness (partial)**: a configuration whose servers and clients satisfy the documented conditions
    (`ServerSpec`, `ClientSpec`: the conditions `accepted_sound` derives, plus filter-size bound, http and protocol /
    network / address well-formedness) and whose server and client names are unique IS ACCEPTED, provided the
    client-group, resolver, router and API stages succeed.  The specifications are also necessary (`serverSpec_iff`,
    `clientSpec_iff`); the last four stages have no declarative
    specification - only their soundness halves `accepted_groups`, `accepted_resolvers`, `route_sound`, `api_sound`. -/
theorem validate_complete_partial {c : Config}
    (hne : c.servers ≠ [])
    (hsrv : ∀ s ∈ c.servers, ServerSpec s) (hsn : (c.servers.map (·.name)).Nodup)
    (hcl : ∀ k ∈ effectiveClients c, ClientSpec k) (hcn : ((effectiveClients c).map (·.name)).Nodup)
    (hstages : ∃ tcp udp,
      checkGroups ((effectiveClients c).map (·.name)) [] c.groups (tcpNamesOf (effectiveClients c)) (udpNamesOf (effectiveClients c)) = .ok (tcp, udp) ∧
      checkResolvers tcp udp [] c.resolvers = .ok () ∧
      checkRouter c.router (c.resolvers.map (·.name)) tcp udp (c.servers.map (·.name)) = .ok ())
    (hapi : checkApi c.api = .ok ()) :
    ∃ e, validate c = .ok e := by
  obtain ⟨tcp, udp, hg, hr, hro⟩ := hstages
  obtain ⟨ecs, hecs⟩ := checkClients_complete (seen := []) hcn (fun _ _ h => by cases h) hcl
  have hu := checkUnique_complete (code := "dup-server") (seen := []) hsn (fun _ _ h => by cases h)
  obtain ⟨ess, hess⟩ := mapE_isOk_iff.mpr fun s hs => checkServer_complete (hsrv s hs)
  exact ⟨{ clients := ecs, servers := ess, routes := routeKinds c.router, tcpNames := tcp, udpNames := udp },
    validate_iff.mpr ⟨hne, hecs, hg, hr, hu, hro, hess, hapi, rfl⟩⟩

theorem serverSpec_of_accepted {s : Server} {e : EffServer} (h : checkServer s = .ok e) :
    (s.proto.isSS = true → Doc.keyLen s.proto = some s.pskLen) ∧ (s.allUDP ≠ [] → Doc.minMTU ≤ s.mtu) ∧
    (s.proto = .direct → s.tunnel ≠ .absent) ∧ (s.proto.isSS = true → s.filterSize ≤ 1048576) :=
  have sp := (serverSpec_iff.mp h).1
  ⟨sp.psk, sp.mtu, sp.tunnel, sp.filter⟩

/-- the API block: accepted => it has a listener, no TLS listener names a certificate list / CA pool that does not
    exist, and NO pattern reaches `http.ServeMux` that makes it panic (F25 / F26) -/
theorem api_sound {c : Config} {e : Eff} (h : validate c = .ok e) :
    c.api.enabled = true → c.api.listeners ≠ [] ∧ (∀ l ∈ c.api.listeners, l.tls = true → l.certList = false ∧ l.clientCAs = false) ∧
      c.api.secret ≠ .wildcard ∧ c.api.secret ≠ .malformed := by
  have ha := (validate_iff.mp h).api
  revert ha
  fun_cases checkApi c.api
  case case1 hen => exact fun _ h => absurd h (by simpa using hen)
  case case5 hne ls hls hmux =>
    intro _ _
    simp only [Api.muxChecks, firstErr_cons_none, firstErr_nil, and_true, gen_api_guards.1, Bool.true_and, Bool.or_eq_false_iff, decide_eq_false_iff_not] at hmux
    refine ⟨List.isEmpty_eq_false_iff.mp (by simpa using hne), fun l hl ht => ?_, hmux.1.1, hmux.1.2⟩
    obtain ⟨u, _, hu⟩ := mapE_ok_mem hls l hl
    revert hu
    fun_cases checkApiListener l
    case case2 hf => exact fun _ => by simpa only [firstErr_cons_none, firstErr_nil, and_true, ht, Bool.true_and] using hf
    all_goals nofun
  all_goals nofun

/-- with the guards, the only error the ServeMux part of `NewServer` can produce is the refusal of a secret path with
    braces: neither panic class of `Api.muxChecks` is reachable -/
theorem api_no_panic (a : Api) (e : String) (h : firstErr a.muxChecks = some e) : e = "api-secret-path" := by
  have ⟨g1, g2⟩ := gen_api_guards
  unfold Api.muxChecks at h
  rw [g1, g2] at h
  simp only [firstErr, Bool.not_true, Bool.false_and, Bool.false_eq_true, if_false, Bool.true_and] at h
  split at h
  · exact (Option.some.inj h).symm
  · cases h

/-- the documented address rule of a proxy client: `endpoint` alone, or `tcpAddress` / `udpAddress` with an
    address for EVERY enabled network; nothing is required of a `direct` client -/
structure AddressSpec (k : Client) : Prop where
  exclusive : ¬ (k.endpoint = true ∧ (k.tcpAddr = true ∨ k.udpAddr = true))
  some : k.endpoint = true ∨ k.tcpAddr = true ∨ k.udpAddr = true
  tcp : k.enableTCP = true → k.endpoint = true ∨ k.tcpAddr = true
  udp : k.enableUDP = true → k.endpoint = true ∨ k.udpAddr = true

/-- `checkAddresses` decides exactly the documented rule -/
theorem addressesOK_iff (k : Client) : k.addressesOK = true ↔ (k.proto = .direct ∨ AddressSpec k) := by
  have spec : AddressSpec k ↔ ¬ (k.endpoint = true ∧ (k.tcpAddr = true ∨ k.udpAddr = true)) ∧
      (k.endpoint = true ∨ k.tcpAddr = true ∨ k.udpAddr = true) ∧
      (k.enableTCP = true → k.endpoint = true ∨ k.tcpAddr = true) ∧
      (k.enableUDP = true → k.endpoint = true ∨ k.udpAddr = true) :=
    ⟨fun ⟨a, b, c, d⟩ => ⟨a, b, c, d⟩, fun ⟨a, b, c, d⟩ => ⟨a, b, c, d⟩⟩
  unfold Client.addressesOK
  by_cases hd : k.proto = .direct
  · simp [hd]
  rw [if_neg hd, spec]
  -- with `endpoint`: exactly when no split address stands beside it; without: one for every enabled network, and at least one
  cases k.endpoint <;> cases k.tcpAddr <;> cases k.udpAddr <;> simp [hd]

/-- **accepted_sound**, client addresses: every enabled network of every accepted proxy client has an address -/
theorem accepted_client_addresses {c : Config} {e : Eff} (h : validate c = .ok e) :
    ∀ k ∈ effectiveClients c, k.proto ≠ .direct → AddressSpec k := by
  intro k hk hnd
  rcases (addressesOK_iff k).mp (accepted_clientSpec h hk).addresses with h1 | h1
  · exact absurd h1 hnd
  · exact h1

/-- **violating_rejected**, client addresses: a proxy client with an enabled network that has no address is refused -/
theorem client_address_rejected {c : Config}
    (bad : ∃ k ∈ effectiveClients c, k.proto ≠ .direct ∧ k.endpoint = false ∧
      ((k.enableTCP = true ∧ k.tcpAddr = false) ∨ (k.enableUDP = true ∧ k.udpAddr = false))) :
    ∃ err, validate c = .error err := by
  apply rejected_of_not_ok
  intro e h
  obtain ⟨k, hk, hnd, hep, hb⟩ := bad
  have sp := accepted_client_addresses h k hk hnd
  rcases hb with ⟨h1, h2⟩ | ⟨h1, h2⟩
  · exact (sp.tcp h1).elim (fun h3 => nomatch hep.symm.trans h3) (fun h3 => nomatch h2.symm.trans h3)
  · exact (sp.udp h1).elim (fun h3 => nomatch hep.symm.trans h3) (fun h3 => nomatch h2.symm.trans h3)

/-- the seeded witness: both networks enabled, `tcpAddress` only -/
def exSplitClient : Client :=
  { name := "a", proto := .socks5, tcpAddr := true, enableTCP := true, enableUDP := true, mtu := 1500 }

example : errorOf (validate { servers := [exServer], clients := [exSplitClient] }) = some "client-address" ∧
    errorOf (validate { servers := [exServer], clients := [{ exSplitClient with udpAddr := true }] }) = none := by
  decide

end SSV.C18

#print axioms SSV.C18.gen_pskLen
#print axioms SSV.C18.gen_mtu
#print axioms SSV.C18.gen_nat
#print axioms SSV.C18.gen_perf
#print axioms SSV.C18.gen_policy_defaults
#print axioms SSV.C18.gen_filter_default
#print axioms SSV.C18.gen_filter_bound
#print axioms SSV.C18.gen_checks_present
#print axioms SSV.C18.gen_replay_window
#print axioms SSV.C18.gen_server_index
#print axioms SSV.C18.gen_api_guards
#print axioms SSV.C18.gen_client_addresses
#print axioms SSV.C18.gen_nat_exact
#print axioms SSV.C18.minNatOf_eq
#print axioms SSV.C18.isSS_minNat
#print axioms SSV.C18.minNat_le
#print axioms SSV.C18.ulSpec_iff
#print axioms SSV.C18.ul_sound
#print axioms SSV.C18.tlSpec_iff
#print axioms SSV.C18.pskOK_keyLen
#print axioms SSV.C18.serverSpec_iff
#print axioms SSV.C18.server_sound
#print axioms SSV.C18.clientSpec_iff
#print axioms SSV.C18.client_sound
#print axioms SSV.C18.validate_iff
#print axioms SSV.C18.accepted_clientSpec
#print axioms SSV.C18.accepted_serverSpec
#print axioms SSV.C18.route_sound
#print axioms SSV.C18.accepted_sound
#print axioms SSV.C18.rejected_of_not_ok
#print axioms SSV.C18.violating_rejected
#print axioms SSV.C18.legacy_equiv
#print axioms SSV.C18.apply_normPolicy
#print axioms SSV.C18.rejectOf_norm
#print axioms SSV.C18.paddingOf_norm
#print axioms SSV.C18.relay_explicit
#print axioms SSV.C18.recv_explicit
#print axioms SSV.C18.cap_explicit
#print axioms SSV.C18.nat_explicit
#print axioms SSV.C18.checkUL_explicit
#print axioms SSV.C18.filterOK_explicit
#print axioms SSV.C18.effFilter_explicit
#print axioms SSV.C18.checkServer_explicit
#print axioms SSV.C18.checkClient_explicit
#print axioms SSV.C18.defaults
#print axioms SSV.C18.two63
#print axioms SSV.C18.effFilter_bound
#print axioms SSV.C18.no_crash_server
#print axioms SSV.C18.no_crash_configs
#print axioms SSV.C18.defaults_all
#print axioms SSV.C18.accepted_groups
#print axioms SSV.C18.accepted_resolvers
#print axioms SSV.C18.names_sub
#print axioms SSV.C18.dangling_rejected
#print axioms SSV.C18.server_index_in_range
#print axioms SSV.C18.firstErr_all_false
#print axioms SSV.C18.checkUL_complete
#print axioms SSV.C18.checkTL_complete
#print axioms SSV.C18.checkServer_complete
#print axioms SSV.C18.checkClient_complete
#print axioms SSV.C18.checkClients_complete
#print axioms SSV.C18.checkUnique_complete
#print axioms SSV.C18.validate_complete_partial
#print axioms SSV.C18.serverSpec_of_accepted
#print axioms SSV.C18.api_sound
#print axioms SSV.C18.api_no_panic
#print axioms SSV.C18.addressesOK_iff
#print axioms SSV.C18.accepted_client_addresses
#print axioms SSV.C18.client_address_rejected
