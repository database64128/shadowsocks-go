import SSV.Proofs.ClientGroupsRR
import SSV.Proofs.ClientGroupsMain
import SSV.Proofs.ClientGroupsSched
/-
C19 — Client groups pick clients as their policy says.

Model: SSV/Model/ClientGroups.lean (clientgroups/clientgroups.go, clientgroups/probe.go); numbers, comparison
operators, initial bests and the failure record come from SSV/Gen/C19.lean (regenerated from the source).
Vocabulary (SSV/Proofs/ClientGroupsRun.lean): `History n` = list of rounds, a round = the outcome of every
client's probe (`none` = failed, `some d` = succeeded after `d` ns); `column hist i` = client i's outcomes;
`specScore` = the figure the statement ranks clients by, computed from the client's WHOLE history:
successes among the last 64 rounds / mean latency over the 32-round window in integer ns / worst latency among
the last 32 rounds, a failed probe counting as the timeout. Further: `runJobs` = the jobs of a round finishing one by one
(ClientGroupsRun.lean); `roundSmall`, `runSmall` = rounds and histories in such small steps (ClientGroupsMain.lean);
`addCount` = the selections started in an event sequence (ClientGroupsRR.lean); `scriptOutcome` = what a client's own
behaviour yields when its probe is started (ClientGroupsSched.lean).
-/
namespace SSV.C19
open SSV.ClientGroups SSV.Gen.C19

/-- `rr_cyclic` (sequential part): the first `m ≤ 2^63` selections of a round-robin group of `n` clients are
    clients `0, 1, …, n-1, 0, 1, …` in configuration order, none skipped. -/
theorem rr_cyclic (n m : Nat) (hm : m ≤ 2 ^ 63) :
    rrRun rrInit n m = (List.range m).map (fun k => k % n) := by
  rw [rrRun_init, pickOfTicket_range n m hm]

example : (3 : Nat) ≤ 2 ^ 63 := by decide

/-- the counter's wrap, stated: for EVERY `m` the k-th selection is client `(k mod 2^63) mod n`; so after
    `2^63` selections the cycle restarts at client 0, which continues the cyclic order only if `n` divides `2^63`. -/
theorem rr_counter_wrap (n m : Nat) :
    rrRun rrInit n m = (List.range m).map (fun k => k % 2 ^ 63 % n) := by
  rw [rrRun_init]
  exact List.map_congr_left fun k _ => pickOfTicket_eq n k

/-- the wrap on a concrete group of 3: selections number `2^63 - 1` and `2^63` are clients 1 and 0 (not 1 and 2). -/
theorem rr_wrap_witness : (2 ^ 63 - 1) % 2 ^ 63 % 3 = 1 ∧ 2 ^ 63 % 2 ^ 63 % 3 = 0 ∧ 2 ^ 63 % 3 = 2 := by decide

/-- `rr_cyclic` (concurrent part). Threads perform `index.Add(1)` atomically and finish their selection (mask,
    modulo, index) later, in any order. For ANY sequence of such events: when no selection is in flight, the
    clients handed out so far (in completion order) are a permutation of `0 mod n, 1 mod n, …, (m-1) mod n`,
    `m` = number of selections started (`≤ 2^63`). -/
theorem rr_concurrent_multiset (n : Nat) (evs : List RREvent) (hm : addCount evs ≤ 2 ^ 63)
    (hdone : (rrExec n rrInitState evs).pending = []) :
    (rrExec n rrInitState evs).done.Perm ((List.range (addCount evs)).map (fun k => k % n)) := by
  have h := rrExec_perm n evs hm
  rwa [hdone] at h

example : addCount [.add 1, .add 2, .fin 2, .fin 1] ≤ 2 ^ 63 ∧
    (rrExec 2 rrInitState [.add 1, .add 2, .fin 2, .fin 1]).pending = [] ∧
    (rrExec 2 rrInitState [.add 1, .add 2, .fin 2, .fin 1]).done = [1, 0] := by decide

/-- the same at every instant of every interleaving: selections in flight + selections returned = the tickets
    `0 … m-1` handed out by the atomic counter (nothing skipped, nothing handed out twice). -/
theorem rr_concurrent_invariant (n : Nat) (evs : List RREvent) (hm : addCount evs ≤ 2 ^ 63) :
    let s := rrExec n rrInitState evs
    (s.pending.map (fun q => rrPick q.2 n) ++ s.done).Perm ((List.range (addCount evs)).map (fun k => k % n)) :=
  rrExec_perm n evs hm

example : addCount [.add 7, .fin 7, .add 8] ≤ 2 ^ 63 := by decide

/-- round-robin never indexes outside the group (groups are only built from non-empty client lists) -/
theorem rr_member (v n : Nat) (hn : 0 < n) : rrPick v n < n := by
  unfold rrPick
  exact Nat.mod_lt _ hn

example : ∃ v n, 0 < n ∧ rrPick v n < n := ⟨5, 3, by decide, by decide⟩

/-- `random_member`: whatever `rand.IntN(len)` returns within its contract, the client handed out is a member;
    outside the contract the expression panics (`none`), it never yields a non-member. -/
theorem random_member (n draw i : Nat) (h : randomPick n draw = some i) : i < n := by
  unfold randomPick at h
  split at h
  · cases h; assumption
  · cases h

example : randomPick 3 2 = some 2 := by decide

/-- within the contract of `rand.IntN` a member is always handed out -/
theorem random_total (n draw : Nat) (hd : draw < n) : randomPick n draw = some draw := by
  simp [randomPick, hd]

example : (2 : Nat) < 3 := by decide

/-- what the source retains (regenerated): 64 rounds of success bits, 32 latencies -/
theorem retention_64_32 : retention .avail = 64 ∧ retention .lat = 32 ∧ retention .minmax = 32 := by decide

/-- `best_is_argmax_first`, availability: after every round of every history (any length, any group size) the
    selection is the FIRST client in configuration order with the most successes in the retained history. -/
theorem best_is_argmax_first_availability {n : Nat} (hn : 0 < n) (timeout : Nat) (hist : History n) (hne : hist ≠ []) :
    ∃ h : (run .avail timeout (init .avail n) (hist.map List.ofFn)).sel < n,
      (∀ j : Fin n, specScore .avail timeout (column hist j) ≤
          specScore .avail timeout (column hist ⟨(run .avail timeout (init .avail n) (hist.map List.ofFn)).sel, h⟩)) ∧
      (∀ j : Fin n, j.val < (run .avail timeout (init .avail n) (hist.map List.ofFn)).sel →
          specScore .avail timeout (column hist j) <
          specScore .avail timeout (column hist ⟨(run .avail timeout (init .avail n) (hist.map List.ofFn)).sel, h⟩)) :=
  by simpa only [cmpOf, avail_cmp, cmpTest, decide_eq_false_iff_not, Nat.not_lt, decide_eq_true_eq, gt_iff_lt] using
    run_first_best .avail timeout hn hist hne (fun h => absurd rfl h)

example : ∃ hist : History 2, hist ≠ [] := ⟨[fun _ => some 3], by simp⟩

/-- `best_is_argmax_first`, latency: the selection is the FIRST client with the lowest mean latency over the
    retained history (failures counted as the timeout), provided successful probes report at most the timeout
    (their own deadline). -/
theorem best_is_argmax_first_latency {n : Nat} (hn : 0 < n) (timeout : Nat) (hist : History n) (hne : hist ≠ [])
    (hlat : ∀ f ∈ hist, ∀ (i : Fin n) (d : Nat), f i = some d → d ≤ timeout) :
    ∃ h : (run .lat timeout (init .lat n) (hist.map List.ofFn)).sel < n,
      (∀ j : Fin n, specScore .lat timeout (column hist ⟨(run .lat timeout (init .lat n) (hist.map List.ofFn)).sel, h⟩) ≤
          specScore .lat timeout (column hist j)) ∧
      (∀ j : Fin n, j.val < (run .lat timeout (init .lat n) (hist.map List.ofFn)).sel →
          specScore .lat timeout (column hist ⟨(run .lat timeout (init .lat n) (hist.map List.ofFn)).sel, h⟩) <
          specScore .lat timeout (column hist j)) :=
  by simpa only [cmpOf, lat_cmp, cmpTest, decide_eq_false_iff_not, Nat.not_lt, decide_eq_true_eq] using
    run_first_best .lat timeout hn hist hne (fun _ => hlat)

example : ∃ hist : History 2, hist ≠ [] ∧ ∀ f ∈ hist, ∀ (i : Fin 2) (d : Nat), f i = some d → d ≤ 10 :=
  ⟨[fun _ => some 3, fun _ => none], by simp, by
    intro f hf i d h
    simp at hf
    rcases hf with rfl | rfl
    · simp at h; omega
    · simp at h⟩

/-- `best_is_argmax_first`, min-max latency: the selection is the FIRST client with the lowest worst latency over
    the retained history (failures counted as the timeout), under the same proviso. -/
theorem best_is_argmax_first_minmax {n : Nat} (hn : 0 < n) (timeout : Nat) (hist : History n) (hne : hist ≠ [])
    (hlat : ∀ f ∈ hist, ∀ (i : Fin n) (d : Nat), f i = some d → d ≤ timeout) :
    ∃ h : (run .minmax timeout (init .minmax n) (hist.map List.ofFn)).sel < n,
      (∀ j : Fin n, specScore .minmax timeout (column hist ⟨(run .minmax timeout (init .minmax n) (hist.map List.ofFn)).sel, h⟩) ≤
          specScore .minmax timeout (column hist j)) ∧
      (∀ j : Fin n, j.val < (run .minmax timeout (init .minmax n) (hist.map List.ofFn)).sel →
          specScore .minmax timeout (column hist ⟨(run .minmax timeout (init .minmax n) (hist.map List.ofFn)).sel, h⟩) <
          specScore .minmax timeout (column hist j)) :=
  by simpa only [cmpOf, minmax_cmp, cmpTest, decide_eq_false_iff_not, Nat.not_lt, decide_eq_true_eq] using
    run_first_best .minmax timeout hn hist hne (fun _ => hlat)

example : ∃ hist : History 1, hist ≠ [] ∧ ∀ f ∈ hist, ∀ (i : Fin 1) (d : Nat), f i = some d → d ≤ 5 :=
  ⟨[fun _ => none], by simp, by intro f hf i d h; simp at hf; subst hf; simp at h⟩

/-- "after each round": the selection published after round `k` of a history is the one the three theorems
    above speak about for the prefix of `k+1` rounds. -/
theorem after_each_round (p : Policy) (timeout : Nat) (st : State) (hist : List (List Outcome)) (k : Nat)
    (hk : k < hist.length) :
    (selections p timeout st hist)[k]? = some (run p timeout st (hist.take (k + 1))).sel :=
  by
  fun_induction selections p timeout st hist generalizing k with
  | case1 => cases hk
  | case2 st os rest ih =>
    cases k with
    | zero => rfl
    | succ k => exact ih k (Nat.lt_of_succ_lt_succ hk)

example : (0 : Nat) < [[some 1, (none : Outcome)]].length := by decide

/-- `unchanged_during_round`: while the jobs of a round finish — any clients, any order, any outcomes — the
    published selection (and the round counter) stay what they were before the round. -/
theorem unchanged_during_round (p : Policy) (timeout : Nat) (st : State) (jobs : List (Nat × Outcome)) :
    (runJobs p timeout st jobs).sel = st.sel ∧ (runJobs p timeout st jobs).count = st.count :=
  runJobs_keeps p timeout jobs st

example : (runJobs .lat 9 (init .lat 2) [(1, some 4), (0, none)]).sel = 0 := by decide

/-- … and the order in which the jobs of a round finish does not matter: once every client's job is done
    (`wg.Wait()` returns) the scan yields exactly the big-step round the theorems above are about. -/
theorem round_any_job_order (p : Policy) (timeout : Nat) {n : Nat} (f : Fin n → Outcome) (ord : List (Fin n))
    (hall : ∀ i : Fin n, i ∈ ord) (st : State) (hlen : st.rings.length = n) :
    finish p timeout (runJobs p timeout st (ord.map (fun i => (i.val, f i)))) = round p timeout st (List.ofFn f) :=
  jobs_then_finish p timeout f ord hall st hlen

example : ∃ ord : List (Fin 2), ∀ i : Fin 2, i ∈ ord := ⟨[1, 0], by decide⟩

/-- the same over a whole history: with the jobs of every round finishing in an arbitrary order (every client's job
    finishing before `wg.Wait()` returns), the small-step execution ends in exactly the state of the big-step
    `run` that `best_is_argmax_first_*` are stated for — so those theorems hold for every completion order. -/
theorem any_job_order_whole_history (p : Policy) (timeout : Nat) {n : Nat}
    (hist : List ((Fin n → Outcome) × List (Fin n))) (hall : ∀ r ∈ hist, ∀ i : Fin n, i ∈ r.2) :
    runSmall p timeout (init p n) hist = run p timeout (init p n) ((hist.map Prod.fst).map List.ofFn) := by
  rw [runSmall_eq_run p timeout hist (init p n) (by simp [init]) hall, List.map_map]
  rfl

example : ∃ hist : List ((Fin 2 → Outcome) × List (Fin 2)), hist ≠ [] ∧ ∀ r ∈ hist, ∀ i : Fin 2, i ∈ r.2 :=
  ⟨[(fun _ => some 1, [1, 0])], by simp, by decide⟩

/-- `always_member`: whatever the history, the improvement tests and the latencies, a probing group hands out one
    of its own clients (before the first round: the first configured client). -/
theorem always_member (p : Policy) (timeout : Nat) {n : Nat} (hn : 0 < n) (hist : History n) :
    (run p timeout (init p n) (hist.map List.ofFn)).sel < n :=
  by
  rw [(run_spec p timeout hist).sel]
  split
  · exact initial_sel ▸ hn
  · simpa using bestIndex_lt p timeout (List.ofFn fun i => specScore p timeout (column hist i)) (by simpa using hn)

example : (0 : Nat) < 1 := by decide

/-- the scan starts from a fresh `bestIndex = 0` every round: the previous selection has no influence on the next -/
theorem selection_ignores_previous (p : Policy) (timeout : Nat) (st : State) (x : Nat) :
    (finish p timeout { st with sel := x }).sel = (finish p timeout st).sel := rfl

/-- from ANY state (any previous selection): if after a round no client's figure beats the sentinel — no client
    has a success in the retained history / no client's mean (worst) latency is below the timeout — the group
    serves the FIRST client in configuration order. -/
theorem nobody_beats_sentinel_first_client (p : Policy) (timeout : Nat) (st : State)
    (h : ∀ ring ∈ st.rings, cmpTest (cmpOf p) (score p ring) (valOf (initBestOf p) timeout) = false) :
    (finish p timeout st).sel = 0 := by
  simp only [finish]
  apply bestIndex_sentinel
  intro x hx
  obtain ⟨ring, hr, rfl⟩ := List.mem_map.mp hx
  exact h ring hr

example : ∀ ring ∈ ({ rings := [[0, 0], [0, 0]], count := 5, sel := 1 } : State).rings,
    cmpTest (cmpOf .avail) (score .avail ring) (valOf (initBestOf .avail) 7) = false := by decide

/-- the all-fail history from a new group, of any length ≥ 1 (also beyond the 32/64 retained rounds), for every
    policy and group size: the first client is served. For a group that had been serving another client see
    `nobody_beats_sentinel_first_client` and `selection_ignores_previous`. -/
theorem all_fail_first_client (p : Policy) {n : Nat} (hn : 0 < n) (timeout : Nat) (hist : History n) (hne : hist ≠ [])
    (hfail : ∀ f ∈ hist, ∀ i : Fin n, f i = none) :
    (run p timeout (init p n) (hist.map List.ofFn)).sel = 0 := by
  have hcol : ∀ i j : Fin n, column hist i = column hist j := fun i j =>
    List.map_congr_left fun f hf => by rw [hfail f hf i, hfail f hf j]
  obtain ⟨h, _, h2⟩ := run_first_best p timeout hn hist hne fun _ f hf i d hd => by simp [hfail f hf i] at hd
  -- all clients have the same figure, and a figure does not beat itself: no earlier client than the selected one
  refine Nat.eq_zero_of_not_pos fun hpos => ?_
  have := h2 ⟨0, hn⟩ hpos
  rw [hcol ⟨0, hn⟩ ⟨_, h⟩, (strictOrd_cmpOf p).irrefl] at this
  exact Bool.false_ne_true this

example : ∃ hist : History 3, hist ≠ [] ∧ ∀ f ∈ hist, ∀ i : Fin 3, f i = none :=
  ⟨[fun _ => none, fun _ => none], by simp, by intro f hf i; simp at hf; rcases hf with rfl | rfl <;> rfl⟩

/-- the effective worker count is between 1 and the group size, whatever is configured (0 / negative = default) -/
theorem concurrency_at_least_one (cfg : Int) (n : Nat) (hn : 0 < n) :
    1 ≤ effConcurrency cfg n ∧ effConcurrency cfg n ≤ n :=
  by
  unfold effConcurrency
  have hd : 1 ≤ defaultProbeConcurrency := by decide
  split
  · omega
  · omega

example : effConcurrency 0 3 = 3 ∧ effConcurrency (-4) 40 = 32 ∧ effConcurrency 1 5 = 1 := by decide

/-- `probe_outcome_own_script`: with at least one worker — any number of workers, any instants at which they become
    free, i.e. whatever was queued before a probe and however long that took — what each client's job records is
    determined by that client's own behaviour relative to ITS OWN start: a usable answer less than `timeout` after
    the probe started is a success with exactly that latency (queueing time not included), anything else a failure.
    Rests on the regenerated facts that both `Run` bodies derive the deadline, and read the latency clock, on the
    worker after the job was received. -/
theorem probe_outcome_own_script (p : Policy) (timeout t0 : Nat) (scripts : List Script) (free : List Nat)
    (hfree : free ≠ []) :
    (dispatch p timeout t0 scripts free).map (·.outcome) = scripts.map (scriptOutcome timeout) :=
  dispatch_outcomes p timeout t0 scripts free hfree

example : ([0, 0] : List Nat) ≠ [] := by decide

/-- a whole round on the clock is the big-step round on the clients' own outcomes, for every worker count ≥ 1 and
    every round start; together with `round_any_job_order` / `any_job_order_whole_history`: for every completion order. -/
theorem timed_round_schedule_independent (p : Policy) (timeout c t0 : Nat) (hc : 1 ≤ c) (st : State) (scripts : List Script) :
    timedRound p timeout c t0 st scripts = round p timeout st (scripts.map (scriptOutcome timeout)) :=
  by
  unfold timedRound
  rw [dispatch_outcomes p timeout t0 scripts _
    (List.ne_nil_of_length_pos (by rw [List.length_replicate]; exact hc))]

example : (1 : Nat) ≤ 1 := by decide

/-- every job starts at or after the round start and ends within `timeout` of its own start -/
theorem probe_timing (timeout t0 : Nat) (scripts : List Script) (free : List Nat) (hfree : free ≠ [])
    (hge : ∀ f ∈ free, t0 ≤ f) :
    ∀ j ∈ dispatchWith .jobStart .jobStart timeout t0 scripts free,
      t0 ≤ j.start ∧ j.start ≤ j.finish ∧ j.finish ≤ j.start + timeout :=
  by
  induction scripts generalizing free with
  | nil => simp [dispatchWith]
  | cons s rest ih =>
    obtain ⟨m, r, hp⟩ := popMin_ne_none free hfree
    have hm := popMin_perm hp
    intro j hj
    simp only [dispatchWith, hp, List.mem_cons] at hj
    rcases hj with rfl | hj
    · exact ⟨hge m (hm.mem_iff.mpr List.mem_cons_self), Nat.le_add_right _ _, Nat.add_le_add_left (probeRun_fst_le timeout s) _⟩
    · -- the worker that took the job is free again when the job ends, which is no earlier than the round start
      refine ih _ (List.cons_ne_nil _ _) ?_ j hj
      intro f hf'
      rcases List.mem_cons.mp hf' with rfl | hf'
      · have := hge m (hm.mem_iff.mpr List.mem_cons_self); omega
      · exact hge f (hm.mem_iff.mpr (List.mem_cons_of_mem _ hf'))

example : ∀ f ∈ ([3, 3] : List Nat), 3 ≤ f := by decide

/-- queued probes start late (one worker, two clients, timeout 5: client 0 fails after 4, client 1 answers after 2):
    client 1 starts at 4, still succeeds with latency 2 — and would NOT if the deadline were counted from the round
    start (the model with `Base.roundStart`), which is why the theorems above need the regenerated bases. -/
theorem queued_probe_witness :
    (dispatchWith .jobStart .jobStart 5 0 [⟨some 4, false⟩, ⟨some 2, true⟩] [0]).map (fun j => (j.start, j.outcome))
      = [(0, none), (4, some 2)] ∧
    (dispatchWith .roundStart .jobStart 5 0 [⟨some 4, false⟩, ⟨some 2, true⟩] [0]).map (fun j => (j.start, j.outcome))
      = [(0, none), (4, none)] := by decide

/-- with the default timeout the `int64` sum of one latency ring cannot overflow -/
theorem default_sum_no_overflow : latencyProbeResultSize * defaultProbeTimeout < 2 ^ 63 := by decide

/-- the defaults are the documented ones (5 s, 30 s, 32) and a default round fits in the default interval -/
theorem defaults_as_documented :
    defaultProbeTimeout = 5 * 10 ^ 9 ∧ defaultProbeInterval = 30 * 10 ^ 9 ∧ defaultProbeConcurrency = 32 ∧
    defaultProbeTimeout < defaultProbeInterval := by decide

end SSV.C19

#print axioms SSV.C19.rr_cyclic
#print axioms SSV.C19.rr_counter_wrap
#print axioms SSV.C19.rr_wrap_witness
#print axioms SSV.C19.rr_concurrent_multiset
#print axioms SSV.C19.rr_concurrent_invariant
#print axioms SSV.C19.rr_member
#print axioms SSV.C19.random_member
#print axioms SSV.C19.random_total
#print axioms SSV.C19.retention_64_32
#print axioms SSV.C19.best_is_argmax_first_availability
#print axioms SSV.C19.best_is_argmax_first_latency
#print axioms SSV.C19.best_is_argmax_first_minmax
#print axioms SSV.C19.after_each_round
#print axioms SSV.C19.unchanged_during_round
#print axioms SSV.C19.round_any_job_order
#print axioms SSV.C19.any_job_order_whole_history
#print axioms SSV.C19.always_member
#print axioms SSV.C19.selection_ignores_previous
#print axioms SSV.C19.nobody_beats_sentinel_first_client
#print axioms SSV.C19.all_fail_first_client
#print axioms SSV.C19.concurrency_at_least_one
#print axioms SSV.C19.probe_outcome_own_script
#print axioms SSV.C19.timed_round_schedule_independent
#print axioms SSV.C19.probe_timing
#print axioms SSV.C19.queued_probe_witness
#print axioms SSV.C19.default_sum_no_overflow
#print axioms SSV.C19.defaults_as_documented
