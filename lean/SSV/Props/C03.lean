import SSV.Gen.C03
import SSV.Proofs.SaltPoolConc
import SSV.Proofs.SaltPoolLock
import SSV.Proofs.SaltPoolFast
/-
C03 — A TCP handshake is accepted at most once while its timestamp is acceptable.

Property theorems about the model `SSV.Model.SaltPool` instantiated with the constants regenerated from
/repo (`P`).

`gen_side_condition`, `(2·MaxEpochDiff + 1)·10⁹ ≤ ReplayWindowDuration`, is decided on the regenerated constants. It is
exactly what `no_double_accept` and `concurrent_one_winner` need, and `replay_possible` shows that it is necessary:
with any constants that violate it the witness history of finding F2 is accepted twice.

Histories are `run P st ops` (ops = `advance d | present r contended`) from an arbitrary state `st`; a fresh request
is a `present` of a request whose salt is not in the pool, a forged one a `present` of a request with `forged = true`.
The clock only moves forward (`d : Nat`). `ClockOk P t` (`t.Unix() + MaxEpochDiff < 2^63`) is assumed at the instants
at which a timestamp is compared; outside it the `int64` subtraction of the code wraps (engine `ts` runs the real
function there and reports the counts).
-/
namespace SSV.C03
open SSV.SaltPool

/-- the model's parameters: the constants of the current source -/
def P : Params := { maxEpochDiff := SSV.Gen.C03.MaxEpochDiff, window := SSV.Gen.C03.ReplayWindowDuration }

/-- `HandleStream` performs the property-relevant steps in the order the model runs them: `TryContains`
pre-check → prefix → identity header → AEAD open → one clock reading → header parse with that reading →
`Add` with the same reading → body. -/
theorem gen_handle_stages : SSV.Gen.C03.handleStages.map Stage.ofName = handleStages.map some := by decide

/-- the two guards of `HandleStream` on the salt pool, verbatim -/
theorem gen_salt_pool_guards : SSV.Gen.C03.saltPoolGuards =
    ["if s.saltPool.TryContains(extendedSalt) { err = ErrRepeatedSalt return }",
     "if !s.saltPool.Add(now, extendedSalt) { return req, ErrRepeatedSalt }"] := rfl

/-- The body of `SaltPool.Add` is `Lock; defer Unlock; prune; lookup→false; insert; return true`: it runs
entirely under the write lock (so it is one atomic action of the concurrent model) and computes `add`. -/
theorem gen_add_program :
    ∃ prog, SSV.Gen.C03.addProgram.map AddStep.ofName = prog.map some ∧ addBodyAtomic prog = true ∧
      ∀ (Q : Params) (now : Nat) (s : Salt) (p : Pool), execAdd Q now s prog p = some (add Q now s p) :=
  ⟨canonAdd, by decide, by decide, execAdd_canonAdd⟩

/-- **`Add` is atomic (linearizable).** Any number of callers run the body of `SaltPool.Add` *as the translator read
it* one statement at a time, in any interleaving (`sched` = which caller moves next; `Lock` blocks while `p.mu` is
held, `return` runs the deferred `Unlock`): the results returned are exactly those of running the atomic `add` on the
returned calls (`hist`, which `mret` extends by one entry per return) in the order of the returns, and whenever the mutex is free the pool is the pool of that sequential run. This is
what lets `concurrent_one_winner` treat `Add` as one atomic action. (Go's `sync.RWMutex` giving mutual exclusion is the
semantics of `lock` in `microStep`; trusted.) -/
theorem add_is_atomic (p₀ : Pool) (calls : List ACall) (sched : List Nat) :
    ∃ prog, SSV.Gen.C03.addProgram.map AddStep.ofName = prog.map some ∧
      let s := mrun P prog (minit p₀ calls) sched
      (seqAdds P p₀ (s.hist.map (·.1))).2 = s.hist.map (·.2) ∧
      (s.holder = none → s.pool = (seqAdds P p₀ (s.hist.map (·.1))).1) :=
  gen_add_program.elim fun prog ⟨hmap, hat, hex⟩ => ⟨prog, hmap, add_linearizable P prog hat (hex P) p₀ calls sched⟩

/-- the source text of `pruneExpired` that the model mirrors statement by statement (likewise, below, of `insert`,
`Contains`, `TryContains` and `ValidateUnixEpochTimestamp`) -/
theorem gen_src_pruneExpired : SSV.Gen.C03.srcPruneExpired =
    "{ node := p.head if node == nil || node.expiresAt.After(now) { return } for { delete(p.nodeBySalt, node.salt) node = node.next if node == nil { p.head = nil p.tail = nil return } if node.expiresAt.After(now) { p.head = node return } } }" := rfl
theorem gen_src_insert : SSV.Gen.C03.srcInsert =
    "{ if p.nodeBySalt == nil { p.nodeBySalt = make(map[[32]byte]*saltNode) } node := &saltNode{ salt: salt, expiresAt: now.Add(ReplayWindowDuration), } p.nodeBySalt[salt] = node if p.tail != nil { p.tail.next = node } else { p.head = node } p.tail = node }" := rfl
theorem gen_src_contains : SSV.Gen.C03.srcContains =
    "{ p.mu.RLock() _, ok := p.nodeBySalt[salt] p.mu.RUnlock() return ok }" := rfl
theorem gen_src_tryContains : SSV.Gen.C03.srcTryContains =
    "{ if p.mu.TryRLock() { _, ok := p.nodeBySalt[salt] p.mu.RUnlock() return ok } return false }" := rfl
theorem gen_src_validateTimestamp : SSV.Gen.C03.srcValidateTimestamp =
    "{ tsEpoch := int64(binary.BigEndian.Uint64(b)) nowEpoch := now.Unix() diff := tsEpoch - nowEpoch if diff < -MaxEpochDiff || diff > MaxEpochDiff { return &HeaderError[int64]{ErrBadTimestamp, nowEpoch, tsEpoch} } return nil }" := rfl

/-- the deferred fallback decision of `HandleStream`, verbatim: fall back iff `err != nil && n > 0 && fallback
configured` — this is `outcome` -/
theorem gen_src_handle_defer : SSV.Gen.C03.srcHandleDefer =
    "defer func() { if err != nil { if n > 0 && s.unsafeFallbackAddr.IsValid() { logger.Warn(\"Initiating fallback for unauthenticated connection\", zap.Error(err)) req = netio.ConnRequest{ PendingConn: netio.NopPendingConn(rawRW), Addr: s.unsafeFallbackAddr, Payload: readBuf[:n], } err = nil return } if tc, ok := rawRW.(*net.TCPConn); ok { s.rejectPolicy(tc, logger) } } }()" := rfl

/-- `n` is assigned exactly twice: by the first read, and `n = 0` (stage `commit`, right after `Add` succeeded —
see `gen_handle_stages` for its position) -/
theorem gen_handle_assigns_n : SSV.Gen.C03.handleAssignsN =
    ["n, err = s.readOnceOrFull(rawRW, readBuf)", "n = 0"] := rfl

/-- **UDP side of the same constant.** `NewUDPServer` advertises `ReplayWindowDuration` as the minimum NAT timeout
(a UDP session must outlive the validity span of the packets that created it, or an evicted session can be re-created
by a replay): written as that constant, and evaluating to the value the TCP side uses. -/
theorem gen_udp_min_nat_timeout :
    SSV.Gen.C03.udpMinNATTimeoutExpr = "ReplayWindowDuration" ∧ SSV.Gen.C03.udpMinNATTimeout = P.window :=
  ⟨rfl, rfl⟩

/-- … and the side condition holds for it as well: a change of the advertised minimum (or of the constant) that lets
UDP sessions be evicted inside the 61 s validity span re-opens this obligation. -/
theorem gen_udp_side_condition : (2 * P.maxEpochDiff + 1) * nsPerSec ≤ SSV.Gen.C03.udpMinNATTimeout := by decide

/-- the "30 seconds" of the statement -/
theorem gen_max_epoch_diff : P.maxEpochDiff = 30 := by decide

/-- **Side condition.** A timestamp validates during `2·MaxEpochDiff + 1` whole seconds of server time (both
comparisons are on `⌊now⌋`); salts must be retained at least that long. `pruneExpired` drops a node as soon as
`expiresAt ≤ now`, `expiresAt = t₁ + ReplayWindowDuration`, and two valid instants satisfy
`t₂ - t₁ ≤ (2·MaxEpochDiff + 1)·10⁹ - 1`, so the exact requirement is `≤` as stated (see `replay_possible`). -/
theorem gen_side_condition : (2 * P.maxEpochDiff + 1) * nsPerSec ≤ P.window := by decide

/-- `ValidateUnixEpochTimestamp` — `int64` cast of the header word, wrapping subtraction, two signed comparisons —
accepts exactly the words whose signed value is within `MaxEpochDiff` of `now.Unix()`, for every 64-bit word `ts` and
every `int64` clock value at least `MaxEpochDiff` away from the ends of `int64`. -/
theorem ts_valid_word_iff (ts ne : BitVec 64)
    (hlo : -(2 ^ 63 : Int) + P.maxEpochDiff ≤ ne.toInt) (hhi : ne.toInt + P.maxEpochDiff < 2 ^ 63) :
    tsValidWord P ts ne = true ↔ (ts.toInt - ne.toInt ≤ P.maxEpochDiff ∧ ne.toInt - ts.toInt ≤ P.maxEpochDiff) :=
  tsValidWord_iff P ts ne hlo hhi

/-- … and for *every* pair of 64-bit words, without any assumption on the clock: the accepted words are exactly
`ne + d` in wrapping `int64` arithmetic with `|d| ≤ MaxEpochDiff` (near the ends of `int64` this differs from the
integer distance, which is why the other statements carry `ClockOk`). -/
theorem ts_valid_word_wrap (ts ne : BitVec 64) :
    tsValidWord P ts ne = true ↔
      ∃ d : Int, -(P.maxEpochDiff : Int) ≤ d ∧ d ≤ P.maxEpochDiff ∧ ts = ne + BitVec.ofInt 64 d :=
  tsValidWord_iff_wrap P (by decide) ts ne

/-- the same for a clock reading `now ≥ 0` in nanoseconds: `|ts − ⌊now / 10⁹⌋| ≤ MaxEpochDiff` -/
theorem ts_valid_iff (ts : BitVec 64) (now : Nat) (h : ClockOk P now) :
    tsValid P ts now = true ↔
      (ts.toInt - (unixSec now : Int) ≤ P.maxEpochDiff ∧ (unixSec now : Int) - ts.toInt ≤ P.maxEpochDiff) :=
  tsValid_iff P ts now h

/-- **At most once.** Whatever happened before (`st`, `ops₁`), if request `r` is accepted at `t₁` and bytes with
the same salt and timestamp are presented at any later instant `t₂` of any continuation `ops₂` (other requests,
forged traffic, clock advances, any `TryContains` outcomes) at which the timestamp still validates, they are
not accepted. -/
theorem no_double_accept (st : State) (ops₁ ops₂ : List Op) (r r₂ : Request) (c₁ c₂ : Bool)
    (hsame : r₂.salt = r.salt ∧ r₂.ts = r.ts) :
    let s₁ := run P st ops₁
    (handle P c₁ s₁.now r s₁.pool).2 = .accepted →
    let s₂ := run P (step P s₁ (.present r c₁)).1 ops₂
    ClockOk P s₁.now → ClockOk P s₂.now →
    tsValid P r₂.ts s₂.now = true →
    (handle P c₂ s₂.now r₂ s₂.pool).2 ≠ .accepted := by
  intro s₁ hacc s₂ hc1 hc2 hv2
  obtain ⟨n, hmem, hs, hlt⟩ := accepted_stays_live gen_side_condition ops₂ hacc hc1 hc2 (hsame.2 ▸ hv2)
  exact handle_not_accepted_of_live hmem (hs.trans hsame.1.symm) hlt

/-- **Only within 30 s.** An accepted request carries a timestamp within `MaxEpochDiff` (= 30, `gen_max_epoch_diff`)
seconds of the server clock and authenticates. -/
theorem only_within_30s (c : Bool) (now : Nat) (r : Request) (pool : Pool) (hc : ClockOk P now)
    (h : (handle P c now r pool).2 = .accepted) :
    -30 ≤ r.ts.toInt - (unixSec now : Int) ∧ r.ts.toInt - (unixSec now : Int) ≤ 30 ∧ r.forged = false := by
  obtain ⟨hf, hv, _⟩ := handle_accepted h
  have := (ts_valid_iff r.ts now hc).mp hv
  have hM := gen_max_epoch_diff
  exact ⟨by omega, by omega, hf⟩

/-- **Failed attempts leave nothing behind.** A presentation that does not authenticate (truncated, wrong prefix,
unknown user, AEAD failure), or that authenticates but has the wrong type or an invalid timestamp, or that is
refused by the `TryContains` pre-check, leaves the pool exactly as it was and is not accepted. -/
theorem failed_is_noop (c : Bool) (now : Nat) (r : Request) (pool : Pool)
    (h : r.forged = true ∨ tryContains c pool r.salt = true ∨ r.typeOk = false ∨ tsValid P r.ts now = false) :
    (handle P c now r pool).1 = pool ∧ (handle P c now r pool).2 ≠ .accepted := by
  rcases handle_cases P c now r pool with ⟨hp, hna, _⟩ | ⟨h1, h2, h3, h4, _⟩
  · exact ⟨hp, hna⟩
  · simp [h1, h2, h3, h4] at h

/-- **Unauthenticated presentations never change later verdicts**: deleting every forged presentation from a
history changes neither the final state nor the (time, request, verdict) log of the remaining presentations. -/
theorem forged_invisible (st : State) (ops : List Op) :
    run P st (ops.filter (fun o => !o.isForged)) = run P st ops ∧
    runLog P st (ops.filter (fun o => !o.isForged)) = (runLog P st ops).filter (fun e => !e.req.forged) := by
  induction ops generalizing st with
  | nil => exact ⟨rfl, rfl⟩
  | cons o ops ih =>
    cases o with
    | advance d =>
      simp only [List.filter_cons, isForged_advance, Bool.not_false, if_true, run, runLog, step]
      exact ih _
    | present r c =>
      cases hf : r.forged
      · simp only [List.filter_cons, isForged_present, hf, Bool.not_false, if_true, run, runLog, step]
        exact ⟨(ih _).1, by rw [(ih _).2]⟩
      · have hs := step_forged (P := P) (st := st) (c := c) hf
        simp only [step] at hs
        simp only [List.filter_cons, isForged_present, hf, Bool.not_true, Bool.false_eq_true, if_false, run, runLog,
          step, hs]
        exact ih _

/-- **A genuine request whose salt is not in the pool is accepted** whenever its timestamp validates — whatever
happened before, in particular whatever forged bytes carrying the same salt were presented. -/
theorem fresh_never_refused (c : Bool) (now : Nat) (salt : Salt) (ts : BitVec 64) (pool : Pool)
    (hfresh : contains pool salt = false) (hv : tsValid P ts now = true) :
    (handle P c now (genuine salt ts) pool).2 = .accepted := by
  rw [handle_good_fresh (genuine_good salt ts) hfresh hv]

/-! ## Servers with a fallback address (`UnsafeFallbackAddr`)

`handleStream P fb gotBytes …` = `handle` followed by the deferred decision (`gen_src_handle_defer`): an error becomes a
fallback request iff `fb` (a fallback address is configured) and `gotBytes` (`n > 0`), except after `commit`.
The pool evolves exactly as without a fallback (`handleStream_fst`), so every history theorem above applies verbatim.
-/

/-- a genuine client request is returned iff the accept logic accepted — the fallback never turns anything into an
acceptance, and never hides one -/
theorem fallback_accepts_same (fb g c : Bool) (now : Nat) (r : Request) (pool : Pool) :
    (handleStream P fb g c now r pool).2 = .accepted ↔ (handle P c now r pool).2 = .accepted := by
  rw [handleStream_snd]; exact outcome_accepted_iff fb g _

/-- **No double accept through the fallback path**, for every server configuration `fb` and every `n`: the statement of
`no_double_accept` for the outcome of `HandleStream` including its deferred function. -/
theorem no_double_accept_fallback (fb g₁ g₂ : Bool) (st : State) (ops₁ ops₂ : List Op) (r r₂ : Request) (c₁ c₂ : Bool)
    (hsame : r₂.salt = r.salt ∧ r₂.ts = r.ts) :
    let s₁ := run P st ops₁
    (handleStream P fb g₁ c₁ s₁.now r s₁.pool).2 = .accepted →
    let s₂ := run P (step P s₁ (.present r c₁)).1 ops₂
    ClockOk P s₁.now → ClockOk P s₂.now →
    tsValid P r₂.ts s₂.now = true →
    (handleStream P fb g₂ c₂ s₂.now r₂ s₂.pool).2 ≠ .accepted := by
  intro s₁ hacc s₂ hc1 hc2 hv2 h
  exact no_double_accept st ops₁ ops₂ r r₂ c₁ c₂ hsame ((fallback_accepts_same ..).mp hacc) hc1 hc2 hv2
    ((fallback_accepts_same ..).mp h)

/-- **A replayed genuine request on a fallback server is handed to the fallback**, as a repeated salt, whichever of
the two salt checks catches it (`TryContains` or, under contention, `Add`), and it adds nothing to the pool. -/
theorem replay_goes_to_fallback (st : State) (ops₁ ops₂ : List Op) (r : Request) (c₁ c₂ : Bool) (hg : Good r) :
    let s₁ := run P st ops₁
    (handleStream P true true c₁ s₁.now r s₁.pool).2 = .accepted →
    let s₂ := run P (step P s₁ (.present r c₁)).1 ops₂
    ClockOk P s₁.now → ClockOk P s₂.now →
    tsValid P r.ts s₂.now = true →
    (handleStream P true true c₂ s₂.now r s₂.pool).2 = .fallback .repeatedSalt ∧
    ((handleStream P true true c₂ s₂.now r s₂.pool).1 = s₂.pool ∨
     (handleStream P true true c₂ s₂.now r s₂.pool).1 = pruneExpired s₂.now s₂.pool) := by
  intro s₁ hacc s₂ hc1 hc2 hv2
  obtain ⟨n, hmem, hs, hlt⟩ :=
    accepted_stays_live gen_side_condition ops₂ ((fallback_accepts_same ..).mp hacc) hc1 hc2 hv2
  obtain ⟨hrep, hp⟩ := handle_repeated_of_live (P := P) (c := c₂) hg hv2 hmem hs hlt
  exact ⟨by rw [handleStream_snd, hrep]; rfl, hp⟩

/-- **`failed_is_noop` for the fallback outcome.** Whatever is handed to the fallback left no node behind: the pool is
exactly as before, or — only when the refusal came from `Add` (a replay whose `TryContains` pre-check was skipped) —
it was pruned of expired nodes and nothing else. Unauthenticated bytes in particular (`r.forged`) change nothing. -/
theorem failed_is_noop_fallback (g c : Bool) (now : Nat) (r : Request) (pool : Pool) (v : Verdict)
    (h : (handleStream P true g c now r pool).2 = .fallback v) :
    ((handleStream P true g c now r pool).1 = pool ∨
      ((handleStream P true g c now r pool).1 = pruneExpired now pool ∧ v = .repeatedSalt)) ∧
    (∀ n ∈ (handleStream P true g c now r pool).1, n ∈ pool) ∧
    (r.forged = true → (handleStream P true g c now r pool).1 = pool) := by
  rw [handleStream_snd] at h
  obtain ⟨hvw, _, _, hna, hnl⟩ := outcome_fallback h
  rw [handleStream_fst]
  have hcases := handle_refused_pool hna hnl
  refine ⟨?_, ?_, fun hf => (failed_is_noop c now r pool (Or.inl hf)).1⟩
  · rcases hcases with hp | ⟨hp, hr⟩
    · exact Or.inl hp
    · exact Or.inr ⟨hp, by rw [← hvw, hr]⟩
  · intro n hn
    rcases hcases with hp | ⟨hp, _⟩
    · rw [hp] at hn; exact hn
    · rw [hp] at hn; exact mem_of_mem_prune hn

/-- without a fallback address, or when the first read delivered nothing, every refusal is an error -/
theorem no_fallback_without_config (fb g c : Bool) (now : Nat) (r : Request) (pool : Pool) (v : Verdict)
    (h : (handleStream P fb g c now r pool).2 = .fallback v) : fb = true ∧ g = true := by
  rw [handleStream_snd] at h
  obtain ⟨_, hfb, hg, _⟩ := outcome_fallback h
  exact ⟨hfb, hg⟩

/-- **Expiry order = insertion order.** From a well-formed state (e.g. the empty pool) every history on the
monotone clock keeps the list sorted by expiry, every expiry at most one window ahead, and salts distinct; hence
pruning the expired *prefix* removes every expired node. -/
theorem pool_sorted (st : State) (ops : List Op) (h : WF P st) :
    WF P (run P st ops) ∧ ∀ now, ∀ n ∈ pruneExpired now (run P st ops).pool, now < n.expiresAt :=
  have hwf := run_inv (fun _ o => wf_step o) ops h
  ⟨hwf, fun _ => prune_complete hwf.sorted⟩

/-- **Only expiry removes a salt.** Whatever traffic follows — any number of other accepted requests, forged bytes,
clock advances — a node that is in the pool stays there until the clock reaches its expiry. (This is what any capacity
bound or eviction policy other than expiry would break; `Add`'s step program `gen_add_program` pins that its body
removes nothing except through `pruneExpired`.) -/
theorem retained_until_expiry (st : State) (ops : List Op) (n : Node) (h : n ∈ st.pool)
    (hl : (run P st ops).now < n.expiresAt) : n ∈ (run P st ops).pool :=
  mem_run_of_live ops h hl

/-- `N` distinct fresh genuine requests presented at one instant -/
def flood (N : Nat) : List Op := (List.range N).map (fun i => Op.present (genuine i 0#64) false)

/-- **The pool is unbounded, by design.** `N` distinct genuine requests accepted within one validity span leave `N`
nodes in the pool, for every `N`: memory grows with the handshake rate × `ReplayWindowDuration`; the property
("whatever other traffic arrives in between") leaves no room for a size cap that forgets unexpired salts. -/
theorem pool_unbounded (N : Nat) : (run P { now := 0, pool := [] } (flood N)).pool.length = N := by
  -- the pool after the flood, exactly: one node per request, all expiring one window after instant 0
  suffices h : ∀ N, run P { now := 0, pool := [] } (flood N) =
      { now := 0, pool := (List.range N).map fun i => { salt := i, expiresAt := P.window } } by
    rw [h N]; simp
  intro N
  induction N with
  | zero => rfl
  | succ k ih =>
    have hfl : flood (k + 1) = flood k ++ [Op.present (genuine k 0#64) false] := by
      simp [flood, List.range_succ]
    have hW : 0 < P.window := by decide
    have hh := handle_good_fresh (P := P) (c := false) (now := 0)
      (pool := (List.range k).map fun i => { salt := i, expiresAt := P.window }) (genuine_good k 0#64)
      (by simpa [contains, genuine] using fun x hx => Nat.ne_of_lt hx) (show tsValid P 0#64 0 = true by decide)
    rw [pruneExpired_eq_self (List.forall_mem_map.mpr fun _ _ => hW), Nat.zero_add] at hh
    rw [hfl, run_append, ih]
    simp only [run, step, hh, List.range_succ, List.map_append, List.map_cons, List.map_nil]
    rfl

/-- **Salts in the pool stay distinct** under `Add` with any instants (also the non-monotone ones of concurrent
callers) and under any presentation — the code's map `nodeBySalt` and its linked list never disagree. -/
theorem salts_stay_distinct (now : Nat) (s : Salt) (c : Bool) (r : Request) (p : Pool) (h : SaltsNodup p) :
    SaltsNodup (add P now s p).1 ∧ SaltsNodup (handle P c now r p).1 := by
  refine ⟨nodup_add P now s p h, ?_⟩
  rcases handle_pool P c now r p with hp | ⟨_, hp⟩ <;> rw [hp]
  · exact h
  · exact nodup_add P now r.salt p h

/-- **The fast executable pool computes the list model.** The driver runs long floods (2^16-class and larger) on a
front/back list + hash set representation (the shape of the Go code: linked list + map); for every pool with distinct
salts and every batch of `Add` calls it yields exactly the list model's final pool and number of `true` answers. -/
theorem fast_pool_refines (p : Pool) (cs : List ACall) (hnd : SaltsNodup p) :
    (fcountAdds P (FPool.ofPool p) cs).1.toPool = (countAdds P p cs).1 ∧
    (fcountAdds P (FPool.ofPool p) cs).2 = (countAdds P p cs).2 := by
  obtain ⟨htp, hinv⟩ := ofPool_inv p hnd
  have := foldl_addStep_refines P cs (FPool.ofPool p) 0 hinv
  rw [htp] at this
  exact ⟨this.1, this.2.1⟩

/-- **One winner.** `k` threads run `HandleStream` on the same bytes `r` against one pool `p₀`; `sched` is any
interleaving of their atomic actions (`check i c`: the `TryContains` read, possibly skipped; `add i now`: clock
reading, parse, `Add`, body — `Add` is atomic by `add_is_atomic`), each thread reading its own clock, in any order.
(1) Never are two copies accepted. (2) If `r` is genuine, its salt is not in `p₀`, every clock reading validates the
timestamp and every thread finished, then exactly one copy is accepted and every other one gets `ErrRepeatedSalt`. -/
theorem concurrent_one_winner (r : Request) (p₀ : Pool) (k : Nat) (sched : List Act)
    (hclk : ∀ a ∈ sched, ∀ i now, a = .add i now → ClockOk P now) :
    let fin := crun P r { pool := p₀, threads := List.replicate k .idle } sched
    countAccepted fin.threads ≤ 1 ∧
    (Good r → contains p₀ r.salt = false → 0 < k →
      (∀ a ∈ sched, ∀ i now, a = .add i now → tsValid P r.ts now = true) → allDone fin.threads = true →
      countAccepted fin.threads = 1 ∧ ∀ t ∈ fin.threads, t = .done .accepted ∨ t = .done .repeatedSalt) :=
  one_winner gen_side_condition r p₀ k sched hclk

/-- **The side condition is necessary** (finding F2). For *any* constants with
`ReplayWindowDuration < (2·MaxEpochDiff + 1)·10⁹` the following history double-accepts, starting from the empty
pool at instant 0: a client whose clock is `MaxEpochDiff` seconds ahead sends `r` (timestamp `MaxEpochDiff`), accepted
at `t₁ = 0`; the clock advances by `ReplayWindowDuration`; any fresh request `r'` is accepted (its `Add` prunes the
salt of `r`, whose expiry `t₁ + ReplayWindowDuration ≤ now`); `r` is presented again: `TryContains` finds nothing,
the timestamp still validates (`⌊now⌋ ≤ 2·MaxEpochDiff` seconds), `Add` inserts — accepted a second time.
With the constants before the fix (30 s, 60 s) this is `replay_possible_before_fix`. -/
theorem replay_possible (Q : Params) (hbad : Q.window < (2 * Q.maxEpochDiff + 1) * nsPerSec)
    (hM : 3 * Q.maxEpochDiff < 2 ^ 63) :
    ∃ (r : Request) (ops₁ ops₂ : List Op),
      let s₁ := run Q { now := 0, pool := [] } ops₁
      (handle Q false s₁.now r s₁.pool).2 = .accepted ∧
      let s₂ := run Q (step Q s₁ (.present r false)).1 ops₂
      ClockOk Q s₁.now ∧ ClockOk Q s₂.now ∧ tsValid Q r.ts s₂.now = true ∧
      (handle Q false s₂.now r s₂.pool).2 = .accepted := by
  let r := genuine 1 (BitVec.ofNat 64 Q.maxEpochDiff)
  let r' := genuine 2 (BitVec.ofNat 64 (unixSec Q.window))
  have hW : unixSec Q.window ≤ 2 * Q.maxEpochDiff := by
    simp only [unixSec, nsPerSec] at *; omega
  have hu0 : unixSec 0 = 0 := rfl
  have hc0 : ClockOk Q 0 := by show unixSec 0 + _ < _; omega
  have hcW : ClockOk Q Q.window := by show unixSec Q.window + _ < _; omega
  have hv0 : tsValid Q r.ts 0 = true := tsValid_ofNat Q hc0 (by omega) (by omega)
  have hvW : tsValid Q r.ts Q.window = true := tsValid_ofNat Q hcW (by omega) (by omega)
  have hvW' : tsValid Q r'.ts Q.window = true := tsValid_ofNat Q hcW (by omega) (by omega)
  -- the pool after `r` at instant 0, and after `r'` at instant `window`, whose `Add` prunes the node of `r`
  have h1 : handle Q false 0 r [] = ([{ salt := 1, expiresAt := Q.window }], .accepted) := by
    rw [handle_good_fresh (genuine_good 1 _) rfl hv0]
    simp [pruneExpired, genuine]
  have h2 : handle Q false Q.window r' [{ salt := 1, expiresAt := Q.window }] =
      ([{ salt := 2, expiresAt := Q.window + Q.window }], .accepted) := by
    rw [handle_good_fresh (genuine_good 2 _) (by simp [contains, genuine]) hvW']
    simp [pruneExpired, genuine]
  refine ⟨r, [], [.advance Q.window, .present r' false], ?_⟩
  simp only [run, step, h1, h2, Nat.zero_add]
  refine ⟨trivial, hc0, hcW, hvW, ?_⟩
  rw [handle_good_fresh (genuine_good 1 _) (by simp [contains, genuine]) hvW]

/-- finding F2 on the constants of /repo before the fix (`MaxEpochDiff = 30`, `ReplayWindowDuration = 60 s`) -/
theorem replay_possible_before_fix :
    ∃ (r : Request) (ops₁ ops₂ : List Op),
      let Q : Params := { maxEpochDiff := 30, window := 60000000000 }
      let s₁ := run Q { now := 0, pool := [] } ops₁
      (handle Q false s₁.now r s₁.pool).2 = .accepted ∧
      let s₂ := run Q (step Q s₁ (.present r false)).1 ops₂
      ClockOk Q s₁.now ∧ ClockOk Q s₂.now ∧ tsValid Q r.ts s₂.now = true ∧
      (handle Q false s₂.now r s₂.pool).2 = .accepted :=
  replay_possible { maxEpochDiff := 30, window := 60000000000 } (by decide) (by decide)

/-! The hypotheses are satisfiable (non-vacuity). -/

/-- 2000-01-01T00:00:00.5Z, the instant used below -/
def t₀ : Nat := 946684800500000000

example : ClockOk P t₀ := by decide
/-- `no_double_accept`: a request with client clock +30 s accepted at `t₀`, still valid 60.1 s later -/
example : (handle P false t₀ (genuine 1 946684830#64) []).2 = .accepted ∧ ClockOk P (t₀ + 60100000000) ∧
    tsValid P 946684830#64 (t₀ + 60100000000) = true := by decide
/-- `only_within_30s` / `fresh_never_refused` -/
example : (handle P true t₀ (genuine 7 946684770#64) [{ salt := 3, expiresAt := t₀ + 5 }]).2 = .accepted := by decide
/-- `failed_is_noop`: a copy whose AEAD check fails is forged -/
example : ({ genuine 3 946684800#64 with authOk := false } : Request).forged = true := by decide
/-- `ts_valid_word_iff` / `ts_valid_word_wrap`: both outcomes occur: +30 s accepted, +31 s and +2^63 s refused -/
example : tsValidWord P 946684830#64 946684800#64 = true ∧ tsValidWord P 946684831#64 946684800#64 = false ∧
    tsValidWord P (946684800#64 + 0x8000000000000000#64) 946684800#64 = false := by decide
/-- `add_is_atomic`: two callers with the same salt, interleaved statement by statement (the second blocks on `Lock`) -/
example :
    let s := mrun P canonAdd (minit [] [{ now := 5, salt := 1 }, { now := 7, salt := 1 }]) [0, 1, 0, 1, 0, 0, 1, 0, 0, 1, 1, 1, 1, 1]
    s.hist = [({ now := 5, salt := 1 }, true), ({ now := 7, salt := 1 }, false)] ∧ s.holder = none := by decide
/-- `retained_until_expiry`: hypotheses satisfiable after a flood of 3 other requests -/
example : ({ salt := 0, expiresAt := P.window } : Node) ∈ (run P { now := 0, pool := [] } (flood 1)).pool ∧
    (run P (run P { now := 0, pool := [] } (flood 1)) (flood 4)).now < P.window := by decide
/-- `replay_goes_to_fallback` / `failed_is_noop_fallback`: on a fallback server the first presentation is accepted, the
replay (pre-check contended) goes to the fallback, a forged copy goes to the fallback, an empty read is an error -/
example :
    let r := genuine 1 946684830#64
    let p₁ := (handleStream P true true false t₀ r []).1
    (handleStream P true true false t₀ r []).2 = .accepted ∧
    (handleStream P true true true (t₀ + 60100000000) r p₁).2 = .fallback .repeatedSalt ∧
    (handleStream P true true false t₀ { r with authOk := false } p₁).2 = .fallback .repeatedSalt ∧
    (handleStream P true true false t₀ { r with salt := 2, authOk := false } p₁).2 = .fallback .authFail ∧
    (handleStream P true false false t₀ { r with complete := false } p₁).2 = .error .shortRead := by decide
/-- `fast_pool_refines` / `salts_stay_distinct`: the empty pool has distinct salts -/
example : SaltsNodup ([] : Pool) := by simp [SaltsNodup]
/-- `pool_sorted`: the empty pool is well-formed -/
example : WF P { now := t₀, pool := [] } := wf_empty P t₀
/-- `concurrent_one_winner`: two threads, the second one's `TryContains` contended, clocks out of order -/
example :
    let fin := crun P (genuine 1 946684830#64) { pool := [], threads := List.replicate 2 .idle }
      [.check 0 false, .check 1 true, .add 1 (t₀ + 7), .add 0 t₀]
    allDone fin.threads = true ∧ fin.threads = [.done .repeatedSalt, .done .accepted] := by decide

end SSV.C03

#print axioms SSV.C03.gen_handle_stages
#print axioms SSV.C03.gen_salt_pool_guards
#print axioms SSV.C03.gen_add_program
#print axioms SSV.C03.add_is_atomic
#print axioms SSV.C03.gen_src_pruneExpired
#print axioms SSV.C03.gen_src_insert
#print axioms SSV.C03.gen_src_contains
#print axioms SSV.C03.gen_src_tryContains
#print axioms SSV.C03.gen_src_validateTimestamp
#print axioms SSV.C03.gen_src_handle_defer
#print axioms SSV.C03.gen_handle_assigns_n
#print axioms SSV.C03.gen_udp_min_nat_timeout
#print axioms SSV.C03.gen_udp_side_condition
#print axioms SSV.C03.gen_max_epoch_diff
#print axioms SSV.C03.gen_side_condition
#print axioms SSV.C03.ts_valid_word_iff
#print axioms SSV.C03.ts_valid_word_wrap
#print axioms SSV.C03.ts_valid_iff
#print axioms SSV.C03.no_double_accept
#print axioms SSV.C03.only_within_30s
#print axioms SSV.C03.failed_is_noop
#print axioms SSV.C03.forged_invisible
#print axioms SSV.C03.fresh_never_refused
#print axioms SSV.C03.fallback_accepts_same
#print axioms SSV.C03.no_double_accept_fallback
#print axioms SSV.C03.replay_goes_to_fallback
#print axioms SSV.C03.failed_is_noop_fallback
#print axioms SSV.C03.no_fallback_without_config
#print axioms SSV.C03.pool_sorted
#print axioms SSV.C03.retained_until_expiry
#print axioms SSV.C03.pool_unbounded
#print axioms SSV.C03.salts_stay_distinct
#print axioms SSV.C03.fast_pool_refines
#print axioms SSV.C03.concurrent_one_winner
#print axioms SSV.C03.replay_possible
#print axioms SSV.C03.replay_possible_before_fix
