import SSV.Model.RelayLifeCfg
import SSV.Proofs.RelayLifeThms
import SSV.Proofs.RelayLifeEvict
/-
C12 — UDP sessions end cleanly: idle eviction, restart after eviction, prompt shutdown (PARTIAL: all
interleavings of the MODEL; the real scheduler/timers are sampled by corr_c12).

The model (SSV/Model/RelayLife.lean) is instantiated with the configurations that the step programs regenerated
from service/udp_nat.go, udp_nat_mmsg.go, udp_session.go, udp_session_mmsg.go denote (`cfgOf`).  A program shape
the model does not mirror, or a missing re-check in an uplink, makes this file fail to elaborate.

The shutdown part is proved for all runs of the model (`all_threads_exit`: deadlock freedom after Stop without timer or
environment, a ranking function decreasing on every relay step, every maximal run ends with Stop returned within the bound);
eviction is proved for all runs as monotone, always-enabled, strictly decreasing tear-down (`eviction_restarts`), with the
scheduler's weak fairness as the only assumption for "it completes".
-/
namespace SSV.C12
open SSV.RelayLife SSV.Gen

/-- configurations denoted by the regenerated step programs (elaboration fails on an unrecognised shape) -/
def cfgNatGeneric : Cfg := (cfgOf progsNatGeneric C12.defaultSendChannelCapacity).get (by decide)
def cfgNatMmsg : Cfg := (cfgOf progsNatMmsg C12.defaultSendChannelCapacity).get (by decide)
def cfgSessionGeneric : Cfg := (cfgOf progsSessionGeneric C12.defaultSendChannelCapacity).get (by decide)
def cfgSessionMmsg : Cfg := (cfgOf progsSessionMmsg C12.defaultSendChannelCapacity).get (by decide)

/-- the four relay files, with any send-channel capacity -/
def fileCfg (c : Cfg) : Prop :=
  ∃ cap, c = { cfgNatGeneric with cap := cap } ∨ c = { cfgNatMmsg with cap := cap } ∨
         c = { cfgSessionGeneric with cap := cap } ∨ c = { cfgSessionMmsg with cap := cap }

/-- What `cfgOf` reads off the regenerated programs: the four files denote the same configuration (re-check present,
deadline armed by the initialiser, NAT socket closed on every early return and after the uplink).  The facts about the
files and the witness runs below evaluate the model on this value instead of interpreting the programs again. -/
theorem cfg_values :
    cfgNatGeneric = ⟨true, true, true, true, true, true, C12.defaultSendChannelCapacity⟩ ∧
    cfgNatMmsg = ⟨true, true, true, true, true, true, C12.defaultSendChannelCapacity⟩ ∧
    cfgSessionGeneric = ⟨true, true, true, true, true, true, C12.defaultSendChannelCapacity⟩ ∧
    cfgSessionMmsg = ⟨true, true, true, true, true, true, C12.defaultSendChannelCapacity⟩ := by decide +kernel

/-- Gen side condition: every uplink re-checks the shutdown state after re-arming the deadline (finding F9) -/
theorem uplinks_recheck : cfgNatGeneric.recheck = true ∧ cfgNatMmsg.recheck = true ∧
    cfgSessionGeneric.recheck = true ∧ cfgSessionMmsg.recheck = true := by
  simp only [cfg_values, and_self]

theorem fileCfg_values {c : Cfg} (h : fileCfg c) : ∃ cap, c = ⟨true, true, true, true, true, true, cap⟩ := by
  obtain ⟨cap, h⟩ := h
  simp only [cfg_values, or_self] at h
  exact ⟨cap, h⟩

theorem fileCfg_recheck {c : Cfg} (h : fileCfg c) : c.recheck = true := by
  obtain ⟨cap, rfl⟩ := fileCfg_values h; rfl

/-- In no interleaving does the receive loop send on a closed channel, and no channel is closed twice
(both would panic): the model's `panic` flag is never set; and whenever the receive loop holds the mutex
and has found an entry, that entry's channel is open. -/
theorem no_send_on_closed {c : Cfg} (_ : fileCfg c) {s : State} (h : Reachable c s) :
    s.panic = false ∧ ∀ k i, s.rpc = .hold k → s.table k = some i → (s.ent i).chClosed = false :=
  ⟨no_panic c h, fun _ _ hr ht => (inv1_reachable h).target_open hr ht⟩

/-- The channel is closed exactly once, by the session's own clean-up, under the mutex and together with the table
delete: closed <-> the clean-up is past its `close`; closed-and-still-in-the-table only inside that critical section;
the delete removes the session's own entry; afterwards the table no longer leads to it. -/
theorem close_once {c : Cfg} (_ : fileCfg c) {s : State} (h : Reachable c s) {i : Nat} (hi : i < s.n) :
    ((s.ent i).chClosed = true ↔ (s.ent i).ipc.closed = true) ∧
    ((s.ent i).chClosed = true → s.table (s.ent i).key = some i → s.mu = .cleanup i) ∧
    ((s.ent i).ipc = .cDelete → s.table (s.ent i).key = some i) ∧
    ((s.ent i).ipc.deleted = true → s.table (s.ent i).key ≠ some i) :=
  ⟨(inv1_reachable h).closed i hi, (inv1_reachable h).closed_in_table hi, delete_removes_self c h hi, deleted_not_in_table c h hi⟩

/-- After Stop's pass over the table no downlink sleeps on a FUTURE read deadline, except while its uplink is
between the re-arm and the re-force of that deadline (the uplink is running and its next steps force the deadline
into the past): Stop's latency is bounded by in-flight work, not by the NAT timeout. -/
theorem stop_needs_no_timer {c : Cfg} (hc : fileCfg c) {s : State} (h : Reachable c s) (hs : s.spc.afterIter = true)
    {i : Nat} (hi : i < s.n) (hp : (s.ent i).ipc = .dRead) (hd : (s.ent i).dl = .future) :
    (s.ent i).upc = .check ∨ (s.ent i).upc = .force :=
  future_deadline_only_rechecking c (fileCfg_recheck hc) h hs hi hp hd

/-- Gen side condition: every early return of the initialiser that owns the NAT socket closes it, and the uplink
goroutine closes it after the relay function returns. -/
theorem sockets_closed_in_source :
    (cfgNatGeneric.closesAll && cfgNatGeneric.uplinkCloses && cfgNatMmsg.closesAll && cfgNatMmsg.uplinkCloses &&
     cfgSessionGeneric.closesAll && cfgSessionGeneric.uplinkCloses && cfgSessionMmsg.closesAll && cfgSessionMmsg.uplinkCloses) = true := by
  simp only [cfg_values]
  rfl

theorem fileCfg_closes {c : Cfg} (h : fileCfg c) : c.closesAll = true ∧ c.uplinkCloses = true := by
  obtain ⟨cap, rfl⟩ := fileCfg_values h; exact ⟨rfl, rfl⟩

/-- The socket is released: when every goroutine of a session has returned (eviction, failed initialisation, or Stop),
its NAT socket is closed; and while the downlink loop runs the socket is open (nobody closes it under the reader). -/
theorem no_socket_leak {c : Cfg} (hc : fileCfg c) {s : State} (h : Reachable c s) {i : Nat} (hi : i < s.n) :
    ((s.ent i).finished = true → (s.ent i).sock = false) ∧
    (((s.ent i).ipc = .dRead ∨ (s.ent i).ipc = .dProc) → (s.ent i).sock = true) :=
  ⟨socket_released c (fileCfg_closes hc).1 (fileCfg_closes hc).2 h hi, downlink_socket_open c h hi⟩

/-- Gen side condition: the initialiser of every relay file arms the read deadline of the NAT socket
(`SetReadDeadline(now+natTimeout)`) before the session goroutines start. -/
theorem inits_arm_deadline : (cfgNatGeneric.initArms && cfgNatMmsg.initArms && cfgSessionGeneric.initArms && cfgSessionMmsg.initArms) = true := by
  simp only [cfg_values]
  rfl

theorem fileCfg_initArms {c : Cfg} (h : fileCfg c) : c.initArms = true := by
  obtain ⟨cap, rfl⟩ := fileCfg_values h; rfl

/-- Eviction does not depend on a successful send: in every interleaving — including uplinks all of whose packets fail to
pack (`uFail`: dropped without re-arming) — a downlink blocked in its read has a read deadline, so either the NAT timer
can still fire or the read fails at once.  A session can therefore not sit in the table for ever. -/
theorem downlink_always_has_deadline {c : Cfg} (hc : fileCfg c) {s : State} (h : Reachable c s) {i : Nat} (hi : i < s.n)
    (hp : (s.ent i).ipc = .dRead) :
    (s.ent i).dl ≠ .unset ∧ ((step c s (.timer i)).isSome = true ∨ (step c s (.dTimeout i)).isSome = true) :=
  ⟨downlink_has_deadline c (fileCfg_initArms hc) h hi hp, downlink_can_time_out c (fileCfg_initArms hc) h hi hp⟩

/-! Why the initial deadline is needed: without it a session whose only packet cannot be packed is established, its
uplink drops the packet without arming anything, and the downlink sleeps with NO deadline: neither the timer nor the read
can ever end the session (it stays in the table until Stop). -/

def cfgNoInitArm : Cfg := { cfgNatGeneric with initArms := false }

def unpackableTrace : List Ev :=
  [.arrive 0, .rLock, .rProc true, .rUnlock,
   .init 0 true, .init 0 true, .init 0 true, .init 0 true, .init 0 true, .init 0 true, .init 0 true,
   .uRecv 0 1, .uFail 0]

theorem never_evicted_without_init_deadline :
    ((run cfgNoInitArm State.init unpackableTrace).map fun s =>
      ((s.ent 0).ipc == .dRead && (s.ent 0).dl == .unset && (s.ent 0).upc == .recv && (s.ent 0).q == 0 && s.table 0 == some 0 &&
       !(step cfgNoInitArm s (.timer 0)).isSome && !(step cfgNoInitArm s (.dTimeout 0)).isSome && !(step cfgNoInitArm s (.uStep 0)).isSome &&
       !(step cfgNoInitArm s (.uRecv 0 1)).isSome && !(step cfgNoInitArm s (.cleanup 0)).isSome)) = some true := by
  rw [cfgNoInitArm, cfg_values.1]; decide

/-- with the initial deadline the same session (nothing ever sent) is evicted by the timer and fully torn down -/
theorem eviction_of_unpackable_session :
    ((run cfgNatGeneric State.init (unpackableTrace ++
        [.timer 0, .dTimeout 0, .cleanup 0, .cleanup 0, .cleanup 0, .cleanup 0, .uStep 0, .uStep 0])).map fun s =>
      ((s.table 0).isNone && (s.ent 0).finished && !(s.ent 0).sock && s.mu == .free && !s.panic)) = some true := by
  rw [cfg_values.1]; decide

/-- Shutdown, for ALL runs of the model ("stop returns promptly, bounded by in-flight work, not by the NAT timeout").
In every reachable state of every file's model:
(a) deadlock freedom after Stop was called: unless Stop has returned, some goroutine of the relay can make a step —
    `Ev.internal`: no NAT timer, no client datagram, no datagram from the target (sessions in initialisation, downlinks,
    uplinks, clean-ups, the receive loop and Stop itself are all covered);
(b) ranking: every step of a goroutine of the relay strictly decreases `measure` (program positions + 7 x queued packets),
    so a run of such steps is no longer than `measure s`: a bound in terms of in-flight work in which the NAT timeout does
    not occur;
(c) hence every run of relay steps after Stop that cannot be continued has Stop returned within `measure s` steps, and
    such a run exists;
(d) Stop passes `mwg.Wait` only after the receive loop returned, and once `wg.Wait` has returned every session goroutine
    has returned.
Assumption of the model: a blocking initialiser call returns (step `init`), i.e. in-flight work is finite. -/
theorem all_threads_exit {c : Cfg} (hc : fileCfg c) {s : State} (h : Reachable c s) :
    (s.spc ≠ .idle → s.spc ≠ .done → ∃ e, e.internal = true ∧ (step c s e).isSome = true) ∧
    (∀ e s', e.internal = true → step c s e = some s' → measure s' < measure s) ∧
    (∀ es s', (∀ e ∈ es, e.internal = true) → run c s es = some s' → es.length + measure s' ≤ measure s) ∧
    (s.spc ≠ .idle → ∀ es s', (∀ e ∈ es, e.internal = true) → run c s es = some s' →
        (∀ e, e.internal = true → step c s' e = none) → s'.spc = .done ∧ es.length ≤ measure s) ∧
    (s.spc ≠ .idle → ∃ es s', (∀ e ∈ es, e.internal = true) ∧ es.length ≤ measure s ∧ run c s es = some s' ∧ s'.spc = .done) ∧
    (s.spc.afterMwg = true → s.rpc = .done) ∧
    (s.spc.afterWg = true → ∀ i, i < s.n → (s.ent i).finished = true) :=
  ⟨stop_progress c (fileCfg_recheck hc) (fileCfg_initArms hc) h,
   fun e _ he hs => measure_decreases c h e he hs,
   fun es _ hint hr => internal_run_bounded c h es hint hr,
   fun h1 es _ hint hr hmax => maximal_run_returns c (fileCfg_recheck hc) (fileCfg_initArms hc) h h1 es hint hr hmax,
   fun h1 => stop_completes c (fileCfg_recheck hc) (fileCfg_initArms hc) h h1,
   (inv_reachable h).recvDone, fun hs i hi => (inv_reachable h).allFinished hs i hi⟩

/-- Eviction and restart, for ALL runs of the model.  For every reachable state and every session `i`:
(1) when the timer has fired on the blocked downlink (deadline `past`), the read fails and the tear-down begins;
(2) a tear-down that has begun only moves forward under EVERY event (relay, environment, timer, Stop);
(3) I_i can always make its next tear-down step, except while it waits for the mutex, and then the holder can make a step;
    every such step moves I_i strictly forward (at most 6 steps);
(4) once I_i has returned, U_i can always make a step, each of its steps strictly decreases `q*7+rank`, and no other event
    increases it (the receive loop cannot reach the entry any more);
(5) when both have returned, the entry is not reachable through the table and the NAT socket is closed;
(6) a later datagram of the same client finds no entry, creates a fresh one (open channel holding the datagram, nil state),
    every initialiser call of it returns, and unless Stop is visiting the entry its swap succeeds: a working session.
FAIRNESS ASSUMPTION under which (1)-(5) give "the session is evicted": I_i, U_i and the current mutex holder are scheduled
again and again (weak fairness).  The witness run `eviction_restarts_witness` shows the whole cycle. -/
theorem eviction_restarts {c : Cfg} (hc : fileCfg c) {s : State} (h : Reachable c s) {i : Nat} (hi : i < s.n) :
    ((s.ent i).ipc = .dRead → (s.ent i).dl = .past → ∃ s', step c s (.dTimeout i) = some s' ∧ (s'.ent i).ipc = .cLock) ∧
    ((s.ent i).tearingDown → ∀ e s', step c s e = some s' → (s'.ent i).ipc.rank ≤ (s.ent i).ipc.rank) ∧
    ((s.ent i).tearingDown → (s.ent i).ipc ≠ .done →
        (step c s (.cleanup i)).isSome = true ∨
        ((s.ent i).ipc = .cLock ∧ s.mu ≠ .free ∧ ∃ e, e.internal = true ∧ (step c s e).isSome = true)) ∧
    (∀ s', step c s (.cleanup i) = some s' → (s'.ent i).ipc.rank < (s.ent i).ipc.rank) ∧
    ((s.ent i).ipc = .done → (s.ent i).finished = false →
        (step c s (.uRecv i 1)).isSome = true ∨ (step c s (.uStep i)).isSome = true) ∧
    ((s.ent i).ipc = .done → ∀ e s', step c s e = some s' → (s'.ent i).uplinkWork ≤ (s.ent i).uplinkWork) ∧
    (∀ e s', (e = .uStep i ∨ e = .uFail i ∨ ∃ k, e = .uRecv i k) → step c s e = some s' →
        (s'.ent i).uplinkWork < (s.ent i).uplinkWork) ∧
    ((s.ent i).finished = true → s.table (s.ent i).key ≠ some i ∧ (s.ent i).sock = false) ∧
    (∀ k s', s.rpc = .hold k → s.table k = none → step c s (.rProc true) = some s' →
        s'.table k = some s.n ∧ s'.n = s.n + 1 ∧ s'.ent s.n = Entry.fresh k) ∧
    (9 ≤ (s.ent i).ipc.rank → ∀ ok, (step c s (.init i ok)).isSome = true) ∧
    ((s.ent i).ipc = .swap → (s.ent i).visited = false → s.spc ≠ .pend i → ∀ ok s', step c s (.init i ok) = some s' →
        (s'.ent i).ipc = .spawn ∧ (s'.ent i).clean = true ∧ (s'.ent i).st = .nat) :=
  ⟨fun hp hd => evict_starts c hi hp hd,
   fun ht e _ hs => teardown_monotone c e hs hi ht,
   fun ht hnd => teardown_can_move c h hi ht hnd,
   fun _ hs => cleanup_strict c hs,
   fun hp hnf => uplink_can_move c h hi hp hnf,
   fun hp e _ hs => uplink_work_monotone c h e hs hi hp,
   fun e _ he hs => uplink_step_strict c e he hs,
   fun hf => ⟨deleted_not_in_table c h hi (by rw [(Entry.finished_iff.mp hf).1]; rfl),
      socket_released c (fileCfg_closes hc).1 (fileCfg_closes hc).2 h hi hf⟩,
   fun _ _ hr ht hs => missing_key_creates_fresh c hr ht hs,
   fun hp ok => init_always_returns c hi hp ok,
   fun hp hv hnp ok _ hs => swap_succeeds_unless_stopping c h hi hp hv hnp ok hs⟩

/-! Why the re-check is needed (finding F9): the same model without it reaches a state in which Stop waits in
`wg.Wait`, the downlink sleeps on a future deadline, the uplink is blocked on its empty open channel, and no goroutine
of the relay can move: only the NAT timer ends the wait. -/

def cfgNoRecheck : Cfg := { cfgNatGeneric with recheck := false }

def f9Trace : List Ev :=
  [.arrive 0, .rLock, .rProc true, .rUnlock,
   .init 0 true, .init 0 true, .init 0 true, .init 0 true, .init 0 true, .init 0 true, .init 0 true,
   .uRecv 0 1,                       -- the uplink has taken the packet and is sending it
   .stopCall, .stop, .rExit, .stop, .stop, .stopVisit 0, .stop, .stop, .stop,   -- Stop: swap, deadline := past, unlock, wg.Wait
   .uStep 0, .uStep 0]               -- the uplink finishes the send and re-arms the deadline

theorem stop_timer_witness_without_recheck :
    ∃ s, Reachable cfgNoRecheck s ∧ stuckOnTimer s ∧ ∀ e, e.internal = true → step cfgNoRecheck s e = none := by
  obtain ⟨s, hr, hp⟩ := reachable_of_run cfgNoRecheck (es := f9Trace) (p := fun s => decide (stuckOnTimer s))
    (by rw [cfgNoRecheck, cfg_values.1]; decide)
  have hshape := of_decide_eq_true hp
  exact ⟨s, hr, hshape, fun e he => stuck_no_internal_move cfgNoRecheck hshape e he⟩

/-- With the re-check the same schedule goes on: the uplink sees `serverConn` and forces the deadline back. -/
theorem f9_schedule_with_recheck :
    ((run cfgNatGeneric State.init (f9Trace ++ [.uStep 0, .uStep 0, .dTimeout 0])).map fun s =>
      ((s.ent 0).dl, (s.ent 0).ipc)) = some (.past, .cLock) := by rw [cfg_values.1]; decide

/-! Eviction and restart.  `eviction_restarts` above is the statement for all runs; the witness below runs the whole cycle
on the model: idle session, timer, downlink exit, clean-up, uplink exit with the socket closed, then a datagram of the same
client creates a new entry which becomes a working session. -/

def establish (i : Nat) : List Ev :=
  [.arrive 0, .rLock, .rProc true, .rUnlock,
   .init i true, .init i true, .init i true, .init i true, .init i true, .init i true, .init i true,
   .uRecv i 1, .uStep i, .uStep i, .uStep i]

def evictTrace : List Ev :=
  establish 0 ++ [.timer 0, .dTimeout 0, .cleanup 0, .cleanup 0, .cleanup 0, .cleanup 0, .uStep 0, .uStep 0]

/-- a fresh entry for an unknown key, in every reachable state of every file's model -/
theorem eviction_restarts_fresh_entry {c : Cfg} (_ : fileCfg c) {s s' : State} {k : Nat} (hr : s.rpc = .hold k)
    (ht : s.table k = none) (hs : step c s (.rProc true) = some s') :
    s'.table k = some s.n ∧ s'.n = s.n + 1 ∧ s'.ent s.n = Entry.fresh k :=
  missing_key_creates_fresh c hr ht hs

theorem eviction_restarts_witness :
    -- after the timer fired on the idle session: entry 0 is gone from the table, all its goroutines returned, socket closed
    ((run cfgNatGeneric State.init evictTrace).map fun s =>
      ((s.table 0).isNone, (s.ent 0).finished, (s.ent 0).sock, s.mu == .free, s.panic)) = some (true, true, false, true, false) ∧
    -- a later datagram of the same client starts a new working session (entry 1): established, deadline armed, queue drained
    ((run cfgNatGeneric State.init (evictTrace ++ establish 1)).map fun s =>
      (s.table 0 == some 1 && (s.ent 1).ipc == .dRead && (s.ent 1).upc == .recv && (s.ent 1).dl == .future &&
       (s.ent 1).q == 0 && (s.ent 1).sock && !s.panic)) = some true := by
  rw [cfg_values.1]; constructor <;> decide

-- the hypotheses of the theorems are satisfiable: reachable states with Stop past its pass and a session in its downlink loop
example : ∃ s, Reachable cfgNatGeneric s ∧ s.spc.afterIter = true ∧ 0 < s.n ∧ (s.ent 0).ipc = .dRead ∧ (s.ent 0).dl = .future := by
  obtain ⟨s, hr, hp⟩ := reachable_of_run cfgNatGeneric (es := f9Trace) (p := fun s =>
      decide (s.spc.afterIter = true ∧ 0 < s.n ∧ (s.ent 0).ipc = .dRead ∧ (s.ent 0).dl = .future)) (by rw [cfg_values.1]; decide)
  exact ⟨s, hr, of_decide_eq_true hp⟩
-- a session whose tear-down has begun is reachable (hypothesis of `eviction_restarts` (2),(3))
example : ∃ s, Reachable cfgNatGeneric s ∧ 0 < s.n ∧ (s.ent 0).tearingDown ∧ (s.ent 0).ipc ≠ .done := by
  obtain ⟨s, hr, hp⟩ := reachable_of_run cfgNatGeneric (es := establish 0 ++ [.timer 0, .dTimeout 0])
    (p := fun s => decide (0 < s.n ∧ (s.ent 0).ipc = .cLock)) (by rw [cfg_values.1]; decide)
  have := of_decide_eq_true hp
  exact ⟨s, hr, this.1, by simp [Entry.tearingDown, this.2, IPc.rank], by simp [this.2]⟩
example : fileCfg cfgNatGeneric := ⟨C12.defaultSendChannelCapacity, Or.inl (by rw [cfg_values.1])⟩
example : ∃ s, Reachable cfgNatGeneric s ∧ (∃ k, s.rpc = .hold k) := by
  obtain ⟨s, hr, hp⟩ := reachable_of_run cfgNatGeneric (es := [.arrive 0, .rLock]) (p := fun s => decide (s.rpc = .hold 0))
    (by rw [cfg_values.1]; decide)
  exact ⟨s, hr, 0, of_decide_eq_true hp⟩

end SSV.C12

#print axioms SSV.C12.cfg_values
#print axioms SSV.C12.fileCfg_values
#print axioms SSV.C12.uplinks_recheck
#print axioms SSV.C12.fileCfg_recheck
#print axioms SSV.C12.no_send_on_closed
#print axioms SSV.C12.close_once
#print axioms SSV.C12.stop_needs_no_timer
#print axioms SSV.C12.sockets_closed_in_source
#print axioms SSV.C12.fileCfg_closes
#print axioms SSV.C12.no_socket_leak
#print axioms SSV.C12.inits_arm_deadline
#print axioms SSV.C12.fileCfg_initArms
#print axioms SSV.C12.downlink_always_has_deadline
#print axioms SSV.C12.never_evicted_without_init_deadline
#print axioms SSV.C12.eviction_of_unpackable_session
#print axioms SSV.C12.all_threads_exit
#print axioms SSV.C12.stop_timer_witness_without_recheck
#print axioms SSV.C12.f9_schedule_with_recheck
#print axioms SSV.C12.eviction_restarts_fresh_entry
#print axioms SSV.C12.eviction_restarts
#print axioms SSV.C12.eviction_restarts_witness
