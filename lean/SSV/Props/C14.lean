import SSV.Proofs.StatsSeq
import SSV.Proofs.StatsLock
import SSV.Proofs.StatsRefine
/-
C14 — Traffic statistics neither lose nor invent traffic and charge the right user.

Setting (SSV.Model.Stats; `Op`, `initCfg` stand in SSV.Proofs.StatsConc): a configuration is the shared collector state
plus a pool of threads, one per call of the `stats.Collector` interface (`Op`): Collect* calls execute the regenerated programs
`Gen.collectTCPSession` …, Snapshot / SnapshotAndReset execute `Gen.snapshot` / `Gen.snapshotAndReset` on
the anonymous collector and then, under the read lock, on every user collector. `Step` lets any thread
execute its next atomic operation; `Reach (initCfg ops) cfg` therefore ranges over every interleaving of
every pool `ops` (any number of calls, users, snapshots), including unfinished ones.
Counters are `uint64`: all sums are stated modulo `M = 2^64`, together with `≤`, which makes them exact
whenever the recorded total itself fits in 64 bits.
-/
namespace SSV.C14
open SSV.Stats SSV.Gen.C14

/-- The regenerated programs have the shape the invariants need: Collect* bodies are atomic adds only,
`snapshotAndReset` is one `Swap(0)` per counter stored under the counter's own name, `snapshot` only loads,
`Traffic.Add` adds field by field, Snapshot/SnapshotAndReset have the aggregation shape of `parseAgg`. -/
theorem gen_ok : GenOK ∧ parseAgg SnapshotAndReset = some ⟨.snapshotAndReset, .snapshotAndReset⟩ ∧
    parseAgg Snapshot = some ⟨.snapshot, .snapshot⟩ ∧
    -- serverCollector.userCollector: look-up under the read lock; if absent: write lock, look-up AGAIN,
    -- create and store only if still absent, unlock. This is what makes "create if absent" one atomic
    -- step (`CStage.create`) that never replaces an existing collector.
    userCollector = [.rlock, .lookup, .runlock, .skipIfSet 6, .lock, .lookup, .skipIfSet 2, .create, .store, .unlock, .ret] :=
  ⟨genOK, by decide, by decide, by decide⟩

/-- One Collect* call is worth exactly what the `stats.Collector` documentation says, counter by counter:
the sum of the arguments of its atomic adds on counter `f` is `specDelta` (no crossed up/down fields or
arguments anywhere between the public method and the atomic add). -/
theorem collect_effect (c : Call) (x0 x1 : Nat) (f : Field) :
    pendPc f (collectPc c x0 x1) = specDelta c x0 x1 f :=
  collect_adds_spec c x0 x1 f

/-- **Conservation under every interleaving.** At every point of every interleaving of any pool of calls,
for every collector `t` (anonymous or a user) and every counter `f`:
  (values handed out so far by resetting snapshots) + (current value of the counter) + (adds of started or
  not yet started Collect* calls still to be applied)  =  everything the pool records for `(t, f)`
modulo 2^64, and exactly when that total is below 2^64. Nothing is dropped, nothing is counted twice,
whatever the schedule; in particular a `Swap(0)` racing with an `Add` loses nothing. -/
theorem conservation (ops : List Op) (cfg : Config) (hr : Reach (initCfg ops) cfg) (t : Target) (f : Field) :
    (sumOver (Thread.got t f) cfg.threads + (cfg.sh.ctr t).get f + sumOver (Thread.pend t f) cfg.threads) % M
        = recorded t f ops % M ∧
    sumOver (Thread.got t f) cfg.threads + (cfg.sh.ctr t).get f + sumOver (Thread.pend t f) cfg.threads
        ≤ recorded t f ops ∧
    (recorded t f ops < M →
      sumOver (Thread.got t f) cfg.threads + (cfg.sh.ctr t).get f + sumOver (Thread.pend t f) cfg.threads
        = recorded t f ops) := by
  have h := (reach_ok hr (initCfg_WF ops)).2 t f
  rw [mass_init] at h
  exact ⟨h.1, h.2, h.eq_of_lt⟩

example : Reach (initCfg [.collect .tcp "alice" 10 20, .snapshot true]) (initCfg [.collect .tcp "alice" 10 20, .snapshot true]) :=
  Reach.refl _

/-- **Conservation at quiescence.** When every call of the pool has returned — after ANY interleaving —
the figures returned by all SnapshotAndReset calls for `(t, f)`, summed, plus the value still in the counter
(which is what a final Snapshot reads, see `final_snapshot_reads_counters`) equal everything recorded for
`(t, f)`: per user, for the anonymous user, and hence for the totals. -/
theorem conservation_quiescent (ops : List Op) (cfg : Config) (hr : Reach (initCfg ops) cfg)
    (hfin : ∀ th ∈ cfg.threads, th.finished) (t : Target) (f : Field) :
    (sumOver (returnedByReset t f) cfg.threads + (cfg.sh.ctr t).get f) % M = recorded t f ops % M ∧
    (recorded t f ops < M → sumOver (returnedByReset t f) cfg.threads + (cfg.sh.ctr t).get f = recorded t f ops) := by
  have hs := sum_finished cfg.threads (reach_ok hr (initCfg_WF ops)).1 hfin t f
  have hc := conservation ops cfg hr t f
  rw [hs.1, hs.2, Nat.add_zero] at hc
  exact ⟨hc.1, hc.2.2⟩

example : ∀ th ∈ (initCfg []).threads, th.finished := by simp [initCfg]

/-- **Server totals = anonymous + Σ users, in every snapshot, under concurrency.** In every reachable
configuration, every Snapshot / SnapshotAndReset thread that has left its first phase has
`s.Traffic = Σ (Traffic values it obtained: the anonymous collector's, then one per listed user)` modulo 2^64
(and exactly, when the sum fits). This is a statement about the values the snapshot READ: under concurrency
they are not one consistent cut of the counters (each was read at its own instant); at quiescence they are the
counters themselves (`final_snapshot_reads_counters`). -/
theorem total_is_sum (ops : List Op) (cfg : Config) (hr : Reach (initCfg ops) cfg) (s : SnapTh)
    (hs : Thread.snap s ∈ cfg.threads) (hph : s.phase ≠ .anon) (f : Field) :
    s.total.get f % M = sumAll f s.done % M ∧ s.total.get f ≤ sumAll f s.done ∧
    (sumAll f s.done < M → s.total.get f = sumAll f s.done) := by
  have h := ((reach_ok hr (initCfg_WF ops)).1 _ hs).total f
  exact ⟨h.1, h.2, h.eq_of_lt⟩

/-- **Attribution.** In every reachable configuration, an atomic step of a Collect* thread for username `u`
changes no collector other than `serverCollector.trafficCollector(u)`; the empty username selects the
anonymous collector, every other name the collector of exactly that name. (How much it adds to its own
collector is `collect_effect`; that it ends up in that user's snapshot figures is `conservation`, which is
stated per collector.) -/
theorem attribution (ops : List Op) (cfg : Config) (hr : Reach (initCfg ops) cfg) (c c' : CollectTh)
    (hc : Thread.collect c ∈ cfg.threads) (sh' : Shared) (hstep : c.step cfg.sh = some (sh', c')) :
    (∀ t, t ≠ target c.u → sh'.ctr t = cfg.sh.ctr t) ∧
    target "" = .anon ∧ (∀ u : String, u ≠ "" → target u = .user u) := by
  have hwf := (reach_ok hr (initCfg_WF ops)).1 _ hc
  exact ⟨fun t ht => (collect_step_ok hstep hwf).2.1 t (hwf.2 ▸ ht), if_pos rfl, fun u hu => if_neg hu⟩

/-- **Lazy creation of user collectors (lock level).** Any number of threads call
`serverCollector.userCollector(u)` concurrently for the same `u`, executing the regenerated program
`Gen.userCollector` statement by statement under reader/writer-lock semantics (SSV.Model.StatsLock), the map
holding a collector for `u` already or not. In every reachable configuration: every caller that has returned
holds the collector that is in the map (so all callers add to the SAME counters and every later snapshot
iterates over exactly that collector); a collector that is in the map is never replaced. This is what
justifies the atomic "create if absent" step of the counter-level model (`CStage.create`), and what fails if
the re-check under the write lock is removed. -/
theorem userCollector_creates_once (entry : Option Nat) (n : Nat) (cfg : StatsLock.LConfig)
    (hr : StatsLock.LReach userCollector (StatsLock.linit entry n) cfg) :
    (∀ th ∈ cfg.threads, StatsLock.returned userCollector th → th.uc = cfg.sh.entry ∧ cfg.sh.entry.isSome) ∧
    (∀ r, entry = some r → cfg.sh.entry = some r) ∧
    (∀ cfg', StatsLock.LStepRel userCollector cfg cfg' → ∀ r, cfg.sh.entry = some r → cfg'.sh.entry = some r) := by
  have hi := StatsLock.reach_inv hr (StatsLock.linit_inv entry n)
  refine ⟨?_, ?_, ?_⟩
  · intro th hth hret
    have ht := hi.t th hth
    exact ht.at10 (StatsLock.returned_pc hret)
  · intro r he
    exact StatsLock.reach_entry hr (StatsLock.linit_inv entry n) r (by simp [StatsLock.linit, he])
  · intro cfg' hs r he
    exact StatsLock.entry_stable hs hi r he

example : StatsLock.LReach userCollector (StatsLock.linit none 3) (StatsLock.linit none 3) := StatsLock.LReach.refl _

/-- **Refinement of the lock level by the counter level.** In every configuration reachable in the lock-level
model (any number of callers of `userCollector(u)`, snapshots taking and releasing the read lock as
environment), each statement a caller executes is either invisible through the abstraction
(`absShared`: "the user collector exists" = "the map has an entry", `readers` = snapshots holding the read
lock; `absStage`: program point ↦ `lookup | create | run`) or is EXACTLY the step the counter-level model's
`CollectTh.step` takes from the corresponding stage — including its enabling condition (`create` only while no
snapshot holds the read lock). The environment steps are the counter level's `readers ± 1` (`StatsLock.refines_env`).
A caller starts in the stage a fresh Collect* thread for a named user starts in.
Hence every lock-level run of the collector selection projects onto a run of the stage machine used by
`conservation` / `attribution`. -/
theorem userCollector_refines (u : String) (v : Visit) (entry : Option Nat) (n : Nat)
    (pre post : List StatsLock.LThread) (th th' : StatsLock.LThread) (sh sh' : StatsLock.LShared)
    (hr : StatsLock.LReach userCollector (StatsLock.linit entry n) ⟨sh, pre ++ th :: post⟩)
    (h : StatsLock.lstep userCollector sh th = some (sh', th')) :
    ((StatsLock.absShared u sh' = StatsLock.absShared u sh ∧ StatsLock.absStage th' = StatsLock.absStage th) ∨
      CollectTh.step (StatsLock.absShared u sh) (StatsLock.absThread u v th)
        = some (StatsLock.absShared u sh', StatsLock.absThread u v th')) ∧
    StatsLock.absStage { pc := 0, uc := none } = CStage.lookup ∧
    (u ≠ "" → ∀ c x0 x1, (mkCollect c u x0 x1).stage = CStage.lookup) := by
  refine ⟨StatsLock.refines u v pre post th th' sh sh' h (StatsLock.reach_inv hr (StatsLock.linit_inv entry n))
    (StatsLock.reach_rinv hr (StatsLock.linit_rinv entry n)), by simp [StatsLock.absStage], ?_⟩
  intro hu c x0 x1
  simp [mkCollect, anonymousUsername, hu]

example : StatsLock.LReach userCollector (StatsLock.linit none 2)
    ⟨(StatsLock.linit none 2).sh, [] ++ { pc := 0, uc := none } :: [{ pc := 0, uc := none }]⟩ := StatsLock.LReach.refl _

/-- **A Snapshot at quiescence reads the counters.** Started on shared state `sh` with no other thread
running, a Snapshot — whatever order `range sc.ucs` yields — leaves every counter unchanged and, once finished,
has obtained for the anonymous collector and for EVERY existing user collector exactly the current counter
values. Together with `conservation_quiescent`: Σ (figures returned by all SnapshotAndReset calls) + (figures of
a final Snapshot) = everything recorded, per user, for the anonymous user, and (by `total_is_sum`) for the
server totals. -/
theorem final_snapshot_reads_counters (sh : Shared) (cfg : Config)
    (hr : Reach ⟨sh, [.snap (mkSnap false)]⟩ cfg) (s : SnapTh) (hth : cfg.threads = [.snap s])
    (hfin : s.phase = .finished) :
    cfg.sh.ctr = sh.ctr ∧
    (∀ e ∈ s.done, ∀ f, e.2.get f = (sh.ctr e.1).get f) ∧
    Target.anon ∈ s.done.map Prod.fst ∧ (∀ u ∈ sh.names, Target.user u ∈ s.done.map Prod.fst) := by
  obtain ⟨s', hth', hl⟩ := lone_reach sh hr
  cases hth.symm.trans hth'
  have hc := hl.cover
  rw [hfin] at hc
  exact ⟨hl.ctr, hl.done, (hc _ List.mem_cons_self).resolve_right List.not_mem_nil,
    fun u hu => (hc _ (List.mem_cons_of_mem _ (List.mem_map_of_mem hu))).resolve_right List.not_mem_nil⟩

/-- the hypotheses are satisfiable: the driver's sequential run is such a run and it finishes -/
example : ∃ cfg s, Reach ⟨Shared.init, [.snap (mkSnap false)]⟩ cfg ∧ cfg.threads = [.snap s] ∧ s.phase = .finished :=
  ⟨_, _, runSnap_reach 12 Shared.init (mkSnap false), rfl, by decide⟩

/-- The sequential execution used by the driver (and compared with the real collector by corr_c14) is a run of
the interleaving semantics the theorems above quantify over. -/
theorem driver_run_is_interleaving (n : Nat) (sh : Shared) :
    (∀ reset : Bool, Reach ⟨sh, [.snap (mkSnap reset)]⟩
        ⟨(runSnap n sh (mkSnap reset)).1, [.snap (runSnap n sh (mkSnap reset)).2]⟩) ∧
    (∀ (c : Call) (u : String) (x0 x1 : Nat), Reach ⟨sh, [.collect (mkCollect c u x0 x1)]⟩
        ⟨(runCollect n sh (mkCollect c u x0 x1)).1, [.collect (runCollect n sh (mkCollect c u x0 x1)).2]⟩) :=
  ⟨fun reset => runSnap_reach n sh (mkSnap reset), fun c u x0 x1 => runCollect_reach n sh (mkCollect c u x0 x1)⟩

/-- **The driver's Snapshot always completes, and at quiescence it is exact.** The fuel `doSnapshot` gives a
lone Snapshot / SnapshotAndReset thread suffices for every shared state (any number of user collectors): the
run ends in phase `finished`; and the plain Snapshot leaves the counters unchanged and returns, for the
anonymous collector and every existing user, exactly the counters. So `final_snapshot_reads_counters` applies
to the very function the correspondence engine compares with the real collector. -/
theorem doSnapshot_exact (sh : Shared) :
    (∀ reset : Bool, (runSnap (snapFuel sh) sh (mkSnap reset)).2.phase = .finished) ∧
    (runSnap (snapFuel sh) sh (mkSnap false)).1.ctr = sh.ctr ∧
    (∀ e ∈ (runSnap (snapFuel sh) sh (mkSnap false)).2.done, ∀ f, e.2.get f = (sh.ctr e.1).get f) ∧
    Target.anon ∈ (runSnap (snapFuel sh) sh (mkSnap false)).2.done.map Prod.fst ∧
    (∀ u ∈ sh.names, Target.user u ∈ (runSnap (snapFuel sh) sh (mkSnap false)).2.done.map Prod.fst) := by
  have hfin : ∀ reset : Bool, (runSnap (snapFuel sh) sh (mkSnap reset)).2.phase = .finished :=
    fun reset => runSnap_finishes _ sh _ (fuel_suffices sh reset)
  have h := final_snapshot_reads_counters sh ⟨_, [.snap _]⟩ (runSnap_reach (snapFuel sh) sh (mkSnap false)) _ rfl (hfin false)
  exact ⟨hfin, h.1, h.2.1, h.2.2.1, h.2.2.2⟩

/-- JSON member names of the six figures, as the SSM API documents them -/
def specJSONName : Field → String
  | .downlinkPackets => "downlinkPackets"
  | .downlinkBytes => "downlinkBytes"
  | .uplinkPackets => "uplinkPackets"
  | .uplinkBytes => "uplinkBytes"
  | .tcpSessions => "tcpSessions"
  | .udpSessions => "udpSessions"

/-- **API exactness (projection part).** `GET …/stats` encodes the snapshot it took — SnapshotAndReset exactly
for `?clear` / `?clear=true` given once, Snapshot otherwise — every figure under its documented JSON name,
users under "users"/"username"; `GET …/users/{u}` shows the figures of the entry named `u` of a Snapshot
(zero figures if there is none), NOT the server totals. The last conjunct fails when the
regenerated `Gen.getUserProjection` is `.serverTotals` (finding F10, repaired by proposed_fixes/F10.diff). -/
theorem api_exact :
    (∀ f : Field, f.jsonName = specJSONName f) ∧ usersJSONName = "users" ∧ usernameJSONName = "username" ∧
    (∀ vals : List String, statsClear vals = true ↔ (vals = [""] ∨ vals = ["true"])) ∧
    (∀ sh vals, apiStats sh vals = doSnapshot sh (statsClear vals)) ∧
    (∀ (r : Result) (u : String), projectUser r u = lookupUser r.users u) := by
  refine ⟨fun f => by cases f <;> rfl, rfl, rfl, fun vals => ?_, fun _ _ => rfl, fun _ _ => rfl⟩
  match vals with
  | [] => simp [statsClear]
  | [v] => simp [statsClear, statsClearValues]
  | _ :: _ :: _ => simp [statsClear]

/-- `lookupUser` returns the figures of the entry named `u` when the names in the list are distinct
(they are: one entry per key of `sc.ucs`), and zero figures when no entry is named `u`. -/
theorem lookupUser_exact (users : List (String × Counters)) (u : String) :
    (∀ c, users.Pairwise (fun a b => a.1 ≠ b.1) → (u, c) ∈ users → lookupUser users u = c) ∧
    ((∀ e ∈ users, e.1 ≠ u) → ∀ f, (lookupUser users u).get f = 0) := by
  refine ⟨fun c hpw hmem => ?_, fun hall f => ?_⟩
  · induction users with
    | nil => cases hmem
    | cons e r ih =>
      rw [List.pairwise_cons] at hpw
      unfold lookupUser
      rcases List.mem_cons.mp hmem with rfl | hmem
      · simp only [List.find?_cons, beq_self_eq_true]
      · rw [List.find?_cons_of_neg (by simpa using hpw.1 _ hmem)]
        exact ih hpw.2 hmem
  · have : users.find? (fun e => e.1 == u) = none :=
      List.find?_eq_none.mpr fun e he => by simpa using hall e he
    rw [lookupUser, this, Counters.get_zero]

example : [("alice", Counters.zero)].Pairwise (fun a b => a.1 ≠ b.1) := by simp

end SSV.C14

#print axioms SSV.C14.gen_ok
#print axioms SSV.C14.collect_effect
#print axioms SSV.C14.conservation
#print axioms SSV.C14.conservation_quiescent
#print axioms SSV.C14.total_is_sum
#print axioms SSV.C14.attribution
#print axioms SSV.C14.userCollector_creates_once
#print axioms SSV.C14.userCollector_refines
#print axioms SSV.C14.final_snapshot_reads_counters
#print axioms SSV.C14.driver_run_is_interleaving
#print axioms SSV.C14.doSnapshot_exact
#print axioms SSV.C14.api_exact
#print axioms SSV.C14.lookupUser_exact
