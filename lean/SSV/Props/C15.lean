import SSV.Model.Pipe
import SSV.Model.PipeShape
import SSV.Proofs.PipeExamples
import SSV.Proofs.PipeRefine
import SSV.Gen.C15
/-
C15 — the in-memory pipe (netio/pipe.go) is a faithful duplex stream with half-close and deadlines.

Decided PARTIALLY: the theorems hold for every reachable state of the goroutine-pc transition system
`SSV.Pipe` (any number of threads, any number of calls, every interleaving of the model's atomic steps);
the Go scheduler's actual choices and timer delivery are sampled by the correspondence engines.
All theorems but the last are about ONE direction; a pipe is two directions that share no state
(`directions_independent`), and `pipe_faithful_duplex_partial` puts the two together.
-/
namespace SSV.C15
open SSV.Pipe

/-! The tie to the source: `SSV.Gen.C15` is regenerated from netio/pipe.go on every run. -/

/-- The comm clauses of the three selects in the source are the alternatives the model's step relation uses. -/
theorem select_shapes :
    SSV.Gen.C15.readSelect = readSelect.map Shape.Alt.readSrc ∧
    SSV.Gen.C15.writeToSelect = writeToSelect.map Shape.Alt.readSrc ∧
    SSV.Gen.C15.writeSelect = writeSelect.map Shape.Alt.writeSrc :=
  ⟨rfl, rfl, rfl⟩

/-- Pre-checks, clause bodies (count-back sent on every path that received data), the lock around the write loop. -/
theorem call_shapes :
    SSV.Gen.C15.readPrecheck = Shape.readPrecheck ∧ SSV.Gen.C15.writeToPrecheck = Shape.readPrecheck ∧
    SSV.Gen.C15.writePrecheck = Shape.writePrecheck ∧
    SSV.Gen.C15.readPrecheckRet = Shape.readPrecheckRet ∧ SSV.Gen.C15.writeToPrecheckRet = Shape.writeToPrecheckRet ∧
    SSV.Gen.C15.writePrecheckRet = Shape.writePrecheckRet ∧
    SSV.Gen.C15.readSelectBodies = Shape.readSelectBodies ∧ SSV.Gen.C15.writeToSelectBodies = Shape.writeToSelectBodies ∧
    SSV.Gen.C15.writeSelectBodies = Shape.writeSelectBodies ∧
    SSV.Gen.C15.writePrologue = Shape.writePrologue ∧ SSV.Gen.C15.writeEpilogue = Shape.writeEpilogue ∧
    SSV.Gen.C15.writeLoop = Shape.writeLoop ∧ SSV.Gen.C15.writeToLoop = Shape.writeToLoop ∧
    SSV.Gen.C15.readWrapper = Shape.readWrapper ∧ SSV.Gen.C15.writeWrapper = Shape.writeWrapper ∧
    SSV.Gen.C15.writeToWrapper = Shape.writeToWrapper :=
  ⟨rfl, rfl, rfl, rfl, rfl, rfl, rfl, rfl, rfl, rfl, rfl, rfl, rfl, rfl, rfl, rfl⟩

/-- `Store` precedes `close` in both close functions; Set*Deadline test-then-set; error mappers; onceError. -/
theorem close_and_deadline_shapes :
    SSV.Gen.C15.closeReadSteps = Shape.closeReadSteps ∧ SSV.Gen.C15.closeWriteSteps = Shape.closeWriteSteps ∧
    SSV.Gen.C15.closeWithErrorSteps = Shape.closeWithErrorSteps ∧ SSV.Gen.C15.closeReadBody = Shape.closeReadBody ∧
    SSV.Gen.C15.closeWriteBody = Shape.closeWriteBody ∧ SSV.Gen.C15.closeBody = Shape.closeBody ∧
    SSV.Gen.C15.setReadDeadlineSteps = Shape.setReadDeadlineSteps ∧
    SSV.Gen.C15.setWriteDeadlineSteps = Shape.setWriteDeadlineSteps ∧
    SSV.Gen.C15.setDeadlineSteps = Shape.setDeadlineSteps ∧
    SSV.Gen.C15.writeCloseErrorBody = Shape.writeCloseErrorBody ∧
    SSV.Gen.C15.writeToReadCloseErrorBody = Shape.writeToReadCloseErrorBody ∧
    SSV.Gen.C15.onceStoreBody = Shape.onceStoreBody ∧ SSV.Gen.C15.onceLoadBody = Shape.onceLoadBody ∧
    SSV.Gen.C15.isClosedChanBody = Shape.isClosedChanBody ∧ SSV.Gen.C15.deadlineWaitBody = Shape.deadlineWaitBody ∧
    SSV.Gen.C15.deadlineSetBody = Shape.deadlineSetBody ∧ SSV.Gen.C15.makeDeadlineBody = Shape.makeDeadlineBody :=
  ⟨rfl, rfl, rfl, rfl, rfl, rfl, rfl, rfl, rfl, rfl, rfl, rfl, rfl, rfl, rfl, rfl, rfl⟩

/-- Only `done` and `cancel` channels are ever closed, every channel is unbuffered, and NewPipe wires two
directions that share nothing. -/
theorem wiring_shapes :
    SSV.Gen.C15.closeCalls = Shape.closeCalls ∧ SSV.Gen.C15.makeChans = Shape.makeChans ∧
    SSV.Gen.C15.pipeLeft = Shape.pipeLeft ∧ SSV.Gen.C15.pipeRight = Shape.pipeRight ∧
    SSV.Gen.C15.onceFuncs = Shape.onceFuncs :=
  ⟨rfl, rfl, rfl, rfl, rfl⟩

/-- No reachable state has panicked: `onceError.Load` never dereferences nil (the `Store` always precedes the
`close(done)` that lets a `Load` happen), `b[nw:]` is in range, a `cancel` channel is never closed twice.
(Data and count-back channels are never closed at all: there is no such step; see `wiring_shapes`.) -/
theorem no_panic {s : State} (r : Reachable s) : s.panicked = false :=
  (inv_reachable r).noPanic

/-- Whenever `done` is closed the once-error is set (why `onceError.Load` cannot panic in `no_panic`). -/
theorem done_implies_error_stored {s : State} (r : Reachable s) (h : s.done = true) : ∃ e, s.err = some e :=
  Inv.err_of_done (inv_reachable r) h

/-- FIDELITY + ATOMIC WRITES: the bytes returned by the reads (and WriteTo chunks) at one end, in completion
order, are exactly the concatenation, in lock order, of the consumed prefixes `buf.take n` of the writes at
the other end — each write's bytes form one contiguous block; nothing is lost, duplicated or reordered. -/
theorem fidelity {s : State} (r : Reachable s) :
    s.rret = (s.wlog.map (fun w => w.1.take w.2)).flatten :=
  (inv_reachable r).fid

/-- WRITE COUNT: a write that returns `n` after taking the lock has log entry `(buf, n)` with `n ≤ len buf`,
i.e. (by `fidelity`) exactly `buf.take n` was consumed by readers; a write refused by the pre-checks returns 0. -/
theorem write_count {s : State} (r : Reachable s) (i n : Nat) (e : RErr) (ci : Option Nat)
    (h : s.thr i = .wRet n e ci) :
    match ci with
    | some c => ∃ buf, s.wlog[c]? = some (buf, n) ∧ n ≤ buf.length
    | none => n = 0 := by
  have := (inv_reachable r).wOk i
  rw [h] at this
  cases ci with
  | some c => exact this.1
  | none => exact this

/-- While a write is still in its loop its local `b`, `n` agree with the log: `b = buf.drop n`. -/
theorem write_in_progress {s : State} (r : Reachable s) (i : Nat) (b : Bytes) (n ci g : Nat)
    (h : s.thr i = .wSel b n ci g) :
    ci + 1 = s.wlog.length ∧ ∃ buf, s.wlog[ci]? = some (buf, n) ∧ b = buf.drop n ∧ n ≤ buf.length := by
  have := (inv_reachable r).wOk i
  rw [h] at this; exact this

/-- ATOMIC WRITES (mutual exclusion): at most one thread is between `Lock` and `Unlock`. -/
theorem atomic_writes {s : State} (r : Reachable s) (i j : Nat)
    (hi : (s.thr i).holds = true) (hj : (s.thr j).holds = true) : i = j :=
  (inv_reachable r).holder_unique ((inv_reachable r).muHold j hj) hi

/-- The committed hand-shake pairs one reader with one writer, and the chunk the reader holds is the prefix
of the slice the writer offered. -/
theorem handshake_paired {s : State} (r : Reachable s) (i : Nat) (k : RKind) (acc nr : Nat) (fail : Bool)
    (chunk : Bytes) (h : s.thr i = .rAck k acc nr fail chunk) :
    ∃ j b n ci, s.thr j = .wAwait b n ci ∧ chunk = b.take nr ∧ nr ≤ b.length ∧
      ∀ i', (s.thr i').isAck = true → i' = i := by
  have inv := inv_reachable r
  obtain ⟨j, b, n, ci, hj, h2, e2, h3⟩ := inv.ack_partner h
  exact ⟨j, b, n, ci, h2, e2, h3, fun i' => inv.ack_unique hj⟩

/-! Progress, stated as safety: what is enabled in every reachable state. -/

/-- NO STUCK STATE: in every reachable state every thread that is inside a call either can move right now,
or sits in a `select` that has a `done` and a `deadline` alternative — and then it can move as soon as `done`
is closed, as soon as the cancel channel it waits on is closed, or as soon as a partner sits in the matching
select — or waits for `wrMu`, whose holder is another thread inside the write loop (itself subject to
this theorem).  The committed hand-shake (`rAck` / `wAwait`) always has its partner at the matching point, so it
falls under "can move right now". -/
theorem no_stuck_state {s : State} (r : Reachable s) (i : Nat) :
    match s.thr i with
    | .idle | .rRet .. | .wRet .. | .uRet .. => True
    | .rSel k _ g =>
        (Alt.done ∈ k.sel ∧ Alt.deadline ∈ k.sel) ∧ (s.done = true → CanMove s i) ∧
        (s.rdl.chanClosed g = true → CanMove s i) ∧
        (∀ j b n ci gw, s.thr j = .wSel b n ci gw → CanMove s i)
    | .wSel _ _ _ g =>
        (Alt.done ∈ writeSelect ∧ Alt.deadline ∈ writeSelect) ∧ (s.done = true → CanMove s i) ∧
        (s.wdl.chanClosed g = true → CanMove s i) ∧
        (∀ j k acc gr, s.thr j = .rSel k acc gr → CanMove s i)
    | .wLock _ => CanMove s i ∨ ∃ j, j ≠ i ∧ s.mu = some j ∧ (s.thr j).holds = true
    | _ => CanMove s i := by
  have inv := inv_reachable r
  have loc := local_enabled s i
  cases hp : s.thr i <;> simp only [hp] at loc ⊢ <;> (try exact Or.inl loc)
  case rSel k acc g =>
    exact ⟨⟨(sel_has k).2.1, (sel_has k).2.2⟩, fun hd => rSel_canMove inv hp (.inl hd),
      fun hc => rSel_canMove inv hp (.inr hc), fun j b n ci gw hj => (sel_pair_canMove hp hj).1⟩
  case rAck => exact rAck_canMove inv hp
  case wLock b =>
    cases hm : s.mu with
    | none => exact Or.inl (Or.inl ⟨_, Loc.mem hp (.wLock hm)⟩)
    | some j =>
      refine Or.inr ⟨j, ?_, rfl, inv.muLive j hm⟩
      intro e; subst e
      have := inv.muLive _ hm; simp [hp, PC.holds] at this
  case wSel b n ci g =>
    exact ⟨⟨wsel_has.2.1, wsel_has.2.2⟩, fun hd => wSel_canMove inv hp (.inl hd),
      fun hc => wSel_canMove inv hp (.inr hc), fun j k acc gr hj => (sel_pair_canMove hj hp).2⟩
  case wAwait => exact wAwait_canMove inv hp

/-- NO DEADLOCK ONCE CLOSED: in a reachable state whose `done` is closed, as long as some thread is inside a
call, some internal step is enabled (no combination of pending reads, writes, mutex waiters and hand-shakes
is stuck). -/
theorem no_deadlock_after_close {s : State} (r : Reachable s) (hd : s.done = true) (i : Nat)
    (hc : match s.thr i with | .idle | .rRet .. | .wRet .. | .uRet .. => False | _ => True) :
    ∃ j, CanMove s j :=
  some_canMove (inv_reachable r) (unblocked_of_done (inv_reachable r) hd) i hc

/-- ALL CALLS RETURN AFTER CLOSE, under every schedule: from a reachable state whose `done` is closed, with
all threads `≥ N` idle, any run of `k` internal steps (thread-local, channel operations, timer, collecting a
result — everything except the start of a new call) satisfies `k + measure s' ≤ measure s`; so no such run is
longer than `measure N s`, whatever the scheduler does (no fairness assumption). -/
theorem runs_bounded_after_close {N k : Nat} {s s' : State} (r : Reachable s) (hd : s.done = true)
    (hb : Bounded N s) (run : IRun s k s') : k + measure N s' ≤ measure N s :=
  (run_bounded run (inv_reachable r) hd hb).1

/-- After a close a run can only stop (no internal step enabled) when every call has returned and been collected:
together with `runs_bounded_after_close`, every maximal run after a close ends, after at most `measure N s`
steps, with all threads idle — no interleaving deadlocks. -/
theorem quiescent_after_close_all_returned {s : State} (r : Reachable s) (hd : s.done = true)
    (hq : ¬ ∃ s', IStep s s') (i : Nat) : s.thr i = .idle :=
  quiescent_idle (inv_reachable r) (unblocked_of_done (inv_reachable r) hd) hq i

/-- ALL CALLS RETURN AFTER THE DEADLINES EXPIRED (whether or not the direction is closed), under every
schedule: from a reachable state in which the current cancel channels of both the read and the write deadline are
closed and no Set*Deadline call is pending, any run of `k` internal steps (no new calls) satisfies
`k + measureE s' ≤ measureE s`.  No fairness assumption. -/
theorem runs_bounded_after_deadline {N k : Nat} {s s' : State} (r : Reachable s) (hx : Expired s)
    (hb : Bounded N s) (run : IRun s k s') : k + measureE N s' ≤ measureE N s :=
  (run_boundedE run (inv_reachable r) hx hb).1

/-- After both deadlines expired a run can only stop (no internal step enabled) when every call has returned and
been collected. -/
theorem quiescent_after_deadline_all_returned {s : State} (r : Reachable s) (hx : Expired s)
    (hq : ¬ ∃ s', IStep s s') (i : Nat) : s.thr i = .idle :=
  quiescent_idle (inv_reachable r) (unblocked_of_expired (inv_reachable r) hx.rd hx.wd) hq i

/-- A WRITE FACING READERS THAT KEEP READING RETURNS (no close, no deadline needed).  `r` is an infinite run of the
model (`IsRun`: each position a model step or a stutter).  FAIRNESS ASSUMPTION, explicit: `WeakFair r j` — if from
some position on writer `j` could always take part in a step, it eventually does.  ENVIRONMENT: whenever `j` offers
in its select a reader sits in its select (`partner`), and the reader that is in the hand-shake with `j` took at
least one byte of a non-empty offer (`pos`, i.e. readers use non-empty buffers).  Then from the loop head
(`wEnter`, lock held) `j` returns: after finitely many rounds, each of which strictly shrinks what is left. -/
theorem write_returns_fair {r : Nat → State} {j ci : Nat} (hr : IsRun r) (hf : WeakFair r j)
    (partner : ∀ m b c g, (r m).thr j = .wSel b c ci g → ∃ i k acc gr, (r m).thr i = .rSel k acc gr)
    (pos : ∀ m i k acc nr fail chunk b c, (r m).thr i = .rAck k acc nr fail chunk →
      (r m).thr j = .wAwait b c ci → b ≠ [] → 1 ≤ nr)
    (n : Nat) (b : Bytes) (c : Nat) (hp : (r n).thr j = .wEnter b c ci) :
    ∃ m, n ≤ m ∧ ∃ c' e, (r m).thr j = .wRet c' e (some ci) := by
  induction hL : b.length using Nat.strongRecOn generalizing n b c with
  | _ L ih =>
    obtain ⟨m, hm, h | ⟨b', c', hlt, hp'⟩⟩ := write_round hr hf partner pos n b c hp
    · exact ⟨m, hm, h⟩
    · obtain ⟨m', hm', h'⟩ := ih _ (hL ▸ hlt) m b' c' hp' rfl
      exact ⟨m', by omega, h'⟩

/-- A READ FACING A WRITER RETURNS: run weakly fair towards reader `i`; whenever `i` sits in its select some writer
sits in the write select; then `i` returns (through the hand-shake, or earlier through close / deadline). -/
theorem read_returns_fair {r : Nat → State} {i : Nat} (hr : IsRun r) (hf : WeakFair r i)
    (partner : ∀ m k acc g, (r m).thr i = .rSel k acc g → ∃ j b c ci gw, (r m).thr j = .wSel b c ci gw)
    (n cap acc g : Nat) (hp : (r n).thr i = .rSel (.read cap) acc g) :
    ∃ m, n ≤ m ∧ ∃ c e, (r m).thr i = .rRet c e := by
  obtain ⟨m, hm, ⟨e, h⟩ | ⟨len, h⟩⟩ := read_round hr hf partner n _ acc g hp
  · exact ⟨m, hm, _, _, h⟩
  · exact ⟨m, hm, _, _, h⟩

/-- HALF CLOSE: after `CloseWrite` won the once-error (`done` closed, error = EOF): a `Read` that starts now
returns `(0, EOF)` — nothing but that; a `Read` blocked in its select can return `(0, EOF)`; a read already in
the committed hand-shake still completes with its chunk (`no_stuck_state`, `fidelity`); `WriteTo` returns
`(n, nil)`; and this state of the direction is permanent. The reverse direction is a separate transition
system (`directions_independent`). -/
theorem half_close {s : State} (_r : Reachable s) (h : closedAs s .eof) :
    (∀ i cap acc, s.thr i = .rChk1 (.read cap) acc → localSteps s i = [s.setT i (.rRet acc .eof)]) ∧
    (∀ i cap acc g, s.thr i = .rSel (.read cap) acc g → s.setT i (.rRet acc .eof) ∈ localSteps s i) ∧
    (∀ i plan ff acc, s.thr i = .rChk1 (.wt plan ff) acc → localSteps s i = [s.setT i (.rRet acc .nil)]) ∧
    (∀ s', Step s s' → closedAs s' .eof) := by
  refine ⟨?_, ?_, ?_, fun s' st => closedAs_stable (inv_reachable _r) st h⟩
  · intro i cap acc hp
    unfold localSteps; simp [hp, h.1, withErr, h.2, RKind.closeErr, Err.toR]
  · intro i cap acc g hp
    have := Loc.mem hp (.rSelDone h.1 h.2)
    simpa [RKind.closeErr, Err.toR] using this
  · intro i plan ff acc hp
    unfold localSteps; simp [hp, h.1, withErr, h.2, RKind.closeErr, writeToCloseErr]

/-- CLOSE READ FAILS WRITES: once the direction is closed (by `CloseRead`: ErrClosedPipe, or by the writer's
own `CloseWrite`: EOF) a `Write` that starts returns `(0, ErrClosedPipe)`, a `Write` blocked in its select can
return `(n, ErrClosedPipe)` with the count consumed so far, and `Read` at the closing end returns
ErrClosedPipe after `CloseRead`. -/
theorem close_read_fails_writes {s : State} (_r : Reachable s) (e : Err) (he : e = .closedPipe ∨ e = .eof)
    (h : closedAs s e) :
    (∀ i b, s.thr i = .wChk1 b → localSteps s i = [s.setT i (.wRet 0 .closedPipe none)]) ∧
    (∀ i b n ci g, s.thr i = .wSel b n ci g →
      { s with mu := none }.setT i (.wRet n .closedPipe (some ci)) ∈ localSteps s i) ∧
    (e = .closedPipe → ∀ i cap acc, s.thr i = .rChk1 (.read cap) acc →
      localSteps s i = [s.setT i (.rRet acc .closedPipe)]) := by
  have hw : writeCloseErr e = .closedPipe := by rcases he with he | he <;> subst he <;> simp [writeCloseErr, Err.toR]
  refine ⟨?_, ?_, ?_⟩
  · intro i b hp
    unfold localSteps; simp [hp, h.1, withErr, h.2, hw]
  · intro i b n ci g hp
    have := Loc.mem hp (.wSelDone h.1 h.2)
    rw [hw] at this; exact this
  · intro hc i cap acc hp
    subst hc
    unfold localSteps; simp [hp, h.1, withErr, h.2, RKind.closeErr, Err.toR]

/-- DEADLINE UNBLOCKS: whenever the current cancel channel of the read (write) deadline is closed — after
`Set*Deadline(past)` or after the timer fired — EVERY read/writeTo (write) that sits in its select, whichever
cancel channel it captured on entry, can return `os.ErrDeadlineExceeded` with the count so far; calls that
start are refused by the pre-check unless the direction is closed (close errors take precedence). -/
theorem deadline_unblocks {s : State} (r : Reachable s) :
    (s.rdl.closed = true →
      (∀ i k acc g, s.thr i = .rSel k acc g → s.setT i (.rRet acc .timeout) ∈ localSteps s i) ∧
      (∀ i k acc, s.thr i = .rChk2 k acc → localSteps s i = [s.setT i (.rRet acc .timeout)])) ∧
    (s.wdl.closed = true →
      (∀ i b n ci g, s.thr i = .wSel b n ci g →
        { s with mu := none }.setT i (.wRet n .timeout (some ci)) ∈ localSteps s i) ∧
      (∀ i b, s.thr i = .wChk2 b → localSteps s i = [s.setT i (.wRet 0 .timeout none)])) := by
  have inv := inv_reachable r
  refine ⟨fun hc => ⟨?_, ?_⟩, fun hc => ⟨?_, ?_⟩⟩
  · intro i k acc g hp
    have hg := inv.gens i; simp only [hp, PC.gensOk] at hg
    exact Loc.mem hp (.rSelExp (DL.chanClosed_of_closed hg hc))
  · intro i k acc hp
    unfold localSteps; simp [hp, hc]
  · intro i b n ci g hp
    have hg := inv.gens i; simp only [hp, PC.gensOk] at hg
    exact Loc.mem hp (.wSelExp (DL.chanClosed_of_closed hg hc))
  · intro i b hp
    unfold localSteps; simp [hp, hc]

/-- `pipeDeadline.set`: a past deadline closes the current channel; a zero or future deadline leaves an OPEN
current channel (re-made if the old one was closed), so later calls are not refused; only an armed timer
(future) can close it again. -/
theorem deadline_set_semantics (d : DL) :
    (d.set .past).closed = true ∧ (d.set .zero).closed = false ∧ (d.set .future).closed = false ∧
    (d.set .zero).armed = false ∧ (d.set .past).armed = false ∧ (d.set .future).armed = true := by
  cases hc : d.closed <;> simp [DL.set, hc]

/-- NO SPURIOUS TIMEOUT: a call returns `os.ErrDeadlineExceeded` only through the deadline alternative of its
select when the cancel channel it captured is closed, or through the deadline pre-check when the current one
is.  (The statement is about thread-local steps; the hand-shake steps `data` / `count` return `nil` or the sink's
error by their definition.) -/
theorem timeout_only_if_expired {s s' : State} (i : Nat) (hs : s' ∈ localSteps s i)
    (ht : (s'.thr i).isTimeout = true) (hp : s'.panicked = false) :
    match s.thr i with
    | .rSel _ _ g => s.rdl.chanClosed g = true
    | .rChk2 .. => s.rdl.closed = true
    | .wSel _ _ _ g => s.wdl.chanClosed g = true
    | .wChk2 .. => s.wdl.closed = true
    | _ => False := by
  rcases loc_cases hs with ⟨_, _, rfl⟩ | ⟨p', g, l, rfl⟩
  · cases hp
  · replace ht : p'.isTimeout = true := by simpa [State.setT] using ht
    generalize s.thr i = p at l
    cases l
    case rChk2Exp h | rSelExp h | wChk2Exp h | wSelExp h => exact h
    all_goals simp [PC.isTimeout, closeErr_ne_timeout, writeCloseErr_ne_timeout] at ht

/-- a pipe = two directions; a step of the pipe is a step of one of them -/
structure Pipe where
  ab : State
  ba : State

inductive PStep (p : Pipe) : Pipe → Prop where
  | ab {s'} : Step p.ab s' → PStep p { p with ab := s' }
  | ba {s'} : Step p.ba s' → PStep p { p with ba := s' }

inductive PReachable : Pipe → Prop where
  | init : PReachable ⟨init, init⟩
  | step {p p'} : PReachable p → PStep p p' → PReachable p'

/-- The directions share nothing (see `wiring_shapes`): whatever one direction does — including being closed —
the other one is a reachable state of its own transition system, so every theorem above holds for it. -/
theorem directions_independent {p : Pipe} (r : PReachable p) : Reachable p.ab ∧ Reachable p.ba := by
  induction r with
  | init => exact ⟨.init, .init⟩
  | step _ st ih =>
    cases st with
    | ab h => exact ⟨.step ih.1 h, ih.2⟩
    | ba h => exact ⟨ih.1, .step ih.2 h⟩

/-- REFINEMENT: along every run of the implementation model, each step either leaves the abstract direction
`abs s = (bytes delivered, writes with their delivered counts in admission order, closed : Option Err)`
unchanged or is one of its three atomic actions: a write is admitted (it took the lock), the LAST admitted
write delivers its next `k` bytes (a hand-shake completed), the direction is closed with the stored error. -/
theorem refines_spec {s s' : State} (r : Reachable s) (st : Step s s') :
    abs s' = abs s ∨ SpecStep (abs s) (abs s') :=
  step_refines (inv_reachable r) st

/-- The states the lock-step driver explores (`succs`: thread-local, data-channel and count-back steps of the
threads below the bound) are steps of the proved step relation, and are all such steps when every thread at or
above the bound is idle.  Starting, collecting a result and the timer are driven separately. -/
theorem driver_explores_steps {n : Nat} {s s' : State} :
    (s' ∈ succs n s → Step s s') ∧
    ((∀ i, n ≤ i → s.thr i = .idle) →
      ((∃ i, s' ∈ localSteps s i) ∨ (∃ i j, data s i j = some s') ∨ (∃ i j, count s i j = some s')) →
      s' ∈ succs n s) := by
  unfold succs
  simp only [List.mem_append, List.mem_flatMap, List.mem_filterMap, List.mem_range]
  refine ⟨fun h => ?_, fun hn h => ?_⟩
  · rcases h with (⟨i, _, hi⟩ | ⟨i, _, j, _, hij⟩) | ⟨i, _, j, _, hij⟩
    · exact .loc i hi
    · exact .data i j hij
    · exact .count i j hij
  · have lt : ∀ i, s.thr i ≠ .idle → i < n := fun _ => lt_of_idle_ne hn
    rcases h with ⟨i, hi⟩ | ⟨i, j, hij⟩ | ⟨i, j, hij⟩
    · exact .inl (.inl ⟨i, lt i fun e => by simp [localSteps_idle e] at hi, hi⟩)
    · obtain ⟨_, _, _, _, _, _, _, hi, hj, _⟩ := data_cases hij
      exact .inl (.inr ⟨i, lt i (by simp [hi]), j, lt j (by simp [hj]), hij⟩)
    · obtain ⟨⟨_, _, _, _, _, hi⟩, _, _, _, hj⟩ := count_some_pcs hij
      exact .inr ⟨i, lt i (by simp [hi]), j, lt j (by simp [hj]), hij⟩

/-- C15 for the whole pipe, PARTIAL.  In every reachable state of the two-direction model, for each direction:
no panic; the bytes returned by reads are exactly the concatenation, in lock order, of the consumed prefixes of
the writes (once, in order, writes not interleaved); every returned write reports its log entry's count; at most
one writer is inside the lock; and every thread inside a call can move, or waits in a select with `done` and
deadline alternatives, or waits for the mutex held by a thread that itself is subject to this statement.
Half-close, close-read and deadline behaviour are `half_close`, `close_read_fails_writes`, `deadline_unblocks`,
`timeout_only_if_expired`; termination after a close / after the deadlines and progress under fairness are
`runs_bounded_after_close`, `runs_bounded_after_deadline`, `write_returns_fair`, `read_returns_fair`; each valid for
both directions by `directions_independent`.
MISSING for the full property (hence `_partial`): (1) the Go scheduler, timers and memory model are not
formalised — the theorem is about all interleavings of the MODEL's atomic steps, real schedules are sampled by
corr_c15; (2) before any close or deadline, termination is proved only under the explicit fairness and environment
hypotheses of `write_returns_fair` / `read_returns_fair` (none for a `Write` still waiting for the mutex, none for
`WriteTo`); (3) atomicity granularity as listed in meta/C15.json. -/
theorem pipe_faithful_duplex_partial {p : Pipe} (r : PReachable p) :
    ∀ s, (s = p.ab ∨ s = p.ba) →
      s.panicked = false ∧
      s.rret = (s.wlog.map (fun w => w.1.take w.2)).flatten ∧
      (∀ i n e c, s.thr i = .wRet n e (some c) → ∃ buf, s.wlog[c]? = some (buf, n) ∧ n ≤ buf.length) ∧
      (∀ i j, (s.thr i).holds = true → (s.thr j).holds = true → i = j) ∧
      (∀ i, match s.thr i with
        | .idle | .rRet .. | .wRet .. | .uRet .. => True
        | .rSel k _ _ => Alt.done ∈ k.sel ∧ Alt.deadline ∈ k.sel
        | .wSel .. => Alt.done ∈ writeSelect ∧ Alt.deadline ∈ writeSelect
        | .wLock _ => CanMove s i ∨ ∃ j, j ≠ i ∧ s.mu = some j ∧ (s.thr j).holds = true
        | _ => CanMove s i) := by
  intro s hs
  have rs : Reachable s := by
    rcases hs with h | h <;> subst h
    · exact (directions_independent r).1
    · exact (directions_independent r).2
  refine ⟨no_panic rs, fidelity rs, ?_, atomic_writes rs, ?_⟩
  · intro i n e c h; exact write_count rs i n e (some c) h
  · intro i
    have h := no_stuck_state rs i
    cases hp : s.thr i <;> simp only [hp] at h ⊢
    case rSel | wSel => exact h.1
    all_goals exact h

/-! The hypotheses are satisfiable: concrete runs of the model (`SSV/Proofs/PipeExamples.lean`). -/

/-- a run that transfers data: Write([1,2,3]) ‖ Read(cap 2): the read got [1,2], the write has consumed 2 so far
and goes round its loop with [3] (hypotheses of `no_panic`, `fidelity`, `write_in_progress`, `atomic_writes`). -/
example : Reachable Ex.w6 ∧ Ex.w6.rret = [1, 2] ∧ Ex.w6.wlog = [([1, 2, 3], 2)] ∧ (Ex.w6.thr 0).holds = true :=
  ⟨Ex.w6_reachable, Ex.w6_facts.1, Ex.w6_facts.2.1, by decide⟩
/-- …both sides in their selects (`no_stuck_state`: select cases), then in the committed hand-shake (`handshake_paired`) -/
example : Ex.w4.thr 0 = .wSel [1, 2, 3] 0 0 0 ∧ Ex.w4.thr 1 = .rSel (.read 2) 0 0 := Ex.w4_in_selects
example : Ex.w5.thr 1 = .rAck (.read 2) 0 2 false [1, 2] := Ex.w5_in_handshake.1
/-- a returned write (`write_count`): a `Write` that starts after `CloseWrite` is refused by the pre-check -/
example : ∃ s, Reachable s ∧ ∃ i n e ci, s.thr i = .wRet n e ci :=
  ⟨Ex.step1 (Ex.startD Ex.c3 1 (.write [5])) 1,
   Ex.reach_step1 (Ex.reach_start Ex.c3_reachable 1 _ (by decide)) 1 (by decide), 1, 0, .closedPipe, none, by decide⟩
/-- closed by CloseWrite (`half_close`, `close_read_fails_writes`, `done_implies_error_stored`, `no_deadlock_after_close`) -/
example : Reachable Ex.c3 ∧ closedAs Ex.c3 .eof := ⟨Ex.c3_reachable, Ex.c3_closed⟩
/-- closed by CloseRead (`close_read_fails_writes`) -/
example : Reachable Ex.r3 ∧ closedAs Ex.r3 .closedPipe := ⟨Ex.r3_reachable, Ex.r3_closed⟩
/-- an expired read deadline with a reader blocked in its select, a writer in its select and another one queued on
the mutex (`deadline_unblocks`, `no_stuck_state`: mutex case) -/
example : Reachable Ex.d4 ∧ Ex.d4.rdl.closed = true ∧ Ex.d4.thr 1 = .rSel (.read 4) 0 0 ∧
    Ex.d4.thr 3 = .wLock [8] ∧ Ex.d4.mu = some 0 :=
  ⟨Ex.d4_reachable, Ex.d4_facts.1, Ex.d4_facts.2.1, Ex.d4_facts.2.2.2.1, Ex.d4_facts.2.2.2.2.1⟩
/-- a timeout step exists (`timeout_only_if_expired`): the blocked reader of `Ex.d4` takes its deadline alternative -/
example : ∃ s', s' ∈ localSteps Ex.d4 1 ∧ (s'.thr 1).isTimeout = true ∧ s'.panicked = false :=
  ⟨Ex.d4.setT 1 (.rRet 0 .timeout), Loc.mem Ex.d4_facts.2.1 (.rSelExp (by decide)), by decide, by decide⟩
/-- a closed state with a pending call and a positive measure (`runs_bounded_after_close`) -/
example : Reachable Ex.c3 ∧ Ex.c3.done = true ∧ Bounded 1 Ex.c3 ∧ measure 1 Ex.c3 = 1 ∧ IRun Ex.c3 0 Ex.c3 :=
  ⟨Ex.c3_reachable, by decide, Ex.c3_bounded, by decide, .nil⟩
/-- both deadlines expired with a blocked reader, a blocked writer and a mutex waiter (`runs_bounded_after_deadline`) -/
example : Reachable Ex.d6 ∧ Expired Ex.d6 ∧ Bounded 4 Ex.d6 ∧ Ex.d6.thr 1 = .rSel (.read 4) 0 0 ∧ Ex.d6.done = false :=
  ⟨Ex.d6_reachable, Ex.d6_expired, Ex.d6_bounded, by decide, by decide⟩
/-- concrete fair runs satisfying every hypothesis of `write_returns_fair` / `read_returns_fair` -/
example : IsRun FairEx.run ∧ WeakFair FairEx.run 0 ∧ (FairEx.run 8).thr 0 = .wEnter [1, 2, 3] 0 0 :=
  ⟨FairEx.run_isRun, FairEx.run_fair0, FairEx.run_at8⟩
example : ∃ m, 8 ≤ m ∧ ∃ c' e, (FairEx.run m).thr 0 = .wRet c' e (some 0) :=
  write_returns_fair FairEx.run_isRun FairEx.run_fair0 FairEx.run_partner FairEx.run_pos 8 _ _ FairEx.run_at8
example : ∃ m, 9 ≤ m ∧ ∃ c e, (FairEx.run2 m).thr 1 = .rRet c e :=
  read_returns_fair FairEx.run2_isRun FairEx.run2_fair1 FairEx.run2_partner 9 4 0 0 FairEx.run2_at9
example : PReachable ⟨init, init⟩ := .init

end SSV.C15

#print axioms SSV.C15.select_shapes
#print axioms SSV.C15.call_shapes
#print axioms SSV.C15.close_and_deadline_shapes
#print axioms SSV.C15.wiring_shapes
#print axioms SSV.C15.no_panic
#print axioms SSV.C15.done_implies_error_stored
#print axioms SSV.C15.fidelity
#print axioms SSV.C15.write_count
#print axioms SSV.C15.write_in_progress
#print axioms SSV.C15.atomic_writes
#print axioms SSV.C15.handshake_paired
#print axioms SSV.C15.no_stuck_state
#print axioms SSV.C15.no_deadlock_after_close
#print axioms SSV.C15.half_close
#print axioms SSV.C15.close_read_fails_writes
#print axioms SSV.C15.deadline_unblocks
#print axioms SSV.C15.deadline_set_semantics
#print axioms SSV.C15.directions_independent
#print axioms SSV.C15.refines_spec
#print axioms SSV.C15.driver_explores_steps
#print axioms SSV.C15.timeout_only_if_expired
#print axioms SSV.C15.pipe_faithful_duplex_partial
#print axioms SSV.C15.runs_bounded_after_close
#print axioms SSV.C15.quiescent_after_close_all_returned
#print axioms SSV.C15.runs_bounded_after_deadline
#print axioms SSV.C15.quiescent_after_deadline_all_returned
#print axioms SSV.C15.write_returns_fair
#print axioms SSV.C15.read_returns_fair
