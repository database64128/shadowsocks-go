import SSV.Proofs.PortSetParse
import SSV.Proofs.PortSetSingle
import SSV.Proofs.DomainDlc
/-
C10 — Domain, prefix and port sets mean the same in every representation.
-/
namespace SSV.C10
open SSV.DomainSet
open SSV.PortSet hiding Str

/-- the text parser probes 7 bytes; the four rule prefixes have the lengths the parser assumes -/
theorem gen_prefix_facts :
    SSV.Gen.C10.textProbeLen = 7 ∧ SSV.Gen.C10.suffixPrefix.length = 7 ∧ SSV.Gen.C10.domainPrefix.length = 7
    ∧ SSV.Gen.C10.regexpPrefix.length = 7 ∧ SSV.Gen.C10.keywordPrefix.length = 8 := by decide

/-- the port set of the source is 1024 words of 64 bits = 65536 bits -/
theorem gen_portset_geometry :
    SSV.Gen.C10.portsetBlockBits = 64 ∧ SSV.Gen.C10.portsetBlocks = 1024
    ∧ SSV.Gen.C10.portsetBlockBits * SSV.Gen.C10.portsetBlocks = 65536 := by decide

/-- `rangeset_eq_bitset`: for EVERY port set (any 1024 words) and every port 1..65535, the range list extracted by
`RangeSet()` answers `Contains` (binary search) exactly like the bit set; `Contains` of the bit set does not panic there. -/
theorem rangeset_eq_bitset (ws : Words) (h : WF ws) (p : Nat) (h1 : 1 ≤ p) (h2 : p ≤ 65535) :
    rangesContain (rangeSet ws) p = bitAt ws p ∧ PortSet.contains ws p = some (bitAt ws p) :=
  ⟨rangeSet_contains ws h p (by omega), if_neg (by omega)⟩

example : WF PortSet.empty := WF_empty

/-- the same on port 0 for the range list (the bit set's `Contains(0)` panics by contract: `contains ws 0 = none`) -/
theorem rangeset_eq_bitset_zero (ws : Words) (h : WF ws) :
    rangesContain (rangeSet ws) 0 = bitAt ws 0 ∧ PortSet.contains ws 0 = none :=
  ⟨rangeSet_contains ws h 0 (by decide), rfl⟩

/-- the ranges are ascending, pairwise disjoint and non-empty (what the binary search needs), and end at 65535 at most -/
theorem rangeset_sorted_disjoint (ws : Words) (h : WF ws) :
    (rangeSet ws).Pairwise (fun a b => a.hi < b.lo) ∧ (∀ r ∈ rangeSet ws, r.lo ≤ r.hi ∧ r.hi ≤ 65535) := by
  obtain ⟨hs, hb, _⟩ := rangeSet_spec ws h
  exact ⟨hs.1, fun r hr => ⟨hs.2 r hr, hb r hr⟩⟩

/-- `RangeCount() = len(RangeSet())`, for every list of words -/
theorem rangecount_eq (ws : Words) : rangeCount ws = (rangeSet ws).length := by
  unfold rangeCount rangeSet
  rw [show ((false, 0) : Bool × Nat) = tally ⟨false, 0, []⟩ from rfl, countBlocks_tally ws 0, tally]
  split <;> simp [*]

/-- the binary search is correct on every sorted disjoint range list (not only on extracted ones) -/
theorem range_binary_search (rs : List Range) (p : Nat) (hs : SortedRanges rs) :
    rangesContain rs p = true ↔ ∃ r ∈ rs, r.lo ≤ p ∧ p ≤ r.hi := rangesContain_spec rs p hs

example : SortedRanges [⟨1, 3⟩, ⟨5, 5⟩] := by
  constructor
  · simp
  · intro r hr; simp at hr; rcases hr with rfl | rfl <;> simp

/-- with `Count() = 1`, `port == First()` is membership -/
theorem single_port_criterion (ws : Words) (h : WF ws) (hc : count ws = 1) (p : Nat) (hp : p < 65536) :
    (p == first ws) = bitAt ws p := by
  rw [count_eq] at hc
  obtain ⟨k, t, hk, ht⟩ := firstFrom_spec ws 0 h.2 (by rw [h.1]; omega) (List.count_pos_iff.mp (by omega))
  have hbit := allBits_getElem?_bitAt h hp
  rw [ht] at hc hbit
  have hu := getElem?_eq_true_iff_of_count_one hc p
  rw [hbit, Option.some.injEq] at hu
  rw [first, hk, Nat.zero_mul, Nat.zero_add, Bool.eq_iff_iff, beq_iff_eq, hu]

set_option maxRecDepth 100000 in
example : WF (PortSet.add PortSet.empty 80) ∧ count (PortSet.add PortSet.empty 80) = 1 :=
  ⟨WF_add WF_empty 80, by decide +kernel⟩

/-- the three representations the router may pick for a port criterion (route.go: `switch portCount`: single port when
`Count() = 1`, range list when `RangeCount() <= routerMaxPortRanges` (regenerated), bit set otherwise; no criterion for
0 and 65535 ports) answer `Meet` exactly like the bit set on every port 1..65535 — whatever the threshold is. -/
theorem router_port_criteria_agree (ws : Words) (h : WF ws) (p : Nat) (h1 : 1 ≤ p) (h2 : p ≤ 65535) :
    (PortSet.choose ws).meet p = if count ws = 0 ∨ count ws = 65535 then none else some (bitAt ws p) := by
  obtain ⟨ha, hb⟩ := rangeset_eq_bitset ws h p h1 h2
  unfold PortSet.choose
  simp only
  by_cases c0 : count ws = 0
  · simp [c0, PortSet.Repr.meet]
  · by_cases c1 : count ws = 1
    · have := single_port_criterion ws h c1 p (by omega)
      simp [c1, PortSet.Repr.meet, this]
    · by_cases c2 : count ws = 65535
      · simp [c2, PortSet.Repr.meet]
      · by_cases c3 : rangeCount ws ≤ SSV.Gen.C10.routerMaxPortRanges
        · simp [c0, c1, c2, c3, PortSet.Repr.meet, ha]
        · simp [c0, c1, c2, c3, PortSet.Repr.meet, hb]

/-- `suffix_spec`: each suffix matcher built from rules `rs` (in any order, rules extending one another, empty labels,
trailing dots: `rs` and `d` are arbitrary byte strings) matches `d` iff some rule equals `d` or `d` ends with "." ++ rule. -/
theorem suffix_spec (rs : List Str) (d : Str) :
    (suffixLinearMatch rs d = true ↔ ∃ r ∈ rs, d = r ∨ (dot :: r) <:+ d)
    ∧ (suffixMapMatch (rs.foldl mapInsert []) d = true ↔ ∃ r ∈ rs, d = r ∨ (dot :: r) <:+ d)
    ∧ (trieMatch (trieFromList rs) d = true ↔ ∃ r ∈ rs, d = r ∨ (dot :: r) <:+ d) := by
  refine ⟨suffixLinearMatch_iff rs d, ?_, trieFromList_eq rs d ▸ suffixLinearMatch_iff rs d⟩
  rw [suffixMapMatch_eq, suffixLinearMatch_congr (l' := rs) (fun r => by simp [mem_foldl_mapInsert])]
  exact suffixLinearMatch_iff rs d

/-- the single-rule test `matchDomainSuffix` -/
theorem match_domain_suffix_spec (d s : Str) :
    matchDomainSuffix d s = true ↔ (d = s ∨ (dot :: s) <:+ d) := matchDomainSuffix_iff d s

/-- hence all suffix matchers agree, and the insertion order (and multiplicity) of the rules is irrelevant for the trie -/
theorem suffix_matchers_agree (rs rs' : List Str) (hsame : ∀ r, r ∈ rs ↔ r ∈ rs') (d : Str) :
    trieMatch (trieFromList rs) d = suffixLinearMatch rs' d
    ∧ trieMatch (trieFromList rs) d = suffixMapMatch (rs'.foldl mapInsert []) d
    ∧ trieMatch (trieFromList rs) d = trieMatch (trieFromList rs') d := by
  rw [trieFromList_eq, trieFromList_eq, suffixMapMatch_eq]
  exact ⟨suffixLinearMatch_congr hsame d,
    suffixLinearMatch_congr (fun r => by rw [hsame r, mem_foldl_mapInsert]; simp) d, suffixLinearMatch_congr hsame d⟩

example : ∀ r : DomainSet.Str, r ∈ [[98, 46, 99], [97, 46, 98, 46, 99]] ↔ r ∈ [[97, 46, 98, 46, 99], [98, 46, 99]] := by
  intro r; simp [or_comm]

/-- inserting one more rule into an existing trie (e.g. "b.c" after "a.b.c", or "a.b.c" after "b.c") adds exactly that rule's language -/
theorem trie_insert_spec (root : Children) (r d : Str) :
    trieMatch (trieInsert root r) d = true ↔ (trieMatch root d = true ∨ d = r ∨ (dot :: r) <:+ d) := by
  rw [trieMatch_insert, Bool.or_eq_true, matchDomainSuffix_iff]; rfl

/-- any of the three suffix builders, filled by `Insert` in any order, decides the declarative language -/
theorem suffix_builder_spec (b : SuffixB) (hb : b.IsEmpty) (rs : List Str) (d : Str) :
    (rs.foldl SuffixB.insert b).lang d = true ↔ ∃ r ∈ rs, d = r ∨ (dot :: r) <:+ d := by
  rw [SuffixB.lang_foldl_insert, SuffixB.lang_empty b hb]
  simp [SuffixOf]

example : (SuffixB.trie .nil).IsEmpty := rfl

/-- `domain` rules: the linear and the map matcher accept exactly the rules themselves -/
theorem domain_spec (rs : List Str) (d : Str) :
    ((DomainB.linear rs).lang d = true ↔ d ∈ rs)
    ∧ ((rs.foldl DomainB.insert (DomainB.map [])).lang d = true ↔ d ∈ rs) := by
  constructor
  · simp [DomainB.lang]
  · exact (DomainB.lang_fill (b := .map []) trivial rfl rs d).2

/-- the binary-search matcher (`slices.BinarySearch` on a slice kept ascending by `Insert`) accepts exactly the inserted
rules too, and such a builder is `Regular` (so the round-trip theorems below apply to it) -/
theorem domain_bsearch_spec (rs : List DomainSet.Str) (d : DomainSet.Str) :
    ((rs.foldl DomainB.insert (DomainB.bsearch [])).lang d = true ↔ d ∈ rs)
    ∧ ∀ (s : SuffixB) (k r : List DomainSet.Str), (match s with | .trie root => root.WF | _ => True) →
        (⟨rs.foldl DomainB.insert (DomainB.bsearch []), s, k, r⟩ : Builder).Regular := by
  obtain ⟨hs, hl⟩ := DomainB.lang_fill (b := .bsearch []) List.Pairwise.nil rfl rs d
  exact ⟨hl, fun s k r hw => ⟨hs.regular, hw⟩⟩

/-- `keyword` rules: substring (infix) -/
theorem keyword_spec (kws : List Str) (d : Str) :
    keywordMatch kws d = true ↔ ∃ k ∈ kws, ∃ pre post, d = pre ++ k ++ post := by
  rw [keywordMatch_iff]
  exact exists_congr fun k => and_congr_right fun _ => exists_congr fun pre => exists_congr fun post => eq_comm

/-- `threshold_irrelevant`: whatever `MaxLinearDomains` / `MaxLinearSuffixes` are, the set built by `Builder.DomainSet()`
decides the builder's language (union of the four kinds; regexps are the opaque `re`), and whether construction
fails (an uncompilable regexp) does not depend on them. Holds for every builder kind in every slot. -/
theorem threshold_irrelevant (re : Str → Str → Bool) (reOk : Str → Bool) (mD mS mD' mS' : Nat) (b : Builder) (d : Str) :
    (b.domainSetWith mD mS reOk).map (fun ms => matchSet re ms d)
      = (b.domainSetWith mD' mS' reOk).map (fun ms => matchSet re ms d) := by
  rw [domainSetWith_map, domainSetWith_map]

/-- the set built with the thresholds of the source decides the builder's language -/
theorem domainset_language (re : Str → Str → Bool) (reOk : Str → Bool) (b : Builder) (ms : List Matcher)
    (h : b.domainSet reOk = some ms) (d : Str) : matchSet re ms d = b.lang re d := by
  have := domainSetWith_map re reOk SSV.Gen.C10.MaxLinearDomains SSV.Gen.C10.MaxLinearSuffixes b d
  rw [show b.domainSetWith _ _ reOk = some ms from h] at this
  split at this
  · exact Option.some.inj this
  · cases this

example : (Builder.emptyText).domainSet (fun _ => true) = some [] := rfl

/-- `parse_sound`: when `Parse` returns nil, every comma-separated piece was a port 1..65535 or a range
1 ≤ lo < hi ≤ 65535, and the set holds exactly what it held before plus the union of the written pieces
(bit for bit, on every port 0..65535). -/
theorem parse_sound (ws ws' : Words) (s : PortSet.Str) (h : WF ws) (hp : PortSet.parse ws s = (ws', true)) :
    WF ws' ∧ ∃ its : List Item, (items s).mapM parseItem = some its ∧ (∀ it ∈ its, it.Valid) ∧
      ∀ q, q < 65536 → bitAt ws' q = (bitAt ws q || its.any (fun it => it.covers q)) :=
  parseItems_sound (items s) ws ws' h hp

example : PortSet.parseItem [49, 45, 51] = some (.range 1 3) := by decide
example : PortSet.parse PortSet.empty [] = (PortSet.empty, true) := rfl

/-- when `Parse` returns an error, some piece is malformed (`parseItem` refuses it) -/
theorem parse_reject (ws ws' : Words) (s : PortSet.Str) (hp : PortSet.parse ws s = (ws', false)) :
    ∃ piece ∈ items s, parseItem piece = none :=
  parseItems_reject (items s) ws ws' hp

example : PortSet.parse PortSet.empty [48] = (PortSet.empty, false) := rfl

/-- `strconv.ParseUint(s, 10, 16)` accepts exactly the non-empty all-digit strings of value ≤ 65535 -/
theorem parse_uint16_spec (s : PortSet.Str) (m : Nat) :
    parseUint16 s = some m ↔
      (s ≠ [] ∧ (∀ c ∈ s, 48 ≤ c.toNat ∧ c.toNat ≤ 57) ∧ decFrom 0 s = m ∧ m ≤ 65535) := parseUint16_iff s m

/-- port 0 is never put into a set by `Parse` -/
theorem parse_never_zero (ws ws' : Words) (s : PortSet.Str) (h : WF ws) (h0 : bitAt ws 0 = false)
    (hp : PortSet.parse ws s = (ws', true)) : bitAt ws' 0 = false := by
  obtain ⟨_, its, _, hv, hb⟩ := parse_sound ws ws' s h hp
  rw [hb 0 (by omega), h0, Bool.false_or, List.any_eq_false]
  intro it hit
  simp [covers_zero (hv it hit)]

/-- the written order and repetition of the pieces do not matter -/
theorem parse_order_irrelevant (ws w1 w2 : Words) (s1 s2 : PortSet.Str) (h : WF ws)
    (hsame : ∀ piece, piece ∈ items s1 ↔ piece ∈ items s2)
    (hp1 : PortSet.parse ws s1 = (w1, true)) (hp2 : PortSet.parse ws s2 = (w2, true)) :
    ∀ q, q < 65536 → bitAt w1 q = bitAt w2 q := by
  intro q hq
  rw [parse_bits h hp1 hq, parse_bits h hp2 hq, Bool.eq_iff_iff]
  simp only [Bool.or_eq_true, List.any_eq_true, hsame]

/-- parsing the same text again changes nothing -/
theorem parse_idempotent (ws w1 w2 : Words) (s : PortSet.Str) (h : WF ws)
    (hp1 : PortSet.parse ws s = (w1, true)) (hp2 : PortSet.parse w1 s = (w2, true)) :
    ∀ q, q < 65536 → bitAt w2 q = bitAt w1 q := by
  intro q hq
  rw [parse_bits (parse_sound ws w1 s h hp1).1 hp2 hq, parse_bits h hp1 hq, Bool.or_assoc, Bool.or_self]

example : items [56, 48, 44, 52, 52, 51] = [[56, 48], [52, 52, 51]] ∧ items [52, 52, 51, 44, 56, 48] = [[52, 52, 51], [56, 48]] := by decide

/-- a port set is a canonical value: two sets that answer the membership test alike on every port 0..65535 are the
same block array, hence have the same `Count`, `RangeSet` and `First` -/
theorem portset_canonical (ws ws' : Words) (h : WF ws) (h' : WF ws')
    (hb : ∀ q, q < 65536 → bitAt ws q = bitAt ws' q) :
    ws = ws' ∧ count ws = count ws' ∧ rangeSet ws = rangeSet ws' ∧ first ws = first ws' := by
  cases words_ext h h' hb; exact ⟨rfl, rfl, rfl, rfl⟩

example : WF PortSet.empty ∧ WF (PortSet.add PortSet.empty 80) := ⟨WF_empty, WF_add WF_empty 80⟩

/-- `parse_order_irrelevant` at the level of the stored blocks (what `==` on two `PortSet` values compares) -/
theorem parse_order_irrelevant_blocks (ws w1 w2 : Words) (s1 s2 : PortSet.Str) (h : WF ws)
    (hsame : ∀ piece, piece ∈ items s1 ↔ piece ∈ items s2)
    (hp1 : PortSet.parse ws s1 = (w1, true)) (hp2 : PortSet.parse ws s2 = (w2, true)) : w1 = w2 :=
  words_ext (parse_sound ws w1 s1 h hp1).1 (parse_sound ws w2 s2 h hp2).1
    (parse_order_irrelevant ws w1 w2 s1 s2 h hsame hp1 hp2)

/-- `Add` commutes and is idempotent as an operation on values: the stored blocks do not depend on the order in which
ports were added, nor on how often -/
theorem add_comm_idem (ws : Words) (h : WF ws) (p q : Nat) (hp : p < 65536) (hq : q < 65536) :
    PortSet.add (PortSet.add ws p) q = PortSet.add (PortSet.add ws q) p ∧
    PortSet.add (PortSet.add ws p) p = PortSet.add ws p := by
  constructor
  · apply words_ext (WF_add (WF_add h p) q) (WF_add (WF_add h q) p)
    intro r hr
    rw [bitAt_add (WF_add h p) hq hr, bitAt_add h hp hr, bitAt_add (WF_add h q) hp hr, bitAt_add h hq hr,
      Bool.or_right_comm]
  · apply words_ext (WF_add (WF_add h p) p) (WF_add h p)
    intro r hr
    rw [bitAt_add (WF_add h p) hp hr, bitAt_add h hp hr, Bool.or_assoc, Bool.or_self]

example : (65535 : Nat) < 65536 ∧ (1 : Nat) < 65536 ∧ WF PortSet.empty := ⟨by decide, by decide, WF_empty⟩

/-- `AddRange` at the word level (masks, whole blocks, the guard at block 1024) set exactly the named bits -/
theorem add_range_bits (ws : Words) (h : WF ws) (a b q : Nat) (hab : a < b) (hb : b ≤ 65536) (hq : q < 65536) :
    bitAt (addRange ws a b) q = (bitAt ws q || (decide (a ≤ q) && decide (q < b))) ∧ WF (addRange ws a b) :=
  ⟨bitAt_addRange h hab hb hq, WF_addRange h a b⟩

/-- `parser_lines`: the lines `BuilderFromText` / `PrefixSetFromText` see are the LF-separated pieces with every trailing
CR removed and the empty ones dropped: CRLF vs LF, blank lines and a missing final line terminator make no difference
(this is the code after proposed_fixes/F18_c10_bytestrings.diff). -/
theorem parser_lines (text : DomainSet.Str) :
    nonEmptyLines text = ((splitOn LF text).map trimCR).filter (fun l => !l.isEmpty) := nonEmptyLines_spec text

/-- every rule the text parser produces can be written back on a line (non-empty, no LF, no CR at the end); its
exact-domain slot is a map and its suffix slot a well-formed trie -/
theorem parser_output_line_safe (text : DomainSet.Str) (b : Builder) (h : builderFromText text = .ok b) :
    (∀ r ∈ b.domains.rules, lineSafe r = true) ∧ (∀ r ∈ b.suffixes.rules, lineSafe r = true)
    ∧ (∀ r ∈ b.keywords, lineSafe r = true) ∧ (∀ r ∈ b.regexps, lineSafe r = true) ∧ b.Regular := by
  have tb := builderFromText_textBuilder h
  exact ⟨tb.safeD, tb.safeS, tb.safeK, tb.safeR, tb.regular⟩

/-- `text_roundtrip`: for every builder (any builder kinds) whose rules can be written on a line and that has at least
one rule, `BuilderFromText(WriteText(b))` succeeds and decides the same language (the rule *set* may be normalised:
duplicates dropped by the map, longer suffixes purged by the trie). Hypotheses are decidable except `Regular`
(trie well-formed / sorted slice agree with their rules), which every builder filled by `Insert` satisfies. -/
theorem text_roundtrip (re : DomainSet.Str → DomainSet.Str → Bool) (b : Builder) (hreg : b.Regular)
    (hd : ∀ r ∈ b.domains.rules, lineSafe r = true) (hs : ∀ r ∈ b.suffixes.rules, lineSafe r = true)
    (hk : ∀ r ∈ b.keywords, lineSafe r = true) (hr : ∀ r ∈ b.regexps, lineSafe r = true)
    (hne : b.domains.rules ≠ [] ∨ b.suffixes.rules ≠ [] ∨ b.keywords ≠ [] ∨ b.regexps ≠ [])
    (hsz : b.domains.rules.length < 2 ^ 63 ∧ b.suffixes.rules.length < 2 ^ 63 ∧ b.keywords.length < 2 ^ 63
      ∧ b.regexps.length < 2 ^ 63) :
    ∃ b', builderFromText b.writeText = .ok b' ∧ ∀ d, b'.lang re d = b.lang re d :=
  ⟨_, (builderFromText_writeText b (Builder.safeRules hd hs hk hr) hsz).trans (if_neg ((b.ruleList_ne_nil_iff).mpr hne)),
    fun d => (lang_load re _ d).trans (hreg.lang_eq re d).symm⟩

example : (⟨.linear [[97]], .trie .nil, [], []⟩ : Builder).Regular := ⟨trivial, trivial⟩

example (re : DomainSet.Str → DomainSet.Str → Bool) :
    ∃ b', builderFromText (⟨.linear [[97]], .trie .nil, [], []⟩ : Builder).writeText = .ok b'
      ∧ ∀ d, b'.lang re d = (⟨.linear [[97]], .trie .nil, [], []⟩ : Builder).lang re d :=
  text_roundtrip re _ ⟨trivial, trivial⟩ (by decide) (by decide) (by decide) (by decide) (Or.inl (by decide))
    (by decide)

/-- text → builder → text → builder: whatever text the parser accepts (CRLF, blank lines, comments, hints, …), writing
its builder out and reading it again succeeds and preserves the language, provided the text has at least one rule. -/
theorem text_rewrite_preserves_language (re : DomainSet.Str → DomainSet.Str → Bool) (text : DomainSet.Str) (b : Builder)
    (h : builderFromText text = .ok b)
    (hne : b.domains.rules ≠ [] ∨ b.suffixes.rules ≠ [] ∨ b.keywords ≠ [] ∨ b.regexps ≠ [])
    (hsz : b.domains.rules.length < 2 ^ 63 ∧ b.suffixes.rules.length < 2 ^ 63 ∧ b.keywords.length < 2 ^ 63
      ∧ b.regexps.length < 2 ^ 63) :
    ∃ b', builderFromText b.writeText = .ok b' ∧ ∀ d, b'.lang re d = b.lang re d := by
  obtain ⟨hd, hs, hk, hr, hreg⟩ := parser_output_line_safe text b h
  exact text_roundtrip re b hreg hd hs hk hr hne hsz

/-- a rule-less builder is written as a hint-only file, which the loader refuses as an empty set (not a language change:
there is no loaded form) -/
theorem text_roundtrip_empty (b : Builder)
    (he : b.domains.rules = [] ∧ b.suffixes.rules = [] ∧ b.keywords = [] ∧ b.regexps = []) :
    builderFromText b.writeText = .error .emptySet := by
  have e : b.ruleList = [] := by simp [Builder.ruleList, he.1, he.2.1, he.2.2.1, he.2.2.2]
  rw [builderFromText_writeText b (by simp [e]) (by simp [he.1, he.2.1, he.2.2.1, he.2.2.2]), if_pos e]

example : Builder.emptyText.domains.rules = [] ∧ Builder.emptyText.suffixes.rules = [] ∧ Builder.emptyText.keywords = []
    ∧ Builder.emptyText.regexps = [] := ⟨rfl, rfl, rfl, rfl⟩

/-- `gob_roundtrip`: converting any builder to its gob representation and back (gob itself = identity on the value,
trusted) preserves the language; for the builders of the loaders the conversion is the identity. -/
theorem gob_roundtrip (re : DomainSet.Str → DomainSet.Str → Bool) (b : Builder) (hreg : b.Regular) (d : DomainSet.Str) :
    (BuilderGob.ofBuilder b).builder.lang re d = b.lang re d := lang_gob re b hreg d

theorem gob_roundtrip_loader (m : List DomainSet.Str) (root : Children) (k r : List DomainSet.Str) :
    (BuilderGob.ofBuilder ⟨.map m, .trie root, k, r⟩).builder = ⟨.map m, .trie root, k, r⟩ := rfl

/-- a well-formed trie (every trie built by `Insert`) matches exactly the declarative language of its `Keys()`;
`Insert` keeps a trie well-formed -/
theorem trie_keys_spec (root : Children) (h : root.WF) (d : DomainSet.Str) :
    (trieMatch root d = true ↔ ∃ r ∈ trieKeys root, d = r ∨ (dot :: r) <:+ d)
    ∧ ∀ r, (trieInsert root r).WF :=
  ⟨trieMatch_iff_keys root h d, fun r => trieInsert_WF root r h⟩

example : Children.WF .nil := trivial

/-- `prefix_text_roundtrip`: a prefix set written by `PrefixSetToText` / `PrefixSetWriteText` is read back by
`PrefixSetFromText` as the same prefixes, given the `netip` print/parse round trip and that printed prefixes are
non-empty, have no LF, no trailing CR and do not start with '#'. -/
theorem prefix_text_roundtrip {P : Type} (parse : DomainSet.Str → Option P) (print : P → DomainSet.Str) (ps : List P)
    (hrt : ∀ p ∈ ps, parse (print p) = some p)
    (hsafe : ∀ p ∈ ps, lineSafe (print p) = true ∧ (print p).head? ≠ some hash) :
    SSV.PrefixSet.prefixSetFromText parse (SSV.PrefixSet.prefixSetToText print ps) = some ps := by
  unfold SSV.PrefixSet.prefixSetFromText SSV.PrefixSet.prefixSetToText SSV.PrefixSet.prefixLines
  have e : ps.flatMap (fun p => print p ++ [LF]) = (ps.map print).flatMap (fun l => l ++ [LF]) := by
    rw [List.flatMap_map]
  rw [e, nonEmptyLines_of_safe (ps.map print) (by
    intro l hl
    obtain ⟨p, hp, rfl⟩ := List.mem_map.mp hl
    exact (hsafe p hp).1)]
  have hf : (ps.map print).filter (fun l => l.head? != some hash) = ps.map print := by
    rw [List.filter_eq_self]
    intro l hl
    obtain ⟨p, hp, rfl⟩ := List.mem_map.mp hl
    simpa using (hsafe p hp).2
  rw [hf]
  exact SSV.PrefixSet.mapM_map_some parse print ps hrt

example : lineSafe [49, 48, 46, 48, 46, 48, 46, 48, 47, 56] = true := by decide

example : SSV.PrefixSet.prefixSetFromText (P := DomainSet.Str) some
    (SSV.PrefixSet.prefixSetToText id [[49, 48, 46, 48, 46, 48, 46, 48, 47, 56]]) = some [[49, 48, 46, 48, 46, 48, 46, 48, 47, 56]] :=
  prefix_text_roundtrip some id _ (by simp) (by decide)

/-- `capacity_hint_never_panics`: `BuilderFromText` hands the four hint numbers, clamped by the size of the text
(regenerated `hintClampDiv`, `hintClampAdd`; commit e3a55d9), to `make(map, d)`, `make([]string, 0, k)`, `make([]string, 0, r)`.
`builderFromTextX` has the precondition of `make([]string, 0, n)` (`n ≤ 2^44` on linux/amd64, else "makeslice: cap out of
range") as an explicit panic outcome. For every text below 2^47 bytes and EVERY hint value the outcome is that of the
panic-free parser: a hint can make loading fail only by being unparsable (`badHint`), never by its magnitude; and the
memory it can make the loader reserve (16 bytes per string header) is bounded by the size of the file. (Before the
clamp, keyword/regexp hints above 2^44 panicked and smaller absurd ones exhausted memory: the engine's child probe
re-runs those files.) -/
theorem capacity_hint_never_panics (text : DomainSet.Str) (hlen : text.length < 2 ^ 47) :
    builderFromTextX text = Load.ofExcept (builderFromText text)
    ∧ ∀ h, clampHint text h ≤ maxSliceCap ∧ clampHint text h * 16 ≤ 2 * text.length + 16 :=
  ⟨builderFromTextX_eq text hlen, fun h => ⟨clampHint_le_maxSliceCap text hlen h, by have := clampHint_le text h; omega⟩⟩

example : ([] : DomainSet.Str).length < 2 ^ 47 := by decide

/-- `dlc_reader_spec`: on a dlc file made of well-formed entry lines (`full:` / `domain:` / `keyword:` / `regexp:` value,
optionally one separator byte and `@attribute`; value non-empty without '@') the converter's reader — for every `-tag`
value — neither fails nor panics, and the builder it makes (which `WriteText` / `WriteGob` then write) decides exactly the
language the selected entries denote: `full:` = the name itself, `domain:` = the name or any subdomain (label boundary),
`keyword:` = substring, `regexp:` = the opaque `re`. -/
theorem dlc_reader_spec (re : DomainSet.Str → DomainSet.Str → Bool) (tag : DomainSet.Str) (es : List DlcEntry)
    (hw : ∀ e ∈ es, e.WellFormed) (hs : ∀ e ∈ es, lineSafe e.render = true) :
    ∃ b, builderFromDlc tag (dlcText es) = .ok b ∧
      ∀ d, b.lang re d = (es.filter (DlcEntry.selected tag)).any (fun e => e.matches re d) := by
  refine ⟨_, builderFromDlc_entries tag es hw hs, ?_⟩
  intro d
  rw [addEntries_eq, lang_load, List.any_map]
  simp only [Function.comp_def, DlcEntry.matches_toRule]

example : (DlcEntry.mk .domain [97, 46, 98] (some (32, [97, 100, 115]))).WellFormed :=
  ⟨by decide, by decide, by intro sep a h; injection h with h; injection h with h1 _; subst h1; decide⟩

/-- what one entry denotes, in the declarative terms of the other theorems -/
theorem dlc_entry_meaning (re : DomainSet.Str → DomainSet.Str → Bool) (e : DlcEntry) (d : DomainSet.Str) :
    e.matches re d = true ↔
      (match e.kind with
       | .full => d = e.value
       | .domain => d = e.value ∨ (dot :: e.value) <:+ d
       | .keyword => e.value <:+: d
       | .regexp => re e.value d = true) := by
  unfold DlcEntry.matches
  cases e.kind with
  | full => simp
  | domain => exact matchDomainSuffix_iff d e.value
  | keyword => exact containsSub_iff d e.value
  | regexp => rfl

/-- `dlc_converted_forms`: the gob form written from the reader's builder decides the same language, and so does its
text form after re-reading, provided the values can be written on a line and some entry is selected. -/
theorem dlc_converted_forms (re : DomainSet.Str → DomainSet.Str → Bool) (tag : DomainSet.Str) (es : List DlcEntry)
    (hv : ∀ e ∈ es, lineSafe e.value = true) :
    let b := addEntries tag Builder.emptyText es
    (∀ d, (BuilderGob.ofBuilder b).builder.lang re d = b.lang re d) ∧
    ((b.domains.rules ≠ [] ∨ b.suffixes.rules ≠ [] ∨ b.keywords ≠ [] ∨ b.regexps ≠ []) →
      (b.domains.rules.length < 2 ^ 63 ∧ b.suffixes.rules.length < 2 ^ 63 ∧ b.keywords.length < 2 ^ 63
        ∧ b.regexps.length < 2 ^ 63) →
      ∃ b', builderFromText b.writeText = .ok b' ∧ ∀ d, b'.lang re d = b.lang re d) := by
  intro b
  have tb := addEntries_textBuilder tag es Builder.emptyText TextBuilder.emptyText hv
  have hreg := tb.regular
  exact ⟨fun d => lang_gob re b hreg d,
    fun hne hsz => text_roundtrip re b hreg tb.safeD tb.safeS tb.safeK tb.safeR hne hsz⟩

end SSV.C10

#print axioms SSV.C10.gen_prefix_facts
#print axioms SSV.C10.gen_portset_geometry
#print axioms SSV.C10.rangeset_eq_bitset
#print axioms SSV.C10.rangeset_eq_bitset_zero
#print axioms SSV.C10.rangeset_sorted_disjoint
#print axioms SSV.C10.rangecount_eq
#print axioms SSV.C10.range_binary_search
#print axioms SSV.C10.router_port_criteria_agree
#print axioms SSV.C10.single_port_criterion
#print axioms SSV.C10.suffix_spec
#print axioms SSV.C10.match_domain_suffix_spec
#print axioms SSV.C10.suffix_matchers_agree
#print axioms SSV.C10.trie_insert_spec
#print axioms SSV.C10.suffix_builder_spec
#print axioms SSV.C10.domain_spec
#print axioms SSV.C10.domain_bsearch_spec
#print axioms SSV.C10.keyword_spec
#print axioms SSV.C10.threshold_irrelevant
#print axioms SSV.C10.domainset_language
#print axioms SSV.C10.parse_sound
#print axioms SSV.C10.parse_reject
#print axioms SSV.C10.parse_uint16_spec
#print axioms SSV.C10.parse_never_zero
#print axioms SSV.C10.add_range_bits
#print axioms SSV.C10.parser_lines
#print axioms SSV.C10.parser_output_line_safe
#print axioms SSV.C10.text_roundtrip
#print axioms SSV.C10.text_rewrite_preserves_language
#print axioms SSV.C10.text_roundtrip_empty
#print axioms SSV.C10.gob_roundtrip
#print axioms SSV.C10.gob_roundtrip_loader
#print axioms SSV.C10.trie_keys_spec
#print axioms SSV.C10.prefix_text_roundtrip
#print axioms SSV.C10.capacity_hint_never_panics
#print axioms SSV.C10.dlc_reader_spec
#print axioms SSV.C10.dlc_entry_meaning
#print axioms SSV.C10.dlc_converted_forms
#print axioms SSV.C10.parse_order_irrelevant
#print axioms SSV.C10.parse_idempotent
#print axioms SSV.C10.portset_canonical
#print axioms SSV.C10.parse_order_irrelevant_blocks
#print axioms SSV.C10.add_comm_idem
