import SSV.Proofs.PacketRelay
import SSV.Proofs.PacketHistory
import SSV.Model.PacketRefused
import SSV.Model.PacketUsers
/-
C05 — UDP packets survive pack/unpack unchanged and never exceed the path MTU.
The model is SSV/Model/Packet*.lean; every offset formula, headroom literal, layout expression and translated statement
list in it comes from SSV/Gen/C05.lean, which is regenerated from the source on every run.

`norm` (Addr.norm / AddrPort.norm) is the identity except: an IPv4-mapped IPv6 address comes out as the IPv4
address, and the zero `conn.Addr` comes out as 0.0.0.0:0 — the wire format the code chooses
(`socks5.WriteAddrFromAddrPort`, `WriteAddrFromConnAddr`).
-/
namespace SSV.C05
open SSV SSV.Packet SSV.Gen.C05

theorem norm_id_ip (ap : AddrPort) (h : ap.ip.v4family = false) : (Addr.ip ap).norm = .ip ap := by
  simp [Addr.norm, AddrPort.norm, IP.norm, h]
theorem norm_id_v4 (a : Bytes) (p : Nat) : (Addr.ip ⟨.v4 a, p⟩).norm = .ip ⟨.v4 a, p⟩ := by
  simp [Addr.norm, AddrPort.norm, IP.norm, IP.v4family, IP.as4]
theorem norm_id_dom (n : Bytes) (p : Nat) : (Addr.dom n p).norm = .dom n p := rfl
theorem norm_mapped (a : Bytes) (p : Nat) (h : (IP.v6 a).v4family = true) :
    (Addr.ip ⟨.v6 a, p⟩).norm = .ip ⟨.v4 (a.drop 12), p⟩ := by
  simp [Addr.norm, AddrPort.norm, IP.norm, h, IP.as4]

/-- The SOCKS address codec: what `WriteAddrFromConnAddr` writes, `ConnAddrFromSlice` reads back as the
normalised address, consuming exactly `LengthOfAddrFromConnAddr` bytes, whatever follows. -/
theorem addr_codec_roundtrip (a : Addr) (rest : Bytes) (h : a.wf) :
    decodeAddr (encodeAddr a ++ rest) = .ok (a.norm, (addrLen a).toNat) :=
  decodeAddr_encodeAddr a rest h

theorem addrport_codec_roundtrip (a : AddrPort) (rest : Bytes) (h : a.wf) :
    decodeAddrPort (encodeAddrPort a ++ rest) = .ok (a.norm, (addrPortLen a).toNat) :=
  decodeAddrPort_encodeAddrPort a rest h

/-- `roundtrip_p` of DESIGN §5 for p = none, SOCKS5, client → server (`hdr3 = false`: Shadowsocks none, `true`: SOCKS5):
whatever the buffer, offsets and limit, if the client packer succeeds then the server unpacker, run on the
packet it produced, returns the normalised address and the payload window, and the payload bytes are unchanged. -/
theorem roundtrip_plain_up (hdr3 : Bool) (limit : Int) (b : Bytes) (a : Addr) (ps pl : Nat) (r : Packed)
    (ha : a.wf) (hpay : ps + pl ≤ b.length) (h : plainClientPack hdr3 limit b a ps pl = .ok r) :
    plainServerUnpack hdr3 r.buf r.packetStart.toNat r.packetLen.toNat = .ok ⟨r.buf, a.norm, ps, pl⟩ ∧
    sub r.buf ps pl = sub b ps pl :=
  plainServerUnpack_eq .. ▸ plain_roundtrip hdr3 _ a.norm (decodeAddr_encodeAddr_len a ha) hpay (plainClientPack_eq hdr3 limit b a ps pl ha ▸ h)

/-- `roundtrip_p` for p = none, SOCKS5, server → client. -/
theorem roundtrip_plain_down (hdr3 : Bool) (limit : Int) (server pktSrc : AddrPort) (hfrom : mappedEqual pktSrc server = true)
    (b : Bytes) (a : AddrPort) (ps pl : Nat) (r : Packed)
    (ha : a.wf) (hpay : ps + pl ≤ b.length) (h : plainServerPack hdr3 b a ps pl limit = .ok r) :
    plainClientUnpack hdr3 server pktSrc r.buf r.packetStart.toNat r.packetLen.toNat = .ok ⟨r.buf, a.norm, ps, pl⟩ ∧
    sub r.buf ps pl = sub b ps pl := by
  rw [plainClientUnpack_eq, if_neg (not_not_intro hfrom)]
  exact plain_roundtrip hdr3 _ a.norm (decodeAddrPort_encodeAddrPort_len a ha) hpay
    (plainClientPack_eq hdr3 limit b (.ip a) ps pl ha ▸ plainServerPack_ip .. ▸ h)

/-- `roundtrip_p` for p = ss2022, client → server, any number of identity headers, any padding policy / random draw /
timestamp / ids, any AEAD and block cipher satisfying the laws: the server side (separate header decrypted with
the packer's block key, `nonAEADHeaderLen = 16 + 16·k`, same session key, clock within `MaxEpochDiff` of the
packet's timestamp) returns the normalised address and the payload in place, and touches nothing outside the packet. -/
theorem roundtrip_ss2022_up (c : Crypto) (L : c.Laws) (userBlock aeadKey : Bytes) (eih : List (Bytes × Bytes)) (mps : Int)
    (pol : Policy) (b : Bytes) (a : Addr) (ps pl rand : Nat) (ts sid pid : Bytes) (now : Int) (r : Packed)
    (ha : a.wf) (hts : ts.length = 8) (hsid : sid.length = 8) (hpid : pid.length = 8)
    (hh : ∀ kh ∈ eih, kh.2.length = 16) (hnow : tsOk ts now = true)
    (h : ssClientPack c userBlock aeadKey eih mps pol b a ps pl rand ts sid pid = .ok r) :
    ∃ u, ssServerUnpack c (ssBlock userBlock eih) aeadKey eih.length false [] now r.buf r.packetStart.toNat r.packetLen.toNat = .ok u ∧
      u.addr = a.norm ∧ u.payloadStart = ps ∧ u.payloadLen = pl ∧ sub u.buf ps pl = sub b ps pl ∧
      u.buf.length = b.length ∧ u.buf.take r.packetStart.toNat = r.buf.take r.packetStart.toNat ∧
      u.buf.drop (r.packetStart + r.packetLen).toNat = r.buf.drop (r.packetStart + r.packetLen).toNat :=
  ss_roundtrip_up L ha hts hsid hpid false [] aeadKey hh hnow rfl h

/-- `roundtrip_p` for p = ss2022, client → MULTI-USER server (the real server path with one identity layer): the server knows only
the iPSK block key `ik` and the user map `users` = (PSK hash, user PSK). It decrypts the separate header and the
identity header with `ik`, XORs, looks the hash up, derives the session key of THAT user from the client session id
(`kdf psk sid`) and unpacks. Hypothesis on the user set, stated explicitly: the client's user `(hu, pu)` is in the
map and every entry with hash `hu` carries the PSK `pu` (hash-injectivity on the user set: two users with the same
truncated BLAKE3 hash are indistinguishable to the server). Any number and order of other users. -/
theorem roundtrip_ss2022_up_multiuser (c : Crypto) (L : c.Laws) (kdf : Bytes → Bytes → Bytes) (userBlock ik hu pu : Bytes)
    (users : List (Bytes × Bytes)) (mps : Int) (pol : Policy) (b : Bytes) (a : Addr) (ps pl rand : Nat)
    (ts sid pid : Bytes) (now : Int) (r : Packed)
    (ha : a.wf) (hts : ts.length = 8) (hsid : sid.length = 8) (hpid : pid.length = 8) (hhu : hu.length = 16)
    (hnow : tsOk ts now = true)
    (hmem : (hu, pu) ∈ users) (hinj : ∀ u ∈ users, u.1 = hu → u.2 = pu)
    (h : ssClientPack c userBlock (kdf pu sid) [(ik, hu)] mps pol b a ps pl rand ts sid pid = .ok r) :
    ∃ u, ssServerUnpackMU c kdf ik users now r.buf r.packetStart.toNat r.packetLen.toNat = .ok u ∧
      u.addr = a.norm ∧ u.payloadStart = ps ∧ u.payloadLen = pl ∧ sub u.buf ps pl = sub b ps pl ∧
      u.buf.length = b.length ∧ u.buf.take r.packetStart.toNat = r.buf.take r.packetStart.toNat ∧
      u.buf.drop (r.packetStart + r.packetLen).toNat = r.buf.drop (r.packetStart + r.packetLen).toNat := by
  have hh : ∀ kh ∈ [(ik, hu)], kh.2.length = 16 := by simp [hhu]
  have hsep := sep_length hsid hpid
  -- the separate header decrypts to the client session id: the salt of the session key
  have hdec : c.dec ik (sub r.buf r.packetStart.toNat 16) = sid ++ pid := by
    obtain ⟨q, _, P, -, rfl, hst, -, hbuf, hfit, -, -⟩ := ssClientPack_packet L ha hts hsid hpid hh h
    rw [hst, Int.toNat_natCast, hbuf]
    rw [List.append_assoc] at hfit ⊢
    exact spliced_sep c L b q _ _ _ hsep hfit
  rw [ssServerUnpackMU, hdec, List.take_left' hsid]
  obtain ⟨u, hrun, hrest⟩ := ss_roundtrip_up L ha hts hsid hpid true (users.map fun u => (u.1, kdf u.2 sid)) [] hh hnow
    (by rw [ssBlock, ssIds_first L ik hu [] hhu hsep]; exact lookup_user users (fun p => kdf p sid) hu pu hmem hinj) h
  exact ⟨u, hrun, hrest⟩

/-- `roundtrip_p` for p = ss2022, server → client: a fresh client unpacker (first packet of the server session), same block
and session key, its own session id in the header, clock within `MaxEpochDiff`. -/
theorem roundtrip_ss2022_down (c : Crypto) (L : c.Laws) (block aeadKey : Bytes) (pol : Policy) (b : Bytes) (a : AddrPort)
    (ps pl : Nat) (lim : Int) (rand : Nat) (ts ssid spid csid : Bytes) (now : Int) (r : Packed)
    (ha : a.wf) (hts : ts.length = 8) (hssid : ssid.length = 8) (hspid : spid.length = 8) (hcs : csid.length = 8)
    (hnow : tsOk ts now = true)
    (h : ssServerPack c block aeadKey pol b a ps pl lim rand ts ssid spid csid = .ok r) :
    ∃ u, ssClientUnpack c block aeadKey csid now r.buf r.packetStart.toNat r.packetLen.toNat = .ok u ∧
      u.addr = a.norm ∧ u.payloadStart = ps ∧ u.payloadLen = pl ∧ sub u.buf ps pl = sub b ps pl ∧
      u.buf.length = b.length ∧ u.buf.take r.packetStart.toNat = r.buf.take r.packetStart.toNat ∧
      u.buf.drop (r.packetStart + r.packetLen).toNat = r.buf.drop (r.packetStart + r.packetLen).toNat :=
  ss_roundtrip_down L ha hts hssid hspid hcs hnow h

/-- `roundtrip_p` for p = direct: the direct unpackers leave buffer and window alone (the server names its tunnel address). -/
theorem roundtrip_direct (target : Addr) (src : AddrPort) (b : Bytes) (ps pl : Nat) :
    directServerUnpack target b ps pl = .ok ⟨b, target, ps, pl⟩ ∧
    directClientUnpack src b ps pl = .ok ⟨b, src, ps, pl⟩ := ⟨rfl, rfl⟩

/-- `MaxPacketSizeForAddr` leaves room for the real IP and UDP headers (IPv4 20, IPv6 40 + 8 for the jumbo
payload option above 65575, UDP 8: literals of the RFCs, not of the source). -/
theorem max_packet_size_fits_mtu (mtu : Int) (v4 : Bool) :
    maxPacketSizeForAddr mtu v4 + (if v4 then 20 else if mtu > 65575 then 48 else 40) + 8 ≤ mtu := by
  unfold maxPacketSizeForAddr
  cases v4
  · by_cases h : mtu > 65575 <;> simp [h] <;> omega
  · simp only [if_true]; omega

/-- `mtu_bound_p` for p = none, SOCKS5 (client and, below, server): success ⇒ `packetLen ≤ limit` and the packet is exactly
header ++ payload (no truncation); with enough front space the packer fails iff the packet cannot fit. -/
theorem mtu_bound_plain_client (hdr3 : Bool) (limit : Int) (b : Bytes) (a : Addr) (ps pl : Nat) (ha : a.wf) :
    (∀ r, plainClientPack hdr3 limit b a ps pl = .ok r →
      r.packetLen ≤ limit ∧ r.packetLen = (pl : Int) + (plainHead hdr3 (encodeAddr a)).length) ∧
    ((plainHead hdr3 (encodeAddr a)).length ≤ ps → ps ≤ b.length →
      (plainClientPack hdr3 limit b a ps pl = .err .tooBig ↔ (pl : Int) + (plainHead hdr3 (encodeAddr a)).length > limit)) := by
  rw [plainClientPack_eq hdr3 limit b a ps pl ha]
  exact ⟨fun _ h => by obtain ⟨_, _, _, h4, h5, _⟩ := plainPack_ok h; exact ⟨h5, h4⟩, plainPack_tooBig_iff _ limit b ps pl⟩

theorem mtu_bound_plain_server (hdr3 : Bool) (limit : Int) (b : Bytes) (a : AddrPort) (ps pl : Nat) (ha : a.wf) :
    (∀ r, plainServerPack hdr3 b a ps pl limit = .ok r →
      r.packetLen ≤ limit ∧ r.packetLen = (pl : Int) + (plainHead hdr3 (encodeAddrPort a)).length) ∧
    ((plainHead hdr3 (encodeAddrPort a)).length ≤ ps → ps ≤ b.length →
      (plainServerPack hdr3 b a ps pl limit = .err .tooBig ↔ (pl : Int) + (plainHead hdr3 (encodeAddrPort a)).length > limit)) := by
  rw [plainServerPack_ip]
  exact mtu_bound_plain_client hdr3 limit b (.ip a) ps pl ha

/-- `mtu_bound_p` for p = ss2022 (client): success ⇒ `packetLen ≤ maxPacketSize`, the packet is
separate header ++ identity headers ++ message header (with `pad ≤ 65535` bytes of padding) ++ payload ++ tag. -/
theorem mtu_bound_ss2022_client (c : Crypto) (userBlock aeadKey : Bytes) (eih : List (Bytes × Bytes)) (mps : Int) (pol : Policy)
    (b : Bytes) (a : Addr) (ps pl rand : Nat) (ts sid pid : Bytes) (r : Packed) (ha : a.wf)
    (h : ssClientPack c userBlock aeadKey eih mps pol b a ps pl rand ts sid pid = .ok r) :
    r.packetLen ≤ mps ∧ ∃ pad : Nat, pad ≤ 65535 ∧ r.packetLen = ((ssFront eih.length a pad + pl + 16 : Nat) : Int) := by
  rw [ssClientPack_eq, wf_not_domTooLong ha, if_neg Bool.false_ne_true] at h
  obtain ⟨_, padding, h1, _, _, h4, _, h6, _⟩ := ssPackAt_ok (ssClientOffsets_good _ ha _ _ _) h
  exact ⟨h4, padding.length, h1, h6⟩

/-- `mtu_bound_p` for p = ss2022 (server): success ⇒ `packetLen ≤ maxPacketLen`, no truncation. -/
theorem mtu_bound_ss2022_server (c : Crypto) (block aeadKey : Bytes) (pol : Policy) (b : Bytes) (a : AddrPort)
    (ps pl : Nat) (lim : Int) (rand : Nat) (ts ssid spid csid : Bytes) (r : Packed)
    (h : ssServerPack c block aeadKey pol b a ps pl lim rand ts ssid spid csid = .ok r) :
    r.packetLen ≤ lim ∧ ∃ pad : Nat, pad ≤ 65535 ∧ r.packetLen = ((ssSFront a pad + pl + 16 : Nat) : Int) := by
  rw [ssServerPack_eq] at h
  obtain ⟨_, padding, h1, _, _, h4, _, h6, _⟩ := ssPackAt_ok (ssServerOffsets_good a _ _ _) h
  exact ⟨h4, padding.length, h1, h6⟩

/-- the ss2022 packers report too little front space as `ErrPayloadTooBig` and otherwise never panic nor lack
seal room once 16 bytes follow the payload (the rear half of the headroom) -/
theorem ss2022_pack_safe (c : Crypto) (userBlock aeadKey : Bytes) (eih : List (Bytes × Bytes)) (mps : Int) (pol : Policy)
    (b : Bytes) (a : Addr) (src : AddrPort) (ps pl rand : Nat) (ts sid pid csid : Bytes) (ha : a.wf)
    (hroom : ps + pl + 16 ≤ b.length) :
    (ssClientPack c userBlock aeadKey eih mps pol b a ps pl rand ts sid pid).safe ∧
    (ssServerPack c userBlock aeadKey pol b src ps pl mps rand ts sid pid csid).safe :=
  ⟨ssClientPack_safe c userBlock aeadKey eih mps pol b a ps pl rand ts sid pid ha hroom,
   ssServerPack_safe c userBlock aeadKey pol b src ps pl mps rand ts sid pid csid hroom⟩

/-- …and without those 16 bytes the outcome is `noRoom` (Go seals into a fresh allocation): the rear headroom is needed -/
theorem ss2022_pack_needs_rear : ssClientPack toyCrypto [1] [2] [] 1452 .noPadding (List.replicate 50 0) (.ip ⟨.v4 [1, 2, 3, 4], 53⟩)
    34 10 0 [0, 0, 0, 0, 0, 0, 0, 0] [0, 0, 0, 0, 0, 0, 0, 1] [0, 0, 0, 0, 0, 0, 0, 2] = .noRoom := by rfl

/-- `frame_p` for p = ss2022: the client packer, then the server packer -/
theorem frame_ss2022_client (c : Crypto) (L : c.Laws) (userBlock aeadKey : Bytes) (eih : List (Bytes × Bytes)) (mps : Int)
    (pol : Policy) (b : Bytes) (a : Addr) (ps pl rand : Nat) (ts sid pid : Bytes) (r : Packed)
    (ha : a.wf) (hts : ts.length = 8) (hsid : sid.length = 8) (hpid : pid.length = 8)
    (hh : ∀ kh ∈ eih, kh.2.length = 16)
    (h : ssClientPack c userBlock aeadKey eih mps pol b a ps pl rand ts sid pid = .ok r) :
    r.buf.length = b.length ∧ r.buf.take r.packetStart.toNat = b.take r.packetStart.toNat ∧
    r.buf.drop (r.packetStart + r.packetLen).toNat = b.drop (r.packetStart + r.packetLen).toNat := by
  obtain ⟨q, _, P, -, -, hst, hln, hbuf, hfit, -, -⟩ := ssClientPack_packet L ha hts hsid hpid hh h
  exact packed_frame b q P.length P r hst hln hbuf (Nat.le_refl _) hfit

theorem frame_ss2022_server (c : Crypto) (L : c.Laws) (block aeadKey : Bytes) (pol : Policy) (b : Bytes) (a : AddrPort)
    (ps pl : Nat) (lim : Int) (rand : Nat) (ts ssid spid csid : Bytes) (r : Packed)
    (ha : a.wf) (hts : ts.length = 8) (hssid : ssid.length = 8) (hspid : spid.length = 8) (hcs : csid.length = 8)
    (h : ssServerPack c block aeadKey pol b a ps pl lim rand ts ssid spid csid = .ok r) :
    r.buf.length = b.length ∧ r.buf.take r.packetStart.toNat = b.take r.packetStart.toNat ∧
    r.buf.drop (r.packetStart + r.packetLen).toNat = b.drop (r.packetStart + r.packetLen).toNat := by
  obtain ⟨q, _, P, -, -, hst, hln, hbuf, hfit, -, -⟩ := ssServerPack_packet L ha hts hssid hspid hcs h
  exact packed_frame b q P.length P r hst hln hbuf (Nat.le_refl _) hfit


/-- `frame_p` for p = none, SOCKS5 (client, then server): nothing outside `[packetStart, packetStart+packetLen)` is written. -/
theorem frame_plain_client (hdr3 : Bool) (limit : Int) (b : Bytes) (a : Addr) (ps pl : Nat) (r : Packed)
    (ha : a.wf) (hpay : ps + pl ≤ b.length) (h : plainClientPack hdr3 limit b a ps pl = .ok r) :
    r.buf.length = b.length ∧ r.buf.take r.packetStart.toNat = b.take r.packetStart.toNat ∧
    r.buf.drop (r.packetStart + r.packetLen).toNat = b.drop (r.packetStart + r.packetLen).toNat :=
  plainPack_frame _ limit b ps pl r (plainClientPack_eq hdr3 limit b a ps pl ha ▸ h)

theorem frame_plain_server (hdr3 : Bool) (limit : Int) (b : Bytes) (a : AddrPort) (ps pl : Nat) (r : Packed)
    (ha : a.wf) (hpay : ps + pl ≤ b.length) (h : plainServerPack hdr3 b a ps pl limit = .ok r) :
    r.buf.length = b.length ∧ r.buf.take r.packetStart.toNat = b.take r.packetStart.toNat ∧
    r.buf.drop (r.packetStart + r.packetLen).toNat = b.drop (r.packetStart + r.packetLen).toNat :=
  frame_plain_client hdr3 limit b (.ip a) ps pl r ha hpay (plainServerPack_ip .. ▸ h)

/-- `frame_p` on refusal, p = none, SOCKS5 (client, then server packer): a refused pack is `ErrPayloadTooBig`; the code has by then STILL
written the header (the write follows the size check), and the buffer it leaves (`plainClientPackRefusedBuf`, compared
with the real buffer by the correspondence run) differs from the input only inside `[payloadStart − |header|, payloadStart)`:
the payload and everything behind it, and everything in front of the header, are untouched. -/
theorem frame_refused_plain_client (hdr3 : Bool) (limit : Int) (b : Bytes) (a : Addr) (ps pl : Nat) (e : Err) (ha : a.wf)
    (h : plainClientPack hdr3 limit b a ps pl = .err e) :
    e = .tooBig ∧ (plainHead hdr3 (encodeAddr a)).length ≤ ps ∧ ps ≤ b.length ∧
    (plainClientPackRefusedBuf hdr3 b a ps).length = b.length ∧
    (plainClientPackRefusedBuf hdr3 b a ps).take (ps - (plainHead hdr3 (encodeAddr a)).length) = b.take (ps - (plainHead hdr3 (encodeAddr a)).length) ∧
    (plainClientPackRefusedBuf hdr3 b a ps).drop ps = b.drop ps :=
  plainPack_refused _ limit b ps pl e (plainClientPack_eq hdr3 limit b a ps pl ha ▸ h)

theorem frame_refused_plain_server (hdr3 : Bool) (limit : Int) (b : Bytes) (a : AddrPort) (ps pl : Nat) (e : Err) (ha : a.wf)
    (h : plainServerPack hdr3 b a ps pl limit = .err e) :
    e = .tooBig ∧ (plainHead hdr3 (encodeAddrPort a)).length ≤ ps ∧ ps ≤ b.length ∧
    (plainServerPackRefusedBuf hdr3 b a ps).length = b.length ∧
    (plainServerPackRefusedBuf hdr3 b a ps).take (ps - (plainHead hdr3 (encodeAddrPort a)).length) = b.take (ps - (plainHead hdr3 (encodeAddrPort a)).length) ∧
    (plainServerPackRefusedBuf hdr3 b a ps).drop ps = b.drop ps :=
  frame_refused_plain_client hdr3 limit b (.ip a) ps pl e ha (plainServerPack_ip .. ▸ h)

/-- `frame_p` on refusal, p = ss2022 (packers): the only refusal is `ErrPayloadTooBig`. It comes from the padding guard,
which precedes every write of `PackInPlace`; that nothing is modified is read off the source and the model function (no
buffer operation before the guard), the theorem states the error kind. -/
theorem frame_refused_ss2022_pack (c : Crypto) (userBlock aeadKey : Bytes) (eih : List (Bytes × Bytes)) (mps : Int) (pol : Policy)
    (b : Bytes) (a : Addr) (src : AddrPort) (ps pl rand : Nat) (ts sid pid csid : Bytes) (e : Err) :
    (ssClientPack c userBlock aeadKey eih mps pol b a ps pl rand ts sid pid = .err e → e = .tooBig) ∧
    (ssServerPack c userBlock aeadKey pol b src ps pl mps rand ts sid pid csid = .err e → e = .tooBig) := by
  rw [ssClientPack_eq, ssServerPack_eq]
  refine ⟨fun h => ?_, ssPackAt_refused⟩
  split at h
  · cases h
  · exact ssPackAt_refused h

/-- The none / SOCKS5 / direct unpackers never write (a successful unpack returns the very buffer it was given; their
code contains no store into `b`). Left out: the ss2022 unpackers write inside the packet window BEFORE they can fail (the
separate header and the identity header are decrypted in place, a failed `Open` clears the plaintext area, a header error
leaves the opened plaintext); `Outcome.err` carries no buffer, so "a refused ss2022 unpack modifies only
`[packetStart, packetStart+packetLen)`" is checked by the oracle (`canary` / `canary-on-error`) only. -/
theorem frame_refused_unpack_partial (hdr3 : Bool) (b : Bytes) (q n : Nat) (target : Addr) (src : AddrPort) :
    (∀ u, plainServerUnpack hdr3 b q n = .ok u → u.buf = b) ∧
    (∀ server pktSrc u, plainClientUnpack hdr3 server pktSrc b q n = .ok u → u.buf = b) ∧
    (directServerUnpack target b q n = .ok ⟨b, target, q, n⟩) ∧ (directClientUnpack src b q n = .ok ⟨b, src, q, n⟩) :=
  ⟨fun _ h => plainUnpack_buf (plainServerUnpack_eq .. ▸ h),
   fun _ _ _ h => plainUnpack_buf ((ite_err_eq_ok ..).mp (plainClientUnpack_eq .. ▸ h)).2, rfl, rfl⟩

/-- `relay_safe`, uplink: every server protocol × client protocol (ss2022 with any number of identity headers on
either side), every padding policy / random draw, every `maxClientPackerHeadroom` dominating the client's, every
MTU, every packet of at most `packetBufRecvSize` bytes at `packetBufFrontHeadroom` of a buffer of `packetBufSize`
bytes: unpacking and re-packing in place neither index outside the buffer nor lack seal room. -/
theorem relay_safe_up (s : ServerU) (cp : ClientP) (hs : s.ok) (maxClient : Headroom) (mtu : Int) (b : Bytes) (n : Nat)
    (hmaxF : (clientPackerHeadroom cp.proto).front ≤ maxClient.front)
    (hmaxR : (clientPackerHeadroom cp.proto).rear ≤ maxClient.rear)
    (hb : (b.length : Int) = (uplinkLayout mtu maxClient s.proto).bufSize)
    (hn : (n : Int) ≤ (uplinkLayout mtu maxClient s.proto).recvSize) :
    (relayUplink s cp b (uplinkLayout mtu maxClient s.proto).front.toNat n).safe := by
  rw [relayUplink_eq]
  exact relay_safe_core s.run cp.run (fun a => a.wf ∧ a ≠ .zero) (clientNeed s.proto) (clientNeed cp.proto)
    (rearNeed s.proto) (rearNeed cp.proto) _ (relayHeadroom maxClient (serverUnpackerHeadroom s.proto)).rear _
    (serverU_safe s) (fun b q n u h => by
      obtain ⟨h1, h2, h3, h4⟩ := serverU_shape s hs b q n u h; exact ⟨h1, ⟨h2, h3⟩, h4⟩)
    (fun b a ps pl h => clientP_safe cp b a ps pl h.1 h.2)
    (fun a hdr h hh => relay_front_up s.proto cp.proto a h.1 hdr hh maxClient hmaxF)
    (relay_rear_core maxClient (serverUnpackerHeadroom s.proto) _ _ (clientHeadroom_rear cp.proto ▸ hmaxR)
      (Int.le_of_eq (clientHeadroom_rear s.proto)))
    (by simp only [relayHeadroom, relayHeadroomFront]; omega) (by simp only [relayHeadroom, relayHeadroomRear]; omega)
    (rearNeed_nonneg s.proto) b n hb hn

/-- `relay_safe`, downlink (`relayNatConnToServerConn*` of both services): every client protocol × server protocol,
every packet of at most `natConnRecvBufSize` bytes at `headroom.Front` of the buffer allocated there, every source
address, every `maxClientPacketSize`. The direct server packer is covered under `ServerP.ok`: with
`tunnelUDPTargetOnly` the tunnel address must be an IP address (finding F4 is the violation of this precondition). -/
theorem relay_safe_down (cu : ClientU) (sp : ServerP) (hc : cu.ok) (hsp : sp.ok) (session : Bool) (recvSize : Int)
    (src : AddrPort) (hsrc : src.wf) (b : Bytes) (n : Nat) (lim : Int)
    (hb : (b.length : Int) = (downlinkLayout session recvSize sp.proto cu.proto).bufSize)
    (hn : (n : Int) ≤ recvSize) :
    (relayDownlink cu sp src b (downlinkLayout session recvSize sp.proto cu.proto).front.toNat n lim).safe := by
  rw [relayDownlink_eq]
  exact relay_safe_core (cu.run src) (fun b a ps pl => sp.run b a ps pl lim) AddrPort.wf (serverNeed cu.proto) (serverNeed sp.proto)
    (rearNeed cu.proto) (rearNeed sp.proto) _ (relayHeadroom (serverPackerHeadroom sp.proto) (clientUnpackerHeadroom cu.proto)).rear _
    (clientU_safe cu src) (clientU_shape cu hc src hsrc)
    (fun b a ps pl h => serverP_safe sp hsp b a ps pl lim h)
    (fun a hdr _ hh => relay_front_down sp.proto cu.proto a hdr hh)
    (relay_rear_core (serverPackerHeadroom sp.proto) (clientUnpackerHeadroom cu.proto) _ _
      (Int.le_of_eq (serverHeadroom_rear sp.proto).symm) (Int.le_of_eq (serverHeadroom_rear cu.proto)))
    (by simp only [relayHeadroom, relayHeadroomFront]; omega) (by simp only [relayHeadroom, relayHeadroomRear]; omega)
    (rearNeed_nonneg cu.proto) b n
    (by rw [hb]; simp only [downlinkLayout, downlinkBufSize_udp_session, downlinkBufSize_udp_nat]; cases session <;> simp) hn

/-- the arithmetic core, front: needed front of the packer − actual header of the unpacker ≤ max(0, packerFront − unpackerFront) -/
theorem relay_front_arith (s c : Proto) (a : Addr) (ha : a.wf) (hdr : Int) (hhdr : clientNeed s a ≤ hdr) :
    clientNeed c a - hdr ≤ relayHeadroomFront (clientPackerHeadroom c).front (serverUnpackerHeadroom s).front :=
  relay_front_up s c a ha hdr hhdr (clientPackerHeadroom c) (Int.le_refl _)

/-- the precondition is needed: the direct server packer with `tunnelUDPTargetOnly` and a domain tunnel address
panics on the first reply (this is finding F4, owned by C06/C18; shown here only to justify `ServerP.ok`). -/
theorem direct_target_only_domain_panics (name : Bytes) (port : Nat) (b : Bytes) (src : AddrPort) (ps pl : Nat) (lim : Int) :
    directServerPack (.dom name port) true b src ps pl lim = .panic := rfl

/-- the abstract cryptography hypothesis `Crypto.Laws` is satisfiable (the driver's instance) -/
theorem crypto_laws_satisfiable : ∃ c : Crypto, c.Laws := ⟨toyCrypto, toyCrypto_laws⟩

/-- Histories, none / SOCKS5, client → server: for every sequence of (address, payload, start offset)
through ONE client packer and ONE server unpacker (with its `DomainCache`, in any state) over ONE reused buffer
(in any initial state, each packet written over whatever the earlier ones left), every packet comes out as
(norm address, payload) or is refused — independently of all earlier packets (same-length domains, IP targets in
between, refused packets in between). `PlainDelivered` pairs the i-th output with the i-th input. -/
theorem roundtrip_history_plain (hdr3 : Bool) (limit : Int) (steps : List PlainStep) (c : DomainCache) (b : Bytes)
    (h : ∀ x ∈ steps, x.addr.wf ∧ x.ps + x.payload.length ≤ b.length) :
    PlainDelivered steps (plainHist hdr3 limit (c, b) steps) :=
  hist_delivered (plainHistStep hdr3 limit) (plainHist hdr3 limit) PlainDelivered
    (fun x o => o = none ∨ o = some (x.addr.norm, x.payload)) (fun s steps => ∀ x ∈ steps, x.good s.2.length)
    (fun _ => trivial) (fun _ _ _ hp hd => ⟨hp, hd⟩)
    (fun s x t hg => by
      obtain ⟨hlen, hout⟩ := plainHistStep_spec hdr3 limit s.1 s.2 x (hg x (by simp))
      exact ⟨hout, fun y hy => by rw [hlen]; exact hg y (by simp [hy])⟩)
    steps (c, b) h

/-- Histories, ss2022, client → server (any number of identity headers; per packet its own padding draw, timestamp, packet id) -/
theorem roundtrip_history_ss2022 (p : SSPair) (hp : p.good) (steps : List SSStep) (c : DomainCache) (b : Bytes)
    (h : ∀ x ∈ steps, x.good b.length) :
    SSDelivered steps (ssHist p (c, b) steps) :=
  hist_delivered (ssHistStep p) (ssHist p) SSDelivered
    (fun x o => o = none ∨ o = some (x.addr.norm, x.payload)) (fun s steps => ∀ x ∈ steps, x.good s.2.length)
    (fun _ => trivial) (fun _ _ _ hp hd => ⟨hp, hd⟩)
    (fun s x t hg => by
      obtain ⟨hlen, hout⟩ := ssHistStep_spec p hp s.1 s.2 x (hg x (by simp))
      exact ⟨hout, fun y hy => by rw [hlen]; exact hg y (by simp [hy])⟩)
    steps (c, b) h

/-- Histories, direct client packer: for every sequence of targets through ONE direct client packer, with a resolver
that may answer or fail differently at every step (`res`), starting from the empty cache: every packet that is
packed leaves the payload window alone, respects the limit of its destination, and is addressed to its IP target,
or — for a domain target — to an address the resolver has given FOR THAT NAME at this or an earlier step
(never to another name's address, never to the zero address); `updateDomainIPCacheProg` is the source's. -/
theorem roundtrip_history_direct (mtu : Int) (steps : List DirectStep) (h : ∀ x ∈ steps, x.addr.wf) :
    DirectSound mtu [] steps (directHist updateDomainIPCacheProg mtu ⟨[], none⟩ steps) :=
  directHist_sound mtu steps [] ⟨[], none⟩ (Or.inl rfl) h

/-- Histories, none / SOCKS5, server → client: every sequence of replies through one server packer and one client
unpacker (which keeps no per-packet state: its server address is fixed) over one reused buffer -/
theorem roundtrip_history_plain_down (hdr3 : Bool) (limit : Int) (server pktSrc : AddrPort) (hfrom : mappedEqual pktSrc server = true)
    (steps : List PlainDownStep) (b : Bytes) (h : ∀ x ∈ steps, x.src.wf ∧ x.ps + x.payload.length ≤ b.length) :
    PlainDownDelivered steps (plainDownHist hdr3 limit server pktSrc b steps) :=
  hist_delivered (plainDownHistStep hdr3 limit server pktSrc) (plainDownHist hdr3 limit server pktSrc) PlainDownDelivered
    (fun x o => o = none ∨ o = some (x.src.norm, x.payload)) (fun b steps => ∀ x ∈ steps, x.good b.length)
    (fun _ => trivial) (fun _ _ _ hp hd => ⟨hp, hd⟩)
    (fun b x t hg => by
      obtain ⟨hlen, hout⟩ := plainDownHistStep_spec hdr3 limit server pktSrc hfrom b x (hg x (by simp))
      exact ⟨hout, fun y hy => by rw [hlen]; exact hg y (by simp [hy])⟩)
    steps b h

/-- Histories, ss2022, server → client: every sequence of replies of ONE server session (distinct packet ids, each with
its own padding draw and timestamp) through ONE `ShadowPacketClientUnpacker` with its per-session state (current /
old server session, the ids delivered in each, the one-minute rule), starting fresh or already following this
server session, over one reused buffer: every reply comes out as (norm source, payload) or is refused by the packer.
(`ssClientUnpackS` keeps the filters as sets of delivered ids; that the real filter refuses nothing newer than what
it has seen is C04's theorem.) -/
theorem roundtrip_history_ss2022_down (p : SSDownPair) (hp : p.good) (steps : List SSDownStep) (b : Bytes)
    (h : ∀ x ∈ steps, x.good b.length) (hnd : (steps.map (·.spid)).Nodup) :
    SSDownDelivered steps (ssDownHist p ({}, b) steps) :=
  ssDownHist_spec p hp steps [] {} b (Or.inl ⟨rfl, rfl, rfl⟩) h hnd (fun _ _ hm => by cases hm)

/-- the session rule the client unpacker applies: a second NEW server session less than a minute after the
previous change is refused (`ErrTooManyServerSessions`), not delivered -/
theorem client_unpacker_refuses_fast_session_change (c : Crypto) (block : Bytes) (keyOf : Bytes → Bytes) (csid : Bytes) (now t : Int)
    (st : CUState) (b : Bytes) (q n : Nat)
    (hsize : cUnpackTooSmall n = false) (h1 : sliceOk b q (cUnpackMessageHeaderStart q)) (h2 : sliceOk b (cUnpackMessageHeaderStart q) (q + n))
    (hcur : st.cur ≠ some ((c.dec block (sub b q 16)).take 8)) (hold : st.old ≠ some ((c.dec block (sub b q 16)).take 8))
    (hseen : st.oldLastSeen = some t) (hfast : now - t < 60) :
    ssClientUnpackS c block keyOf csid now st b q n = (st, .err .tooManySessions) := by
  unfold ssClientUnpackS
  simp [hsize, h1, h2, hcur, hold, hseen, hfast]

/-- why `cachedDomain` must be assigned only after a successful resolution: with the assignment moved before
`ResolveIP`, the history  a.test → 1.1.1.1 ; b.test → resolution fails ; b.test  packs the third packet without
error, addressed to a.test's address. -/
theorem resolver_cache_assigned_before_resolve_is_unsound :
    let prog : List ResOp := [.returnIfCached, .setDomain, .resolve, .returnOnErr, .setIP]
    let a : Bytes := [0x61]
    let b : Bytes := [0x62]
    (directHist prog 1500 ⟨[], none⟩
        [⟨.dom a 53, 0, 10, some (.v4 [1, 1, 1, 1])⟩, ⟨.dom b 53, 0, 10, none⟩, ⟨.dom b 53, 0, 10, none⟩]).map
      (fun o => match o with | .ok r => some r.dest | _ => none)
      = [some (some (.v4 [1, 1, 1, 1])), none, some (some (.v4 [1, 1, 1, 1]))] := by decide

/-- …whereas the source's order refuses the third packet as well -/
theorem resolver_cache_head_refuses :
    (directHist updateDomainIPCacheProg 1500 ⟨[], none⟩
        [⟨.dom [0x61] 53, 0, 10, some (.v4 [1, 1, 1, 1])⟩, ⟨.dom [0x62] 53, 0, 10, none⟩, ⟨.dom [0x62] 53, 0, 10, none⟩]).map
      (fun o => match o with | .ok r => some r.dest | _ => none)
      = [some (some (.v4 [1, 1, 1, 1])), none, none] := by decide

/-- In both downlink loops of the session relay (`relayNatConnToServerConnGeneric`,
`…Sendmmsg`; their refresh blocks are `SSV.Gen.C05.sessionRefresh{Generic,Mmsg}`, translated from the source),
after the session was opened from any address and its client address info changed any number of times to any
addresses (IPv4, IPv4-mapped IPv6, IPv6, in any order), the address packets are sent to is the latest one and the
`maxClientPacketSize` passed to `PackInPlace` is `MaxPacketSizeForAddr(mtu, that address)`.
(The NAT relays key their entries by the client address and compute the limit once from it; the call-site
inventory in Gen pins that.) -/
theorem relay_limit_current (mtu : Int) (a0 : AddrPort) (events : List AddrPort) (prog : List LimStmt)
    (hprog : prog = sessionRefreshGeneric ∨ prog = sessionRefreshMmsg) :
    (limRun mtu prog a0 events).dest = (events.getLast?).getD a0 ∧
    (limRun mtu prog a0 events).limit = maxPacketSize mtu (limRun mtu prog a0 events).dest.ip := by
  rw [limRun_current mtu prog (sessionRefresh_current mtu hprog) a0 events]
  exact ⟨rfl, rfl⟩

/-- why the refresh must not be guarded by `Is4()`: with `if caip.addrPort.Addr().Is4() != clientAddrPort.Addr().Is4()`
around the recomputation, a client that moves from ::ffff:127.0.0.1 (dual-stack socket: `Is4()` false, IPv4 limit)
to ::1 keeps the IPv4 limit 1472 although 1452 is the limit of its address. -/
theorem relay_limit_is4_guard_is_stale :
    let prog : List LimStmt := [⟨true, .setLimitFromNew⟩, ⟨false, .setInfoPtr⟩, ⟨false, .setAddrFromNew⟩,
      ⟨false, .setPktinfoFromNew⟩, ⟨false, .setDestFromCur⟩]
    let st := limRun 1500 prog ⟨.v6 (v4in6Prefix ++ [127, 0, 0, 1]), 4000⟩ [⟨.v6 [0, 0, 0, 0, 0, 0, 0, 0, 0, 0, 0, 0, 0, 0, 0, 1], 4000⟩]
    st.limit = 1472 ∧ maxPacketSize 1500 st.dest.ip = 1452 := by decide

/- The hypotheses of the theorems above are satisfiable. -/

example : (Addr.dom [0x61] 53).wf := by decide
example : (AddrPort.mk (.v6 (v4in6Prefix ++ [1, 2, 3, 4])) 53).wf := by decide
example : tsOk [0, 0, 0, 0, 0x66, 0xf0, 0xf0, 0xf0] 1727066352 = true := by decide
example : (SSPair.mk toyCrypto [1] [2] [] 1452 .padAll [0, 0, 0, 0, 0, 0, 0, 1]).good := ⟨toyCrypto_laws, rfl, by simp⟩
example : (SSStep.mk (.dom [0x61] 53) 40 [7, 7] 3 [0, 0, 0, 0, 0x66, 0xf0, 0xf0, 0xf0] [0, 0, 0, 0, 0, 0, 0, 2] 1727066352).good 100 :=
  ⟨by decide, by decide, rfl, rfl, by decide⟩
example : (SSDownPair.mk toyCrypto [1] (fun s => s) .padAll 1452 [0, 0, 0, 0, 0, 0, 0, 1] [0, 0, 0, 0, 0, 0, 0, 9]).good := ⟨toyCrypto_laws, rfl, rfl⟩
/-- the user-set hypothesis of the multi-user theorem is satisfiable with several users -/
example : let users : List (Bytes × Bytes) := [([1], [10]), ([2], [20]), ([3], [30])]
    ([2], [20]) ∈ users ∧ ∀ u ∈ users, u.1 = [2] → u.2 = [20] := by decide
example : (ServerU.direct (.dom [0x61] 53)).ok := ⟨by decide, by simp⟩
example : (ServerP.direct (.ip ⟨.v4 [1, 2, 3, 4], 53⟩) true).ok := fun _ => ⟨_, rfl⟩
example : (ClientU.ss toyCrypto [1] [2] [0, 0, 0, 0, 0, 0, 0, 0] 0).ok := toyCrypto_laws
/-- a successful pack exists (none, domain target, minimal front) -/
example : ∃ r, plainClientPack false 1472 (List.replicate 20 0) (.dom [0x61] 53) 5 10 = .ok r := ⟨_, rfl⟩

end SSV.C05

#print axioms SSV.C05.norm_id_ip
#print axioms SSV.C05.norm_id_v4
#print axioms SSV.C05.norm_id_dom
#print axioms SSV.C05.norm_mapped
#print axioms SSV.C05.addr_codec_roundtrip
#print axioms SSV.C05.addrport_codec_roundtrip
#print axioms SSV.C05.roundtrip_plain_up
#print axioms SSV.C05.roundtrip_plain_down
#print axioms SSV.C05.roundtrip_ss2022_up
#print axioms SSV.C05.roundtrip_ss2022_up_multiuser
#print axioms SSV.C05.roundtrip_ss2022_down
#print axioms SSV.C05.roundtrip_direct
#print axioms SSV.C05.max_packet_size_fits_mtu
#print axioms SSV.C05.mtu_bound_plain_client
#print axioms SSV.C05.mtu_bound_plain_server
#print axioms SSV.C05.mtu_bound_ss2022_client
#print axioms SSV.C05.mtu_bound_ss2022_server
#print axioms SSV.C05.ss2022_pack_safe
#print axioms SSV.C05.ss2022_pack_needs_rear
#print axioms SSV.C05.frame_ss2022_client
#print axioms SSV.C05.frame_ss2022_server
#print axioms SSV.C05.frame_plain_client
#print axioms SSV.C05.frame_plain_server
#print axioms SSV.C05.frame_refused_plain_client
#print axioms SSV.C05.frame_refused_plain_server
#print axioms SSV.C05.frame_refused_ss2022_pack
#print axioms SSV.C05.frame_refused_unpack_partial
#print axioms SSV.C05.relay_safe_up
#print axioms SSV.C05.relay_safe_down
#print axioms SSV.C05.direct_target_only_domain_panics
#print axioms SSV.C05.crypto_laws_satisfiable
#print axioms SSV.C05.roundtrip_history_plain
#print axioms SSV.C05.roundtrip_history_ss2022
#print axioms SSV.C05.roundtrip_history_direct
#print axioms SSV.C05.roundtrip_history_plain_down
#print axioms SSV.C05.roundtrip_history_ss2022_down
#print axioms SSV.C05.client_unpacker_refuses_fast_session_change
#print axioms SSV.C05.resolver_cache_assigned_before_resolve_is_unsound
#print axioms SSV.C05.resolver_cache_head_refuses
#print axioms SSV.C05.relay_limit_current
#print axioms SSV.C05.relay_limit_is4_guard_is_stale
#print axioms SSV.C05.relay_front_arith
