import SSV.Proofs.ParsersSocks
import SSV.Proofs.ParsersRouter
import SSV.Proofs.Repack
/-
C06 — No bytes from the network can crash the process.

Property theorems about the parser / handshake / routing models of `SSV.Model.Parsers`
and of `SSV.Model.Repack`, `StreamHS`, `DnsHttp` (lemmas that several proofs share: `SSV/Proofs/Parsers*.lean`,
`Repack.lean`; an entry point nothing else builds on is proved under its statement here). Two kinds of obligations:

* `no_panic_<f>` — for ALL byte strings (and all router configurations, resolver answers, cipher
  behaviours) the model of entry point `f` does not reach a Go run-time panic; the only thing that
  protects the slice/index operations are the code's own guards, with the constants regenerated from
  the source (`SSV.Gen.C06.*_lenGuard<i>`).
* `shape_<F>` — Gen side conditions (finite, `rfl`): the panic-relevant fingerprint of Go function
  `F` (guards, index/slice expressions, array conversions, BigEndian calls, panics, contract-panicking
  method calls, in source order) extracted from the source NOW equals the one the model was written
  against. A changed offset / dropped guard re-opens the obligation.

This is a theorem about the model + differential fuzzing of model against code (corr_c06): the
"all byte strings" claim rests on these theorems and the tie is as good as the generator.
-/
namespace SSV.C06
open SSV SSV.Go SSV.Outcome SSV.Parsers SSV.Parsers.Proofs

theorem no_panic_addrPortFromSlice (b : Bytes) : addrPortFromSlice b ≠ .panic := np_addrPortFromSlice b
theorem no_panic_connAddrFromSlice (b : Bytes) : connAddrFromSlice b ≠ .panic := np_connAddrFromSlice b
theorem no_panic_domainCacheConnAddrFromSlice (b : Bytes) : connAddrFromSliceDC b ≠ .panic := (connAddrFromSliceDC_spec b).noPanic

/-- what the parsers return on success is inside the input, and is never the zero `conn.Addr`
(on which `Domain()`, `IP()`, `Host()`, `ResolveIP()` panic) -/
theorem connAddrFromSlice_ok_bounds (b : Bytes) (a : Addr) (n : Nat) (h : connAddrFromSlice b = .ok (a, n)) :
    n ≤ b.length ∧ a.isValid = true :=
  have h := (connAddrFromSlice_spec b).of_ok h
  ⟨h.1, h.2.1⟩
theorem addrPortFromSlice_ok_bounds (b : Bytes) (a : Addr) (n : Nat) (h : addrPortFromSlice b = .ok (a, n)) :
    n ≤ b.length ∧ a.isIP = true := (addrPortFromSlice_spec b).of_ok h

example : connAddrFromSlice [3, 1, 0x61, 1, 0xbb] = .ok (.dom [0x61] 443, 5) := by decide
example : connAddrFromSlice [3, 0, 0, 80] = .err .domainLen := by decide
example : addrPortFromSlice [1, 1, 2, 3, 4, 0, 0] = .ok (.ip4 [1, 2, 3, 4] 0, 7) := by decide

theorem no_panic_appendFromReader (stream : Bytes) : appendFromReader stream ≠ .panic := (appendFromReader_spec stream).noPanic
theorem no_panic_connAddrFromReader (stream : Bytes) : connAddrFromReader stream ≠ .panic := by
  unfold connAddrFromReader
  refine Ensures.ne_panic ((readFull_spec _ _).bind fun ⟨b, s1⟩ hb => ?_)
  dsimp only at hb ⊢
  refine idx_ensures (by omega) fun t _ => idx_ensures (by omega) fun l hl => .ite (fun _ => ?domain) fun _ =>
    .ite (fun _ => ?v4) fun _ => .ite (fun _ => ?v6) fun _ => .err
  case domain =>
    refine (readFull_spec _ _).bind fun ⟨b1, s2⟩ hb1 => ?_
    dsimp only at hb1 ⊢
    exact sliceFrom_be16_ensures (by omega) fun _ _ => (addrFromDomainPort_spec _ _).bind fun _ _ => .ok trivial
  -- `b1[0] = b[1]` and the other 4+2-1 (16+2-1) bytes are read behind it
  case v4 | v6 =>
    refine (readFull_spec _ _).bind fun ⟨r, s2⟩ hr => ?_
    dsimp only at hr ⊢
    exact arr_ensures (by rw [List.length_cons]; omega) fun _ _ =>
      sliceFrom_be16_ensures (by rw [List.length_cons]; omega) fun _ _ => .ok trivial

example : connAddrFromReader [3, 0, 0, 80, 9] = .err .domainLen := by decide

/-- callers pass exactly the 11 decrypted bytes (`DecryptTo` of 11+16) -/
theorem no_panic_parseTCPRequestFixedLengthHeader (now : Int) (b : Bytes)
    (h : b.length = Gen.C06.TCPRequestFixedLengthHeaderLength) : parseTCPRequestFixedLengthHeader now b ≠ .panic :=
  (np_parseTCPRequestFixedLengthHeader now b h).ne_panic
-- the hypothesis can be met
example : ([0,0,0,0,0,0,0,0,0,0,0] : Bytes).length = Gen.C06.TCPRequestFixedLengthHeaderLength := by decide

theorem no_panic_parseTCPRequestVariableLengthHeader (b : Bytes) : parseTCPRequestVariableLengthHeader b ≠ .panic :=
  (np_parseTCPRequestVariableLengthHeader b).ne_panic

/-- callers pass exactly `1 + 8 + saltLen + 2` decrypted bytes -/
theorem no_panic_parseTCPResponseHeader (now : Int) (salt b : Bytes) (h : b.length = 1 + 8 + salt.length + 2) :
    parseTCPResponseHeader now salt b ≠ .panic := (parseTCPResponseHeader_spec now salt b h).noPanic
-- the hypothesis can be met
example : ([1,0,0,0,0,0,0,0,0,7,0,1] : Bytes).length = 1 + 8 + ([7] : Bytes).length + 2 := by decide

theorem no_panic_parseUDPClientMessageHeader (now : Int) (b : Bytes) : parseUDPClientMessageHeader now b ≠ .panic :=
  (np_parseUDPClientMessageHeader now b).ne_panic
theorem no_panic_parseUDPServerMessageHeader (now : Int) (csid : Nat) (b : Bytes) :
    parseUDPServerMessageHeader now csid b ≠ .panic := (np_parseUDPServerMessageHeader now csid b).ne_panic

theorem no_panic_udpSessionInfo (C : Ciphers) (hC : C.LenPreserving) (b : Bytes) : udpSessionInfo C b ≠ .panic :=
  (udpSessionInfo_spec C hC b).noPanic
-- the hypothesis can be met
example : (⟨id, fun _ _ => none⟩ : Ciphers).LenPreserving := fun _ => rfl

theorem no_panic_udpNewUnpacker (idLen : Nat) (found : Bool) (b : Bytes)
    (hid : idLen = 0 ∨ idLen = Gen.C06.IdentityHeaderLength) : udpNewUnpacker idLen found b ≠ .panic :=
  (np_udpNewUnpacker idLen found b hid).ne_panic

/-- hypothesis `ps + pl ≤ len b`: the relay passes the receive window of its packet buffer (C05 owns the headroom arithmetic) -/
theorem no_panic_udpServerUnpack (C : Ciphers) (now : Int) (hdr : Nat) (replayed : Bool) (b : Bytes) (ps pl : Nat)
    (hb : ps + pl ≤ b.length) (hh : Gen.C06.UDPSeparateHeaderLength ≤ hdr) : udpServerUnpack C now hdr replayed b ps pl ≠ .panic :=
  (np_udpServerUnpack C now hdr replayed b ps pl hb hh).ne_panic
/-- the client unpacker for every datagram, every state of its two server-session slots (both start as
{id 0, no AEAD}), every separate-header session / packet id (0, equal to a slot, equal to the client session id, 2^64-1 …).
Depends on the regenerated fact `clientUnpackerGuardsNilAEAD` (every switch case that takes a slot's AEAD also requires it to
be non-nil); without it a header with server session id 0 selects a nil `cipher.AEAD` and `Open` panics before any
authentication (witness `udp_client_unpack_nil_aead_panics`). -/
theorem no_panic_udpClientUnpack (C : Ciphers) (hC : C.LenPreserving) (now : Int) (csid : Nat) (sess : CliSess) (tooSoon replayed : Bool)
    (b : Bytes) (ps pl : Nat) (hb : ps + pl ≤ b.length) :
    udpClientUnpack Gen.C06.clientUnpackerGuardsNilAEAD C now csid sess tooSoon replayed b ps pl ≠ .panic := by
  rw [show Gen.C06.clientUnpackerGuardsNilAEAD = true from rfl]
  unfold udpClientUnpack
  dsimp only [Gen.C06.UDPSeparateHeaderLength]
  refine Ensures.ne_panic (.guard fun _ => slice_ensures (by omega) fun sep0 h0 => slice_ensures (by omega) fun _ _ => ?_)
  refine slice_ensures (by omega) fun ct _ => arr_ensures (by omega) fun blk hblk => ?_
  -- the decrypted separate header has its 16 bytes
  have h1 := (hC blk).trans hblk
  refine slice_ensures (by omega) fun nonce _ => be64_ensures (by omega) fun ssid => ?_
  refine sliceFrom_be64_ensures (by omega) fun _ => ?_
  -- every way through the session switch ends with an AEAD installed: a slot is taken only if it has one
  refine Ensures.bind (Q := fun slot => slot.1 = true) ?_ ?_
  · refine .ite (fun h => .ok (by simpa using h.2)) fun _ => .ite (fun h => .ok (by simpa using h.2)) fun _ => ?_
    exact .guard fun _ => sliceTo_ensures (by omega) fun _ _ => .ok rfl
  · rintro ⟨hasAEAD, hasFilter⟩ hA
    dsimp only at hA ⊢
    subst hA
    refine .guard fun _ => .ite_panic (by simp) ?_
    split
    · exact .err
    · exact (np_parseUDPServerMessageHeader _ _ _).bind fun ⟨_, _, _⟩ _ => .ok trivial
/-- witness: fresh session, 32 zero bytes (separate header = session id 0, packet id 0; junk body), unguarded switch -/
theorem udp_client_unpack_nil_aead_panics :
    udpClientUnpack false ⟨id, fun _ _ => none⟩ 0 7 ⟨0, false, 0, false⟩ false false (List.replicate 32 0) 0 32 = .panic := by decide
example : udpClientUnpack true ⟨id, fun _ _ => none⟩ 0 7 ⟨0, false, 0, false⟩ false false (List.replicate 32 0) 0 32 = .err .aead := by decide
-- the window hypothesis `ps + pl ≤ len b` can be met
example : (3 : Nat) + 40 ≤ (List.replicate 50 (0 : UInt8)).length := by decide

/-- the session relay's receive path for one datagram: `SessionInfo` → `NewUnpacker` → `UnpackInPlace` -/
theorem no_panic_udpServerReceive (C : Ciphers) (hC : C.LenPreserving) (now : Int) (idLen : Nat) (found replayed : Bool)
    (b : Bytes) (ps pl : Nat) (hb : ps + pl ≤ b.length) (hid : idLen = 0 ∨ idLen = Gen.C06.IdentityHeaderLength) :
    udpServerReceive C now idLen found replayed b ps pl ≠ .panic := by
  unfold udpServerReceive
  refine Ensures.ne_panic (slice_ensures (by omega) fun pkt hpkt =>
    (udpSessionInfo_spec C hC _).bind fun ⟨csid, pkt'⟩ l1 => ?_)
  dsimp only at l1 ⊢
  refine (np_udpNewUnpacker idLen found pkt' hid).bind fun _ _ => np_udpServerUnpack C now _ replayed _ ps pl ?_ (by omega)
  -- the decrypted packet is put back into its window: the buffer keeps its length
  rwa [length_splice _ hb]
  omega

/-- FOR EVERY client byte stream, authentication mode, user table, enabled command set and local
address kind: method selection, username/password sub-negotiation, request parsing on the
`3+MaxAddrLen` scratch buffer, the UDP ASSOCIATE / command-not-supported replies, and the later
`Proceed` / `Abort(code)` reply do not panic. -/
theorem no_panic_socks5_server (auth : Bool) (check : Bytes → Bytes → Bool) (tcp udp tcpLocal : Bool) (bound : Bytes)
    (finish : Option UInt8) (stream : Bytes) : s5Server auth check tcp udp tcpLocal bound finish stream ≠ .panic := by
  unfold s5Server
  refine Ensures.ne_panic ((s5MethodSelection_spec _ _ List.length_replicate).bind fun st1 l1 => ?_)
  refine Ensures.bind (.ite (fun _ => s5UsernamePassword_spec check st1 l1) fun _ => .ok l1) fun st2 l2 => ?_
  refine (s5Request_spec tcp udp tcpLocal bound st2 l2).bind fun ⟨st3, a⟩ l3 => ?_
  dsimp only at l3 ⊢
  cases finish with
  | none => exact .ok trivial
  | some status =>
    refine (np_replyWithStatus st3 status ?_).bind fun _ _ => .ok trivial
    dsimp only [Gen.C06.MaxAddrLen, Gen.C06.IPv4AddrLen] at l3 ⊢
    omega

/-- the SOCKS5 CLIENT (stream client, UDP-ASSOCIATE client): method selection reply, authentication status,
request reply with its bound address — for every byte stream a (hostile) server returns. `enc` is the
encoded target address the client writes into the scratch buffer first (at most `MaxAddrLen` bytes, which
`conn.AddrFromDomainPort`'s 255-byte limit guarantees). -/
theorem no_panic_socks5_client (auth : Bool) (authMsg : Bytes) (cmd : UInt8) (enc : Bytes)
    (henc : enc.length ≤ Gen.C06.MaxAddrLen) (stream : Bytes) : s5Client auth authMsg cmd enc stream ≠ .panic :=
  (s5Client_spec auth authMsg cmd enc henc stream).noPanic
-- the hypothesis can be met (the UDP ASSOCIATE request's address)
example : ([1, 0, 0, 0, 0, 0, 0] : Bytes).length ≤ Gen.C06.MaxAddrLen := by decide

theorem no_panic_noneServerUnpack (b : Bytes) (ps pl : Nat) (hb : ps + pl ≤ b.length) : noneServerUnpack b ps pl ≠ .panic := by
  unfold noneServerUnpack
  exact Ensures.ne_panic (slice_ensures (by omega) fun pkt _ => (connAddrFromSliceDC_spec _).bind fun ⟨_, _⟩ _ => .ok trivial)
theorem no_panic_noneClientUnpack (fs : Bool) (b : Bytes) (ps pl : Nat) (hb : ps + pl ≤ b.length) :
    noneClientUnpack fs b ps pl ≠ .panic := by
  unfold noneClientUnpack
  exact Ensures.ne_panic (.guard fun _ => slice_ensures (by omega) fun pkt _ =>
    (addrPortFromSlice_spec _).bind fun ⟨_, _⟩ _ => .ok trivial)
theorem no_panic_socks5ServerUnpack (b : Bytes) (ps pl : Nat) (hb : ps + pl ≤ b.length) : socks5ServerUnpack b ps pl ≠ .panic := by
  unfold socks5ServerUnpack
  refine Ensures.ne_panic (.guard fun _ => slice_ensures (by omega) fun pkt hpkt =>
    (np_validatePacketHeader (by omega)).bind fun _ _ => ?_)
  exact sliceFrom_bind_ensures (by omega) (fun w _ => (connAddrFromSliceDC_spec w).mono fun _ _ => trivial) fun ⟨_, _⟩ _ =>
    .ok trivial
theorem no_panic_socks5ClientUnpack (fs : Bool) (b : Bytes) (ps pl : Nat) (hb : ps + pl ≤ b.length) :
    socks5ClientUnpack fs b ps pl ≠ .panic := by
  unfold socks5ClientUnpack
  refine Ensures.ne_panic (.guard fun _ => .guard fun _ => slice_ensures (by omega) fun pkt hpkt =>
    (np_validatePacketHeader (by omega)).bind fun _ _ => ?_)
  exact sliceFrom_bind_ensures (by omega) (fun w _ => (np_addrPortFromSlice w).ensures) fun ⟨_, _⟩ _ => .ok trivial

/-- `ShadowStreamConn.read`: for every stream, every AEAD behaviour and every advertised chunk length, given a
buffer of capacity `streamReadMinBufferSize` (all call sites: `Read`, `WriteTo`, `writeToShadowStreamConn`) -/
theorem no_panic_streamRead (cap : Nat) (hcap : Gen.C06.streamReadMinBufferSize ≤ cap) (sticky : Option Err)
    (openChunk : Bytes → Option Bytes) (stream : Bytes) : streamRead cap sticky openChunk stream ≠ .panic := by
  unfold streamRead
  dsimp only [Gen.C06.streamReadMinBufferSize, Gen.C06.tagSize] at hcap ⊢
  refine Ensures.ne_panic (.ite_panic (by omega) <| ?_)
  cases sticky with
  | some e => exact .err
  | none =>
    refine .ite_panic (by omega) <| (readFull_spec _ _).bind fun ⟨ct, s1⟩ hct => ?_
    dsimp only at hct ⊢
    split
    · exact .err
    -- a chunk length is a `uint16`, so the chunk and its tag fit the buffer
    refine be16_ensures (by rw [List.length_append, List.length_drop]; omega) fun length hlt => .guard fun _ => ?_
    refine .ite_panic (by omega) <| (readFull_spec _ _).bind fun ⟨ct2, s2⟩ _ => ?_
    dsimp only
    split
    · exact .err
    · exact .ok trivial

/-- the call site with the tightest buffer: `writeBuf[2+tagSize : 2+tagSize]` of a `streamWriteBufferSize` buffer -/
theorem streamRead_callsite_cap : Gen.C06.streamReadMinBufferSize ≤ Gen.C06.streamWriteBufferSize - (2 + Gen.C06.tagSize) := by decide
/-- the largest chunk fits: `streamMaxPayloadSize + tagSize ≤ streamReadMinBufferSize`, and a u16 length cannot exceed it -/
theorem streamRead_u16_fits : 65535 ≤ Gen.C06.streamMaxPayloadSize ∧ Gen.C06.streamMaxPayloadSize + Gen.C06.tagSize ≤ Gen.C06.streamReadMinBufferSize := by decide

/-- `hostHeaderToAddr` for every Host value (`netip.ParseAddr`, `conn.ParseAddr` are total parameters) -/
theorem no_panic_hostHeaderToAddr (parseIP : Bytes → Option (Bool × Bytes)) (parseAddr : Bytes → Option Addr) (host : Bytes) :
    hostHeaderToAddr parseIP parseAddr host ≠ .panic := by
  unfold hostHeaderToAddr
  refine Ensures.ne_panic (.guard fun hne => .ite (fun _ => np_addrFromHostPort _ _ _) fun _ => ?_)
  -- which bytes `host[0]` and `host[len-1]` are matters below, so they are not forgotten here
  rw [bind_ok (idx_of_lt (by omega)), bind_ok (idx_of_lt (by omega))]
  refine .ite (fun hb => ?_) fun _ => ?_
  · -- one byte cannot be both `[` and `]`: at least two bytes, so `host[1 : len-1]` is in range
    have h2 : 2 ≤ host.length := by
      refine Nat.le_of_not_lt fun h1 => ?_
      have h0 : host.length - 1 = 0 := by omega
      simp only [h0] at hb
      omega
    exact slice_ensures (by omega) fun _ _ => np_addrFromHostPort _ _ _
  · split
    · exact .ok trivial
    · exact .err
example : hostHeaderToAddr (fun _ => none) (fun _ => none) [91, 58, 93] = .ok (.dom [58] 80) := by decide

/-- the `Proxy-Authorization: Basic ` prefix test for every header value -/
theorem no_panic_basicAuthToken (creds : Bytes) : basicAuthToken creds ≠ .panic := by
  unfold basicAuthToken
  refine Ensures.ne_panic (.ite (fun _ => ?_) fun _ => .ok trivial)
  refine idx_ensures (by omega) fun _ _ => idx_ensures (by omega) fun _ _ => idx_ensures (by omega) fun _ _ => ?_
  refine idx_ensures (by omega) fun _ _ => idx_ensures (by omega) fun _ _ => idx_ensures (by omega) fun _ _ => ?_
  refine .ite (fun _ => ?_) fun _ => .ok trivial
  exact sliceFrom_ensures (by omega) fun _ _ => .ok trivial

/-! ### everything computed afterwards: RELAYING — the re-pack step of the UDP relays, the ss2022 TCP client's padding split

Peer-controlled lengths and ports (payload length, target / source address kind and port → padding policy)
flow into `PackInPlace` of the outgoing side. `draw` is the value `mrand.IntN` returns (any), `shouldPad`
the padding policy's verdict (any), `bufLen`/`ps`/`pl` the relay buffer and the unpacked payload window. -/

/-- uplink into an ss2022 client, for every payload size (exact fit included), address, MTU-derived
limit, policy verdict and draw; the code's own `maxPaddingLen < 0` check also covers a too-small front headroom.
Depends on the regenerated fact `clientPackerGuardsIntN` (is `mrand.IntN(maxPaddingLen)` under `maxPaddingLen > 0`?). -/
theorem no_panic_relay_repack_ss2022_client (maxPacketSize : Int) (nonAEAD : Nat) (hn : Gen.C06.UDPSeparateHeaderLength ≤ nonAEAD)
    (target : Addr) (ht : target.nameFits = true) (shouldPad : Bool) (draw bufLen ps pl : Nat) (hb : ps + pl ≤ bufLen) :
    ss2022ClientPack Gen.C06.clientPackerGuardsIntN maxPacketSize nonAEAD target shouldPad draw bufLen ps pl ≠ .panic := by
  unfold ss2022ClientPack
  refine Ensures.ne_panic ((socksLen_spec ht).bind fun tal t259 => ?_)
  dsimp only [Gen.C06.UDPClientMessageHeaderFixedLength, Gen.C06.tagSize, Gen.C06.UDPSeparateHeaderLength] at hn ⊢
  refine .guard fun hm => (pad_spec rfl shouldPad draw (Int.not_lt.mp hm)).bind fun pad ⟨p0, p1, p2⟩ => ?_
  -- `pad ≤ ps - hnp` keeps `packetStart ≥ 0`, `pad ≤ 65535` fits the `uint16`, `ps + pl ≤ bufLen` bounds the far end
  simp (disch := omega) only [goSlice_ok, intToUint16_ok, ok_bind, pure_eq, ensures_ok]

/-- downlink out of an ss2022 server (depends on `serverPackerGuardsIntN`) -/
theorem no_panic_relay_repack_ss2022_server (maxPacketLen : Int) (src4 shouldPad : Bool) (draw bufLen ps pl : Nat)
    (hb : ps + pl ≤ bufLen) :
    ss2022ServerPack Gen.C06.serverPackerGuardsIntN maxPacketLen src4 shouldPad draw bufLen ps pl ≠ .panic := by
  unfold ss2022ServerPack
  dsimp only [Gen.C06.UDPServerMessageHeaderFixedLength, Gen.C06.tagSize, Gen.C06.UDPSeparateHeaderLength]
  refine Ensures.ne_panic (.guard fun hm => (pad_spec rfl shouldPad draw (Int.not_lt.mp hm)).bind fun pad ⟨p0, p1, p2⟩ => ?_)
  -- `pad ≤ ps - hnp` keeps `packetStart ≥ 0`, `pad ≤ 65535` fits the `uint16`, `ps + pl ≤ bufLen` bounds the far end
  simp (disch := omega) only [goSlice_ok, intToUint16_ok, ok_bind, pure_eq, ensures_ok]

/-- witness of the fault class (independent of the source): without the `> 0` conjunct an exact-fit DNS datagram panics
(MTU 1500 to an IPv6 server, no identity header, target `[::]:53`, payload 1390 = 1452-16-11-19-16) -/
theorem relay_repack_unguarded_exact_fit_panics :
    ss2022ClientPack false 1452 16 (.ip6 [0,0,0,0,0,0,0,0,0,0,0,0,0,0,0,0] 53) true 0 3000 1186 1390 = .panic := by decide
/-- the same size with the guard is sent unpadded, one byte more is refused -/
example : ss2022ClientPack true 1452 16 (.ip6 [0,0,0,0,0,0,0,0,0,0,0,0,0,0,0,0] 53) true 0 3000 1186 1390 = .ok (1140, 1452) := by decide
example : ss2022ClientPack true 1452 16 (.ip6 [0,0,0,0,0,0,0,0,0,0,0,0,0,0,0,0] 53) true 0 3000 1186 1391 = .err .tooBig := by decide

/-- none / SOCKS5 client packers (uplink) and server packers (downlink): under the relay's front headroom
(`MaxAddrLen (+3)` resp. `IPv6AddrLen (+3)` bytes before the payload — the pair-wise headroom arithmetic is C05's) -/
theorem no_panic_relay_repack_none_client (target : Addr) (ht : target.nameFits = true) (maxPacketSize : Int) (bufLen ps pl : Nat)
    (hh : Gen.C06.MaxAddrLen + 0 ≤ ps) (hb : ps + pl ≤ bufLen) : prefixClientPack 0 target maxPacketSize bufLen ps pl ≠ .panic :=
  np_prefixClientPack 0 target ht maxPacketSize bufLen ps pl hh hb
theorem no_panic_relay_repack_socks5_client (target : Addr) (ht : target.nameFits = true) (maxPacketSize : Int) (bufLen ps pl : Nat)
    (hh : Gen.C06.MaxAddrLen + 3 ≤ ps) (hb : ps + pl ≤ bufLen) : prefixClientPack 3 target maxPacketSize bufLen ps pl ≠ .panic :=
  np_prefixClientPack 3 target ht maxPacketSize bufLen ps pl hh hb
theorem no_panic_relay_repack_none_server (src4 : Bool) (maxPacketLen : Int) (bufLen ps pl : Nat)
    (hh : Gen.C06.IPv6AddrLen + 0 ≤ ps) (hb : ps + pl ≤ bufLen) : prefixServerPack 0 src4 maxPacketLen bufLen ps pl ≠ .panic :=
  np_prefixServerPack 0 src4 maxPacketLen bufLen ps pl hh hb
theorem no_panic_relay_repack_socks5_server (src4 : Bool) (maxPacketLen : Int) (bufLen ps pl : Nat)
    (hh : Gen.C06.IPv6AddrLen + 3 ≤ ps) (hb : ps + pl ≤ bufLen) : prefixServerPack 3 src4 maxPacketLen bufLen ps pl ≠ .panic :=
  np_prefixServerPack 3 src4 maxPacketLen bufLen ps pl hh hb
-- the headroom and window hypotheses can be met (SOCKS5 client packer, 1472-byte payload)
example : Gen.C06.MaxAddrLen + 3 ≤ 262 ∧ 262 + 1472 ≤ 1734 := by decide

/-- direct client packer: needs only a parsed (non-zero) target -/
theorem no_panic_relay_repack_direct_client (mtu : Int) (target : Addr) (hv : target.isValid = true) (resolve : Bytes → Option Bool)
    (ps pl : Nat) : directClientPack mtu target resolve ps pl ≠ .panic := by
  unfold directClientPack
  refine noPanic_bind ?_ fun _ => noPanic_ite (noPanic_err _) (noPanic_ok _)
  -- `IPPort()` under `IsIP()`, `Domain()` on a valid address that is not an IP
  refine np_ifIP_else_domain hv (fun hip => noPanic_bind (np_ip_of_isIP hip) fun _ => noPanic_ok _) fun d => ?_
  cases resolve d with
  | none => exact noPanic_err _
  | some v4 => exact noPanic_ok _

/-- what the parsers hand to the packers satisfies the packers' address precondition (name ≤ 255 bytes) -/
theorem parsed_address_fits_packers (b : Bytes) (a : Addr) (n : Nat) (h : connAddrFromSlice b = .ok (a, n)) : a.nameFits = true :=
  ((connAddrFromSlice_spec b).of_ok h).2.2
theorem parsed_address_fits_packers_dc (b : Bytes) (a : Addr) (n : Nat) (h : connAddrFromSliceDC b = .ok (a, n)) : a.nameFits = true :=
  ((connAddrFromSliceDC_spec b).of_ok h).2.2

/-- TCP relay into an ss2022 client: `DialStream`'s padding / payload split for EVERY initial-payload length
(0, 1 … 899 → `IntN(900-len+1)`, ≥ 900, more than fits) and target; both `intToUint16` conversions stay in range -/
theorem no_panic_relay_dialstream_split (target : Addr) (ht : target.nameFits = true) (payloadLen draw : Nat) :
    dialStreamSplit target payloadLen draw ≠ .panic := by
  unfold dialStreamSplit
  refine Ensures.ne_panic ((socksLen_spec ht).bind fun tal t259 => ?_)
  have hS : ((Gen.C06.streamMaxPayloadSize : Nat) : Int) = 65535 := rfl
  have hP : ((Gen.C06.MaxPaddingLength : Nat) : Int) = 900 := rfl
  simp only [hS, hP]
  refine .ite (fun _ => ?moreThanFits) fun _ => .ite (fun _ => ?noPadding) fun _ => .ite (fun _ => ?padded) fun _ => ?empty
  case moreThanFits =>
    simp (disch := omega) only [goSlice_ok, ok_bind]
    exact np_dialStreamFinish _ _ _ _ (by omega) (by omega) (by omega)
  case noPadding => exact np_dialStreamFinish _ _ _ _ (by omega) (by omega) (by omega)
  case padded | empty =>
    exact (intN_spec draw (by omega)).bind fun d ⟨d0, d1⟩ => np_dialStreamFinish _ _ _ _ (by omega) (by omega) (by omega)

/-- `StreamServer.HandleStream` for EVERY configuration (any salt length, 0/1 identity header, any request-stream prefix length,
allowSegmentedFixedLengthHeader or not, fallback or not) and everything a peer controls: how many bytes arrive and in which
fragments (`chunk0`, `total`), their content (through the salt-pool / prefix / user-table / AEAD verdicts, all arbitrary) and the
rest of the stream. Hypotheses: the identity header length is 0 or `IdentityHeaderLength`; AEAD `Open` of the 27-byte sealed
fixed header yields 11 bytes when it succeeds. The fallback's `readBuf[:n]` is in range because a read never returns more than
the buffer holds (`firstRead_le`). -/
theorem no_panic_handleStream (cfg : HSCfg) (hid : cfg.idLen = 0 ∨ cfg.idLen = Gen.C06.IdentityHeaderLength) (now : Int)
    (chunk0 total : Nat) (replayed prefixOk userFound saltAdded : Bool) (openFixed : Option Bytes)
    (hopen : ∀ pt, openFixed = some pt → pt.length = Gen.C06.TCPRequestFixedLengthHeaderLength)
    (openVar : Bytes → Option Bytes) (rest : Bytes) :
    handleStream cfg now chunk0 total replayed prefixOk userFound saltAdded openFixed openVar rest ≠ .panic := by
  unfold handleStream
  dsimp only [Gen.C06.TCPRequestFixedLengthHeaderLength, Gen.C06.tagSize, Gen.C06.IdentityHeaderLength] at hid hopen ⊢
  -- `W` = reservedStart: prefix, salt, identity header, sealed fixed-length header; the buffer has 16 bytes more
  generalize hW : cfg.urspLen + cfg.saltLen + cfg.idLen + 11 + 16 = W
  have hl : (List.replicate (W + 16) (0 : UInt8)).length = W + 16 := List.length_replicate ..
  generalize List.replicate (W + 16) (0 : UInt8) = b at hl ⊢
  refine Ensures.ne_panic (sliceTo_ensures (by omega) fun readBuf hrl => ?_)
  have hn := firstRead_le cfg.segmented chunk0 total W
  generalize firstRead cfg.segmented chunk0 total W = fr at hn ⊢
  obtain ⟨n, rerr⟩ := fr
  dsimp only at hn ⊢
  -- every failure before authentication ends in the deferred fallback, which takes `readBuf[:n]`
  have hf : ∀ e, Ensures (hsFail cfg readBuf.length n e) fun _ => True := fun e => np_hsFail cfg _ n e (by omega)
  cases rerr with
  | some e => exact hf e
  | none =>
    dsimp only
    refine sliceTo_ensures (by omega) fun _ _ => slice_ensures (by omega) fun _ _ => slice_ensures (by omega) fun ct _ => ?_
    refine sliceFrom_ensures (by omega) fun reserved hres => .ite (fun _ => hf _) fun _ => .ite (fun _ => hf _) fun _ => ?_
    refine Ensures.bind (Q := fun _ => True) (.ite (fun hne => ?identityHeader) fun _ => .ok trivial) fun idOk _ =>
      .ite (fun _ => hf _) fun _ => ?_
    case identityHeader =>
      have h16 : cfg.idLen = 16 := hid.resolve_left hne
      refine slice_ensures (by omega) fun ih hih => arr_ensures (by omega) fun _ _ => arr_ensures (by omega) fun _ _ => ?_
      exact arr_ensures (by omega) fun _ _ => .ok trivial
    · cases hof : openFixed with
      | none => exact hf _
      | some pt =>
        dsimp only
        have hp := np_parseTCPRequestFixedLengthHeader now pt (hopen pt hof)
        cases hr : parseTCPRequestFixedLengthHeader now pt with
        | panic => exact absurd hr hp.noPanic
        | err e => exact hf e
        | ok vhlen =>
          dsimp only
          refine .ite (fun _ => hf _) fun _ => (readFull_spec _ _).bind fun ⟨vct, _⟩ _ => ?_
          dsimp only
          split
          · exact .err
          · exact (np_parseTCPRequestVariableLengthHeader _).bind fun ⟨_, _⟩ _ => .ok trivial
-- the hypothesis on `openFixed` can be met
example : ∀ pt : Bytes, (some (List.replicate 11 (0 : UInt8)) : Option Bytes) = some pt → pt.length = Gen.C06.TCPRequestFixedLengthHeaderLength := by
  intro pt h; cases h; rfl

/-- the ss2022 client's first `Read` (`initRead` buffer choice and slicing, response header, `requestSalt[:requestSaltLen]`, first
payload chunk into the caller's buffer or the 65551-byte read buffer) for every caller buffer size, prefix length, key size ≤ 32
and server byte stream. Hypothesis: AEAD `Open` of the sealed response header yields `1+8+saltLen+2` bytes when it succeeds. -/
theorem no_panic_clientFirstRead (urspLen saltLen : Nat) (hs : saltLen ≤ 32) (segmented : Bool) (now : Int) (reqSalt : Bytes)
    (hrs : reqSalt.length ≤ 32) (bLen chunk0 total : Nat) (prefixOk : Bool) (openHdr : Option Bytes)
    (hopen : ∀ pt, openHdr = some pt → pt.length = 1 + 8 + saltLen + 2) (openChunk : Bytes → Option Bytes) (rest : Bytes) :
    clientFirstRead urspLen saltLen segmented now reqSalt bLen chunk0 total prefixOk openHdr openChunk rest ≠ .panic := by
  unfold clientFirstRead
  dsimp only [Gen.C06.TCPRequestFixedLengthHeaderLength, Gen.C06.tagSize, Gen.C06.streamReadMinBufferSize]
  -- whichever buffer is chosen, `hb` has exactly `bufferLen` bytes
  refine Ensures.ne_panic (Ensures.bind (Q := fun l => l = urspLen + saltLen + 11 + saltLen + 16) ?_ fun l hle => ?_)
  · exact .ite (fun _ => .ok rfl) fun _ => .ite (fun hr => .ite (fun _ => .ok rfl) fun h => absurd hr h) fun _ => .ok rfl
  have hlen : (List.replicate l (0 : UInt8)).length = l := List.length_replicate ..
  generalize List.replicate l (0 : UInt8) = hbuf at hlen ⊢
  generalize firstRead segmented chunk0 total l = fr
  obtain ⟨n, rerr⟩ := fr
  cases rerr with
  | some e => exact .err
  | none =>
    dsimp only
    refine sliceTo_ensures (by omega) fun _ _ => .guard fun _ => slice_ensures (by omega) fun _ _ => ?_
    refine sliceFrom_ensures (by omega) fun _ _ => ?_
    cases hoh : openHdr with
    | none => exact .err
    | some pt =>
      dsimp only
      -- `c.requestSalt` is a `[32]byte`: `[:requestSaltLen]` is in range and has that many bytes
      refine sliceTo_ensures (by rw [List.length_append, List.length_replicate]; omega) fun rs hrs' => ?_
      refine (parseTCPResponseHeader_spec now rs pt (by rw [hrs']; exact hopen pt hoh)).bind fun payloadLen hlt => ?_
      -- a `uint16` payload length plus tag fits the 65551-byte read buffer
      refine .ite (fun _ => (readFull_spec _ _).bind fun ⟨ct, _⟩ _ => ?callerBuf) fun _ =>
        .ite_panic (by omega) <| (readFull_spec _ _).bind fun ⟨ct, _⟩ _ => ?readBuf
      case callerBuf =>
        dsimp only
        split
        · exact .err
        · exact .ok trivial
      case readBuf =>
        dsimp only
        split
        · exact .err
        · exact .ite_panic (by omega) <| .ok trivial
-- the size hypotheses can be met
example : (16 : Nat) ≤ 32 ∧ (List.replicate 16 (0 : UInt8)).length ≤ 32 := by decide

/-- `dns.resultBuilder.parseMsg`'s own logic over ANY trace of `dnsmessage.Parser` results (every call may fail at any point):
it performs no index or slice operation of its own besides `r.a[:0]` / `r.aaaa[:0]` (fingerprint `shape_dnsParseMsg`) -/
theorem no_panic_dnsParseMsg (now failTTL : Int) (isUDP : Bool) (r : ResultBuilder) (t : DnsTrace) :
    dnsParseMsg now failTTL isUDP r t ≠ .panic := by
  unfold dnsParseMsg
  cases t.start with
  | none => exact noPanic_err _
  | some h =>
    -- `-zeta` keeps the model's `let r := …`: inlined, each record update is copied into everything behind it
    dsimp -zeta only
    -- every early return is `ok` or `err`. The id tests: v4 already done, v6 already done, neither id
    refine noPanic_ite (noPanic_ok _) (noPanic_ite (noPanic_ok _) (noPanic_ite (noPanic_err _) ?_))
    -- the header tests: not a response, no recursion, unexpected rcode
    refine noPanic_ite (noPanic_err _) (noPanic_ite (noPanic_err _) (noPanic_ite (noPanic_err _) ?_))
    -- the questions; then the two loops, the second only if no expiry was set
    refine noPanic_ite (noPanic_err _) (noPanic_bind (np_dnsAnswers now _ _) fun r1 => ?_)
    exact noPanic_bind (noPanic_ite (np_dnsAuthorities now _ _) (noPanic_ok _)) fun _ => noPanic_ok _

/-- the HTTP forwarder's only index expression on peer data: `location[0]` of a 301/302/307 response, for every header multiset -/
theorem no_panic_locationForcesClose (location : List Bytes) (urlHost : Bytes → Option Bytes) (reqHost : Bytes) :
    locationForcesClose location urlHost reqHost ≠ .panic := by
  fun_cases locationForcesClose location urlHost reqHost
  -- `location[0]` of a list of length 1
  case case2 h1 h0 => exact absurd (List.getElem?_eq_none_iff.1 h0) (by omega)
  all_goals exact noPanic_ok _

/-- `Socks5UDPClient.NewSession` / `Socks5AuthUDPClient.NewSession` for EVERY byte stream the upstream server returns
(every ATYP of BND.ADDR incl. a domain name, unspecified address, port 0, every reply code, truncated) and every resolver answer -/
theorem no_panic_socks5_udp_associate_session (auth : Bool) (authMsg : Bytes) (resolve : Bytes → Option (Bool × Bytes)) (stream : Bytes) :
    s5UDPNewSession auth authMsg resolve stream ≠ .panic := by
  unfold s5UDPNewSession
  refine Ensures.noPanic_bind (s5Client_spec auth authMsg _ _ ?_ stream) (np_resolveIPPort resolve)
  simp [Gen.C06.MaxAddrLen]

/-- the accessors' contract: under the guard the code uses they do not panic … -/
theorem accessor_ip_under_guard (a : Addr) (h : a.isIP = true) : (a.ip : R (Bool × Bytes)) ≠ .panic := np_ip_of_isIP h
theorem accessor_domain_under_guard (a : Addr) (hv : a.isValid = true) (h : a.isIP = false) : (a.domain : R Bytes) ≠ .panic :=
  np_domain_of_notIP hv h
theorem accessor_resolve_valid (resolve : Bytes → Option (Bool × Bytes)) (a : Addr) (hv : a.isValid = true) :
    a.resolveIPPort resolve ≠ .panic := np_resolveIPPort resolve a hv
/-- … and without it they do: `IP()` on the domain BND.ADDR of a well-formed success reply (the class of seeded change C06-3) -/
theorem accessor_ip_on_domain_panics :
    (connAddrFromSlice [3, 1, 0x78, 0, 53] >>= fun (an : Addr × Nat) => (an.1.ip : R (Bool × Bytes))) = .panic := by decide

/-- Gen side condition: every call of `conn.Addr.IP/IPPort/Domain` in direct, socks5, service, router, dns, netio, probe, ss2022,
ssnone, httpproxy, clientgroups is dominated by the `IsIP()` / `!IsIP()` / `IsDomain()` check its contract needs, EXCEPT the
audited sites below: `updateDomainIPCache` (called only from the `!IsIP()` branch of `DirectPacketClientPacker.PackInPlace` with a
parsed, hence valid, address) and the direct server's configured `targetAddr` (load-time check, finding F4). A new unguarded
accessor call re-opens this obligation. -/
theorem unguarded_accessor_sites_are_the_audited_ones : Gen.C06.unguardedAccessorSites =
    ["direct.(*DirectPacketClientPacker).updateDomainIPCache: targetAddr.Domain() guard=none", "direct.(*DirectPacketClientPacker).updateDomainIPCache: targetAddr.Domain() guard=none", "direct.(*DirectPacketServerPackUnpacker).PackInPlace: p.targetAddr.IPPort() guard=none"] := rfl
theorem accessor_sites_fingerprint : Gen.C06.accessorSites =
    ["direct.(*DirectPacketClientPacker).updateDomainIPCache: targetAddr.Domain() guard=none", "direct.(*DirectPacketClientPacker).updateDomainIPCache: targetAddr.Domain() guard=none", "direct.(*DirectPacketClientPacker).PackInPlace: targetAddr.IPPort() guard=IsIP", "direct.(*DirectPacketServerPackUnpacker).PackInPlace: p.targetAddr.IPPort() guard=none", "socks5.AppendAddrFromConnAddr: addr.IPPort() guard=IsIP", "socks5.AppendAddrFromConnAddr: addr.Domain() guard=notIsIP", "socks5.WriteAddrFromConnAddr: addr.IPPort() guard=IsIP", "socks5.WriteAddrFromConnAddr: addr.Domain() guard=notIsIP", "socks5.LengthOfAddrFromConnAddr: addr.IPPort() guard=IsIP", "socks5.LengthOfAddrFromConnAddr: addr.Domain() guard=notIsIP", "router.(DestDomainCriterion).Meet: requestInfo.TargetAddr.Domain() guard=notIsIP", "router.(*DestIPCriterion).Meet: requestInfo.TargetAddr.IP() guard=IsIP", "router.(DestResolvedIPCriterion).Meet: requestInfo.TargetAddr.IP() guard=IsIP", "router.(DestResolvedIPCriterion).Meet: requestInfo.TargetAddr.Domain() guard=notIsIP", "router.(DestGeoIPCountryCriterion).Meet: requestInfo.TargetAddr.IP() guard=IsIP", "router.(DestResolvedGeoIPCountryCriterion).Meet: requestInfo.TargetAddr.IP() guard=IsIP", "router.(DestResolvedGeoIPCountryCriterion).Meet: requestInfo.TargetAddr.Domain() guard=notIsIP", "netio.(*UDPClientSession).AppendPack: destAddr.IPPort() guard=IsIP", "netio.(*UDPClientSession).AppendPack: destAddr.Domain() guard=notIsIP", "probe.(UDPProbe).Probe: p.addr.IPPort() guard=IsIP"] := rfl

/-- for every router configuration (every criterion kind, every port representation,
inverted or not, any resolver answers) and every request whose target came out of a parser
(hence is not the zero address), `Router.match` does not panic. It depends on the two regenerated
facts `sourcePortSetMeetGuardsZero` / `destPortSetMeetGuardsZero`: on a tree where the
`*PortSetCriterion.Meet` methods hand port 0 to `PortSet.Contains` this theorem does not check
(that is finding F3; its witness is `router_match_unguarded_panics` below). -/
theorem no_panic_router_match (q : Req) (hv : q.target.isValid = true) (routes : List (List Crit)) :
    routerMatch curGuards q routes ≠ .panic :=
  np_routerMatchFrom curGuards (by decide) (by decide) q hv 0 routes

-- the hypothesis can be met
example : (⟨true, 0, .ip4 [1, 2, 3, 4] 0⟩ : Req).target.isValid = true := rfl

/-- end to end: wire bytes → parsed address → `Router.match`, for all bytes and all configurations -/
theorem no_panic_wire_to_route (b : Bytes) (tcp : Bool) (srcPort : Nat) (routes : List (List Crit)) :
    (connAddrFromSlice b >>= fun (an : Addr × Nat) => routerMatch curGuards ⟨tcp, srcPort, an.1⟩ routes) ≠ .panic :=
  (connAddrFromSlice_spec b).noPanic_bind fun _ h => no_panic_router_match _ h.2.1 routes

/-- F3 witness (independent of what the source says now): without the guard, a request to port 0
through a route with a bit-set port criterion panics — `1.2.3.4:0` as it comes off the wire. -/
theorem router_match_unguarded_panics :
    (connAddrFromSlice [1, 1, 2, 3, 4, 0, 0] >>= fun (an : Addr × Nat) =>
      routerMatch ⟨false, false⟩ ⟨true, 40000, an.1⟩ [[.dstPortSet (fun p => p == 53)]]) = .panic := by decide

/-- every `direct` server configuration that the service accepts at load packs
replies without panicking. Depends on the regenerated fact `directRejectsTargetOnlyDomain`
(does `ServerConfig.UDPRelay`/`Initialize` refuse `tunnelUDPTargetOnly` with a non-IP
`tunnelRemoteAddress`?); on a tree that accepts the combination this theorem does not check (F4). -/
theorem no_panic_direct_server_pack (target : Addr) (targetOnly srcIsTarget : Bool) (n m : Nat)
    (hacc : directConfigAccepted Gen.C06.directRejectsTargetOnlyDomain target targetOnly = true) :
    directServerPack target targetOnly srcIsTarget n m ≠ .panic :=
  np_directServerPack target targetOnly srcIsTarget n m (by rwa [show Gen.C06.directRejectsTargetOnlyDomain = true from rfl] at hacc)

-- the hypothesis can be met
example : directConfigAccepted true (.ip4 [127, 0, 0, 1] 53) true = true := by decide

/-- F4 witness: accepted without the load-time check, panics on the first reply -/
theorem direct_targetonly_domain_panics :
    directConfigAccepted false (.dom [0x78] 53) true = true ∧
    directServerPack (.dom [0x78] 53) true false 1 1472 = .panic := by decide

theorem shape_AddrPortFromSlice : Gen.C06.AddrPortFromSlice_shape =
    ["if len(b) < 1+4+2 => return", "b[0]", "conv (*[4]byte)", "b[1:]", "call Uint16", "b[1+4:]", "if len(b) < 1+16+2 => return", "b[0]", "conv (*[16]byte)", "b[1:]", "call Uint16", "b[1+16:]", "b[0]"] := rfl

theorem shape_ConnAddrFromSlice : Gen.C06.ConnAddrFromSlice_shape =
    ["if len(b) < 2 => return", "b[0]", "b[1]", "if len(b) < portEnd => return", "b[0]", "b[2:domainEnd]", "call Uint16", "b[domainEnd:]", "if len(b) < 1+4+2 => return", "b[0]", "conv (*[4]byte)", "b[1:]", "call Uint16", "b[1+4:]", "if len(b) < 1+16+2 => return", "b[0]", "conv (*[16]byte)", "b[1:]", "call Uint16", "b[1+16:]", "b[0]"] := rfl

theorem shape_DomainCacheConnAddrFromSlice : Gen.C06.DomainCacheConnAddrFromSlice_shape =
    ["if len(b) < 2 => return", "b[0]", "b[1]", "if len(b) < portEnd => return", "b[0]", "b[2:domainEnd]", "call Uint16", "b[domainEnd:]", "if len(b) < 1+4+2 => return", "b[0]", "conv (*[4]byte)", "b[1 : 1+4]", "call Uint16", "b[1+4:]", "if len(b) < 1+16+2 => return", "b[0]", "conv (*[16]byte)", "b[1 : 1+16]", "call Uint16", "b[1+16:]", "b[0]"] := rfl

theorem shape_AppendFromReader : Gen.C06.AppendFromReader_shape =
    ["slices.Grow(b, 2)[:bLen+2]", "b[bLen:]", "readBuf[0]", "readBuf[1]", "readBuf[0]", "slices.Grow(b, readBufSize)[:bLen+readBufSize]", "b[bLen:]"] := rfl

theorem shape_ConnAddrFromReader : Gen.C06.ConnAddrFromReader_shape =
    ["b[0]", "b[1]", "call unsafe.String", "call unsafe.SliceData", "b[1]", "call Uint16", "b1[b[1]:]", "b[1]", "b1[0]", "b[1]", "b1[1:]", "conv (*[4]byte)", "call Uint16", "b1[4:]", "b1[0]", "b[1]", "b1[1:]", "conv (*[16]byte)", "call Uint16", "b1[16:]", "b[0]"] := rfl

theorem shape_AddrFromDomainPort : Gen.C06.AddrFromDomainPort_shape =
    ["if len(domain) == 0 || len(domain) > 255 => return", "call unsafe.StringData"] := rfl

theorem shape_AddrIP : Gen.C06.AddrIP_shape =
    ["panic"] := rfl

theorem shape_AddrDomain : Gen.C06.AddrDomain_shape =
    ["panic"] := rfl

theorem shape_AddrIPPort : Gen.C06.AddrIPPort_shape =
    ["panic"] := rfl

theorem shape_ValidateUnixEpochTimestamp : Gen.C06.ValidateUnixEpochTimestamp_shape =
    ["call Uint64", "if diff < -MaxEpochDiff || diff > MaxEpochDiff => return"] := rfl

theorem shape_ParseTCPRequestFixedLengthHeader : Gen.C06.ParseTCPRequestFixedLengthHeader_shape =
    ["b[0]", "b[0]", "b[1:]", "call Uint16", "b[1+8:]"] := rfl

theorem shape_ParseTCPRequestVariableLengthHeader : Gen.C06.ParseTCPRequestVariableLengthHeader_shape =
    ["b[n:]", "if len(b) <= 2 => return", "call Uint16", "if 2+paddingLen > len(b) => return", "b[2+paddingLen:]"] := rfl

theorem shape_ParseTCPResponseHeader : Gen.C06.ParseTCPResponseHeader_shape =
    ["b[0]", "b[0]", "b[1 : 1+8]", "b[1+8 : 1+8+len(requestSalt)]", "call Uint16", "b[1+8+len(requestSalt):]"] := rfl

theorem shape_ParseUDPClientMessageHeader : Gen.C06.ParseUDPClientMessageHeader_shape =
    ["if len(b) < UDPClientMessageHeaderFixedLength => return", "b[0]", "b[0]", "b[1 : 1+8]", "call Uint16", "b[1+8:]", "if payloadStart > len(b) => return", "b[payloadStart:]"] := rfl

theorem shape_ParseUDPServerMessageHeader : Gen.C06.ParseUDPServerMessageHeader_shape =
    ["if len(b) < UDPServerMessageHeaderFixedLength => return", "b[0]", "b[0]", "b[1 : 1+8]", "call Uint64", "b[1+8:]", "call Uint16", "b[1+8+8:]", "if payloadStart > len(b) => return", "b[payloadStart:]"] := rfl

theorem shape_UDPServerSessionInfo : Gen.C06.UDPServerSessionInfo_shape =
    ["if len(b) < UDPSeparateHeaderLength => return", "call Uint64"] := rfl

theorem shape_UDPServerNewUnpacker : Gen.C06.UDPServerNewUnpacker_shape =
    ["if len(b) < nonAEADHeaderLen => return", "b[:UDPSeparateHeaderLength]", "b[UDPSeparateHeaderLength:nonAEADHeaderLen]", "conv (*[IdentityHeaderLength]byte)", "b[:8]"] := rfl

theorem shape_ShadowPacketServerUnpack : Gen.C06.ShadowPacketServerUnpack_shape =
    ["if packetLen < p.nonAEADHeaderLen+p.aead.Overhead() => return", "b[packetStart : packetStart+UDPSeparateHeaderLength]", "separateHeader[4:16]", "b[messageHeaderStart : packetStart+packetLen]", "call Uint64", "separateHeader[8:]", "ciphertext[:0]", "call .MustAdd"] := rfl

theorem shape_ShadowPacketClientUnpack : Gen.C06.ShadowPacketClientUnpack_shape =
    ["if packetLen < UDPSeparateHeaderLength+16 => return", "b[packetStart:messageHeaderStart]", "separateHeader[4:16]", "b[messageHeaderStart : packetStart+packetLen]", "call Uint64", "call Uint64", "separateHeader[8:]", "case ssid == p.currentServerSessionID && p.currentServerSessionAEAD != nil", "case ssid == p.oldServerSessionID && p.oldServerSessionAEAD != nil", "case time.Since(p.oldServerSessionLastSeenTime) < time.Minute", "separateHeader[:8]", "ciphertext[:0]", "call .MustAdd"] := rfl

theorem shape_DirectServerPack : Gen.C06.DirectServerPack_shape =
    ["call .IPPort"] := rfl

theorem shape_NoneClientUnpack : Gen.C06.NoneClientUnpack_shape =
    ["b[packetStart : packetStart+packetLen]"] := rfl

theorem shape_NoneServerUnpack : Gen.C06.NoneServerUnpack_shape =
    ["b[packetStart : packetStart+packetLen]"] := rfl

theorem shape_Socks5ClientUnpack : Gen.C06.Socks5ClientUnpack_shape =
    ["if packetLen < 3 => return", "b[packetStart : packetStart+packetLen]", "pkt[3:]"] := rfl

theorem shape_Socks5ServerUnpack : Gen.C06.Socks5ServerUnpack_shape =
    ["if packetLen < 3 => return", "b[packetStart : packetStart+packetLen]", "pkt[3:]"] := rfl

theorem shape_ValidatePacketHeader : Gen.C06.ValidatePacketHeader_shape =
    ["b[2]"] := rfl

theorem shape_PortSetContains : Gen.C06.PortSetContains_shape =
    ["s.blocks[s.blockIndex(p)]"] := rfl

theorem shape_panicOnZeroPort : Gen.C06.panicOnZeroPort_shape =
    ["panic"] := rfl

theorem shape_PortRangeSetContains : Gen.C06.PortRangeSetContains_shape =
    ["case port > s.ranges[h].To", "s.ranges[h]", "case port < s.ranges[h].From", "s.ranges[h]"] := rfl

theorem shape_SourcePortMeet : Gen.C06.SourcePortMeet_shape =
    [] := rfl

theorem shape_SourcePortRangeSetMeet : Gen.C06.SourcePortRangeSetMeet_shape =
    ["call .Contains"] := rfl

theorem shape_SourcePortSetMeet : Gen.C06.SourcePortSetMeet_shape =
    ["call .Contains"] := rfl

theorem shape_DestPortMeet : Gen.C06.DestPortMeet_shape =
    [] := rfl

theorem shape_DestPortRangeSetMeet : Gen.C06.DestPortRangeSetMeet_shape =
    ["call .Contains"] := rfl

theorem shape_DestPortSetMeet : Gen.C06.DestPortSetMeet_shape =
    ["call .Contains"] := rfl

theorem shape_DestDomainMeet : Gen.C06.DestDomainMeet_shape =
    ["call .Domain"] := rfl

theorem shape_DestIPMeet : Gen.C06.DestIPMeet_shape =
    ["call .Contains", "call .IP"] := rfl

theorem shape_DestResolvedIPMeet : Gen.C06.DestResolvedIPMeet_shape =
    ["call .Contains", "call .IP", "call .Domain"] := rfl

theorem shape_RouterMatch : Gen.C06.RouterMatch_shape =
    ["r.routes[i]", "r.routes[i]", "panic"] := rfl

theorem shape_RouteMatch : Gen.C06.RouteMatch_shape =
    [] := rfl

theorem shape_serverHandleMethodSelection : Gen.C06.serverHandleMethodSelection_shape =
    ["if len(b) < 1+1+255 => return", "panic", "b[:3]", "b[0]", "b[0]", "b[1]", "b[2]", "b[3 : 3+nmethods-1]", "b[2 : 2+nmethods]", "b[1]", "b[:2]", "b[1]", "b[:2]"] := rfl

theorem shape_serverHandleUsernamePassword : Gen.C06.serverHandleUsernamePassword_shape =
    ["if len(b) < 1+1+255+1 => return", "panic", "b[:4]", "b[0]", "b[0]", "b[1]", "if ulen > 1", "b[4 : 4+ulen-1]", "b[2:plenIndex]", "b[plenIndex]", "b[2 : 2+plen]", "b[1]", "b[:2]"] := rfl

theorem shape_serverHandleRequest : Gen.C06.serverHandleRequest_shape =
    ["if len(b) < 3+MaxAddrLen => return", "panic", "b[:5]", "b[0]", "b[0]", "b[3:3]", "b[3:5]", "b[1]", "b[1]", "b[:3]", "b[:1]"] := rfl

theorem shape_replyWithStatus : Gen.C06.replyWithStatus_shape =
    ["b[:replyLen]", "reply[0]", "reply[1]", "reply[2]", "conv (*[IPv4AddrLen]byte)", "reply[3:]"] := rfl

theorem shape_hostHeaderToAddr : Gen.C06.hostHeaderToAddr_shape =
    ["case len(host) == 0", "case host[0] == '[' && host[len(host)-1] == ']'", "host[0]", "host[len(host)-1]", "host[1 : len(host)-1]"] := rfl

theorem shape_serverHandleBasicAuth : Gen.C06.serverHandleBasicAuth_shape =
    ["header[\"Proxy-Authorization\"]", "if len(creds) > len(prefix) && (creds[0] == 'B' || creds[0] == 'b') && (creds[1] == 'a' || creds[1] == 'A') && (creds[2] == 's' || creds[2] == 'S') && (creds[3] == 'i' || creds[3] == 'I') && (creds[4] == 'c' || creds[4] == 'C') && creds[5] == ' ' => return", "creds[0]", "creds[0]", "creds[1]", "creds[1]", "creds[2]", "creds[2]", "creds[3]", "creds[3]", "creds[4]", "creds[4]", "creds[5]", "creds[len(prefix):]"] := rfl

theorem shape_ShadowStreamConnRead : Gen.C06.ShadowStreamConnRead_shape =
    ["if cap(b) < streamReadMinBufferSize => return", "panic", "b[:2+tagSize]", "call Uint16", "b[:length+tagSize]"] := rfl

theorem shape_StreamServerHandleStream : Gen.C06.StreamServerHandleStream_shape =
    ["if bufferLen <= cap(writeBuf)", "writeBuf[:bufferLen]", "b[:reservedStart]", "if n > 0 && s.unsafeFallbackAddr.IsValid() => return", "readBuf[:n]", "b[:urspLen]", "b[urspLen:identityHeaderStart]", "b[fixedLengthHeaderStart:reservedStart]", "b[reservedStart:]", "b[identityHeaderStart:fixedLengthHeaderStart]", "conv [IdentityHeaderLength]byte", "if bufferLen <= cap(writeBuf)", "writeBuf[:bufferLen]"] := rfl

theorem shape_ShadowStreamClientInitRead : Gen.C06.ShadowStreamClientInitRead_shape =
    ["case bufferLen <= len(b)", "b[:bufferLen]", "case bufferLen <= streamReadMinBufferSize", "c.ShadowStreamConn.getReadBuf()[:bufferLen]", "hb[:urspLen]", "hb[urspLen:fixedLengthHeaderStart]", "hb[fixedLengthHeaderStart:]", "c.requestSalt[:c.requestSaltLen]"] := rfl

theorem shape_readOnceExpectFull : Gen.C06.readOnceExpectFull_shape =
    ["if err == io.EOF && 0 < n && n < len(b) => return", "if n < len(b) => return"] := rfl

theorem shape_clientNegotiateAuthMethod : Gen.C06.clientNegotiateAuthMethod_shape =
    ["if len(b) < 3 => return", "panic", "b[0]", "b[1]", "b[2]", "b[:3]", "b[:2]", "b[0]", "b[0]", "b[1]", "b[1]"] := rfl

theorem shape_clientDoUsernamePasswordAuth : Gen.C06.clientDoUsernamePasswordAuth_shape =
    ["if len(b) < 2 => return", "panic", "b[:2]", "b[0]", "b[0]", "b[1]"] := rfl

theorem shape_clientDoRequest : Gen.C06.clientDoRequest_shape =
    ["if len(b) < 3+MaxAddrLen => return", "panic", "b[0]", "b[1]", "b[2]", "b[3:]", "b[:3+n]", "b[:5]", "b[0]", "b[0]", "b[3:3]", "b[3:5]", "b[1]", "b[1]"] := rfl

theorem shape_dnsParseMsg : Gen.C06.dnsParseMsg_shape =
    ["r.a[:0]", "r.aaaa[:0]"] := rfl

/-! `audited_shape_*`: functions that are fuzzed but NOT modelled: their panic-relevant fingerprint is the one that was read
and fuzzed (a change re-opens the obligation; no no-panic theorem is claimed for them) -/

theorem audited_shape_ParseSessionIDAndPacketID : Gen.C06.ParseSessionIDAndPacketID_shape =
    ["call Uint64", "call Uint64", "b[8:]"] := rfl

theorem audited_shape_dnsDoTCP : Gen.C06.dnsDoTCP_shape =
    ["call Uint16"] := rfl

theorem audited_shape_dnsSendQueries : Gen.C06.dnsSendQueries_shape =
    ["qBuf[2:2]", "qBuf[q6PktStart:q6PktStart]", "qBuf[:2]", "qBuf[q4PktEnd:q6PktStart]", "call PutUint16", "call PutUint16", "qBuf[:q6PktEnd]"] := rfl

theorem audited_shape_httpClientConnect : Gen.C06.httpClientConnect_shape =
    ["if resp.StatusCode < 200 || resp.StatusCode >= 300 => return", "if br.Buffered() > 0 => return"] := rfl

theorem shape_ShadowPacketClientPack : Gen.C06.ShadowPacketClientPack_shape =
    ["case maxPaddingLen < 0", "case maxPaddingLen > 0 && p.shouldPad(targetAddr)", "call mrand.IntN(maxPaddingLen)", "b[messageHeaderStart:payloadStart]", "b[packetStart:identityHeadersStart]", "separateHeader[4:16]", "b[messageHeaderStart : payloadStart+payloadLen]", "b[start : start+IdentityHeaderLength]", "p.eihPSKHashes[i][:]", "p.eihPSKHashes[i]", "p.eihCiphers[i]", "plaintext[:0]"] := rfl

theorem shape_ShadowPacketServerPack : Gen.C06.ShadowPacketServerPack_shape =
    ["case maxPaddingLen < 0", "case maxPaddingLen > 0 && p.shouldPad(conn.AddrFromIPPort(sourceAddrPort))", "call mrand.IntN(maxPaddingLen)", "b[messageHeaderStart:payloadStart]", "b[packetStart:messageHeaderStart]", "separateHeader[4:16]", "b[messageHeaderStart : payloadStart+payloadLen]", "plaintext[:0]"] := rfl

theorem shape_PutUDPClientMessageHeader : Gen.C06.PutUDPClientMessageHeader_shape =
    ["b[0]", "call PutUint64", "b[1:]", "call PutUint16", "b[1+8:]", "b[1+8+2+paddingLen:]"] := rfl

theorem shape_PutUDPServerMessageHeader : Gen.C06.PutUDPServerMessageHeader_shape =
    ["b[0]", "call PutUint64", "b[1:]", "call PutUint64", "b[1+8:]", "call PutUint16", "b[1+8+8:]", "b[1+8+8+2+paddingLen:]"] := rfl

theorem shape_intToUint16 : Gen.C06.intToUint16_shape =
    ["panic"] := rfl

theorem shape_StreamClientDialStream : Gen.C06.StreamClientDialStream_shape =
    ["case payloadLen > roomForPayload", "payload[roomForPayload:]", "payload[:roomForPayload]", "case payloadLen >= MaxPaddingLength", "case payloadLen > 0", "call mrand.IntN(MaxPaddingLength - payloadLen + 1)", "call mrand.IntN(MaxPaddingLength)", "if bufferLen <= cap(writeBuf)", "writeBuf[:bufferLen]", "b[:urspLen]", "b[urspLen:identityHeadersStart]", "b[identityHeadersStart:fixedLengthHeaderStart]", "b[fixedLengthHeaderStart:fixedLengthHeaderEnd]", "b[variableLengthHeaderStart:variableLengthHeaderEnd]", "identityHeaders[i*IdentityHeaderLength : (i+1)*IdentityHeaderLength]", "eihCiphers[i]", "eihPSKHashes[i][:]", "eihPSKHashes[i]", "if len(excessPayload) > 0"] := rfl

theorem shape_PutTCPRequestVariableLengthHeader : Gen.C06.PutTCPRequestVariableLengthHeader_shape =
    ["call PutUint16", "b[n:]", "b[n:]"] := rfl

theorem shape_DirectClientPack : Gen.C06.DirectClientPack_shape =
    ["call .IPPort"] := rfl

theorem shape_NoneClientPack : Gen.C06.NoneClientPack_shape =
    ["b[packetStart:]"] := rfl

theorem shape_NoneServerPack : Gen.C06.NoneServerPack_shape =
    ["b[packetStart:]"] := rfl

theorem shape_Socks5ClientPack : Gen.C06.Socks5ClientPack_shape =
    ["b[packetStart:]", "b[packetStart+3:]"] := rfl

theorem shape_Socks5ServerPack : Gen.C06.Socks5ServerPack_shape =
    ["b[packetStart:]", "b[packetStart+3:]"] := rfl

theorem shape_WriteAddrFromConnAddr : Gen.C06.WriteAddrFromConnAddr_shape =
    ["call .IPPort", "call .Domain", "b[0]", "b[1]", "b[2:]", "call PutUint16", "b[1+1+len(domain):]"] := rfl

theorem shape_WriteAddrFromAddrPort : Gen.C06.WriteAddrFromAddrPort_shape =
    ["b[0]", "conv (*[4]byte)", "b[1:]", "b[0]", "conv (*[16]byte)", "b[1:]", "call PutUint16", "b[n-2:]"] := rfl

theorem shape_LengthOfAddrFromConnAddr : Gen.C06.LengthOfAddrFromConnAddr_shape =
    ["call .IPPort", "call .Domain", "if len(domain) > 255 => return", "panic"] := rfl

theorem shape_UDPRelayHeadroom : Gen.C06.UDPRelayHeadroom_shape =
    [] := rfl

theorem shape_MaxPacketSizeForAddr : Gen.C06.MaxPacketSizeForAddr_shape =
    ["if mtu > 65575 => return"] := rfl

theorem shape_Socks5UDPClientNewSession : Gen.C06.Socks5UDPClientNewSession_shape =
    [] := rfl

theorem shape_Socks5UDPClientNewSessionInner : Gen.C06.Socks5UDPClientNewSessionInner_shape =
    ["call .ResolveIPPort"] := rfl

theorem shape_Socks5AuthUDPClientNewSession : Gen.C06.Socks5AuthUDPClientNewSession_shape =
    [] := rfl

theorem shape_NoneUDPClientNewSession : Gen.C06.NoneUDPClientNewSession_shape =
    ["call .ResolveIPPort"] := rfl

theorem shape_SS2022UDPClientNewSession : Gen.C06.SS2022UDPClientNewSession_shape =
    ["call .ResolveIPPort", "call Uint64"] := rfl

theorem shape_serverForwardResponses : Gen.C06.serverForwardResponses_shape =
    ["resp.Header[\"Location\"]", "if len(location) != 1", "location[0]", "resp.Header[\"Connection\"]"] := rfl

theorem shape_serverForwardRequests : Gen.C06.serverForwardRequests_shape =
    ["req.Header[\"Connection\"]", "req.Header[\"User-Agent\"]", "req.Header[\"User-Agent\"]"] := rfl

theorem shape_removeConnectionSpecificFields : Gen.C06.removeConnectionSpecificFields_shape =
    ["header[\"Connection\"]"] := rfl

theorem shape_httpServerHandle : Gen.C06.httpServerHandle_shape =
    ["if failedAuthAttempts > 0 => return"] := rfl

theorem shape_ShadowStreamClientRead : Gen.C06.ShadowStreamClientRead_shape =
    ["if bufLen <= len(b) => return", "b[:bufLen]", "readBuf[:bufLen]", "readBuf[:payloadLen]"] := rfl

theorem shape_ShadowStreamClientReadFirstChunk : Gen.C06.ShadowStreamClientReadFirstChunk_shape =
    [] := rfl

theorem shape_lengthExtendSalt : Gen.C06.lengthExtendSalt_shape =
    ["out[:]"] := rfl

end SSV.C06

#print axioms SSV.C06.no_panic_addrPortFromSlice
#print axioms SSV.C06.no_panic_connAddrFromSlice
#print axioms SSV.C06.no_panic_domainCacheConnAddrFromSlice
#print axioms SSV.C06.connAddrFromSlice_ok_bounds
#print axioms SSV.C06.addrPortFromSlice_ok_bounds
#print axioms SSV.C06.no_panic_appendFromReader
#print axioms SSV.C06.no_panic_connAddrFromReader
#print axioms SSV.C06.no_panic_parseTCPRequestFixedLengthHeader
#print axioms SSV.C06.no_panic_parseTCPRequestVariableLengthHeader
#print axioms SSV.C06.no_panic_parseTCPResponseHeader
#print axioms SSV.C06.no_panic_parseUDPClientMessageHeader
#print axioms SSV.C06.no_panic_parseUDPServerMessageHeader
#print axioms SSV.C06.no_panic_udpSessionInfo
#print axioms SSV.C06.no_panic_udpNewUnpacker
#print axioms SSV.C06.no_panic_udpServerUnpack
#print axioms SSV.C06.no_panic_udpClientUnpack
#print axioms SSV.C06.udp_client_unpack_nil_aead_panics
#print axioms SSV.C06.no_panic_udpServerReceive
#print axioms SSV.C06.no_panic_socks5_server
#print axioms SSV.C06.no_panic_socks5_client
#print axioms SSV.C06.no_panic_noneServerUnpack
#print axioms SSV.C06.no_panic_noneClientUnpack
#print axioms SSV.C06.no_panic_socks5ServerUnpack
#print axioms SSV.C06.no_panic_socks5ClientUnpack
#print axioms SSV.C06.no_panic_streamRead
#print axioms SSV.C06.streamRead_callsite_cap
#print axioms SSV.C06.streamRead_u16_fits
#print axioms SSV.C06.no_panic_hostHeaderToAddr
#print axioms SSV.C06.no_panic_basicAuthToken
#print axioms SSV.C06.no_panic_relay_repack_ss2022_client
#print axioms SSV.C06.no_panic_relay_repack_ss2022_server
#print axioms SSV.C06.relay_repack_unguarded_exact_fit_panics
#print axioms SSV.C06.no_panic_relay_repack_none_client
#print axioms SSV.C06.no_panic_relay_repack_socks5_client
#print axioms SSV.C06.no_panic_relay_repack_none_server
#print axioms SSV.C06.no_panic_relay_repack_socks5_server
#print axioms SSV.C06.no_panic_relay_repack_direct_client
#print axioms SSV.C06.parsed_address_fits_packers
#print axioms SSV.C06.parsed_address_fits_packers_dc
#print axioms SSV.C06.no_panic_relay_dialstream_split
#print axioms SSV.C06.no_panic_handleStream
#print axioms SSV.C06.no_panic_clientFirstRead
#print axioms SSV.C06.no_panic_dnsParseMsg
#print axioms SSV.C06.no_panic_locationForcesClose
#print axioms SSV.C06.no_panic_socks5_udp_associate_session
#print axioms SSV.C06.accessor_ip_under_guard
#print axioms SSV.C06.accessor_domain_under_guard
#print axioms SSV.C06.accessor_resolve_valid
#print axioms SSV.C06.accessor_ip_on_domain_panics
#print axioms SSV.C06.unguarded_accessor_sites_are_the_audited_ones
#print axioms SSV.C06.accessor_sites_fingerprint
#print axioms SSV.C06.no_panic_router_match
#print axioms SSV.C06.no_panic_wire_to_route
#print axioms SSV.C06.router_match_unguarded_panics
#print axioms SSV.C06.no_panic_direct_server_pack
#print axioms SSV.C06.direct_targetonly_domain_panics
#print axioms SSV.C06.shape_AddrPortFromSlice
#print axioms SSV.C06.shape_ConnAddrFromSlice
#print axioms SSV.C06.shape_DomainCacheConnAddrFromSlice
#print axioms SSV.C06.shape_AppendFromReader
#print axioms SSV.C06.shape_ConnAddrFromReader
#print axioms SSV.C06.shape_AddrFromDomainPort
#print axioms SSV.C06.shape_AddrIP
#print axioms SSV.C06.shape_AddrDomain
#print axioms SSV.C06.shape_AddrIPPort
#print axioms SSV.C06.shape_ValidateUnixEpochTimestamp
#print axioms SSV.C06.shape_ParseTCPRequestFixedLengthHeader
#print axioms SSV.C06.shape_ParseTCPRequestVariableLengthHeader
#print axioms SSV.C06.shape_ParseTCPResponseHeader
#print axioms SSV.C06.shape_ParseUDPClientMessageHeader
#print axioms SSV.C06.shape_ParseUDPServerMessageHeader
#print axioms SSV.C06.shape_UDPServerSessionInfo
#print axioms SSV.C06.shape_UDPServerNewUnpacker
#print axioms SSV.C06.shape_ShadowPacketServerUnpack
#print axioms SSV.C06.shape_ShadowPacketClientUnpack
#print axioms SSV.C06.shape_DirectServerPack
#print axioms SSV.C06.shape_NoneClientUnpack
#print axioms SSV.C06.shape_NoneServerUnpack
#print axioms SSV.C06.shape_Socks5ClientUnpack
#print axioms SSV.C06.shape_Socks5ServerUnpack
#print axioms SSV.C06.shape_ValidatePacketHeader
#print axioms SSV.C06.shape_PortSetContains
#print axioms SSV.C06.shape_panicOnZeroPort
#print axioms SSV.C06.shape_PortRangeSetContains
#print axioms SSV.C06.shape_SourcePortMeet
#print axioms SSV.C06.shape_SourcePortRangeSetMeet
#print axioms SSV.C06.shape_SourcePortSetMeet
#print axioms SSV.C06.shape_DestPortMeet
#print axioms SSV.C06.shape_DestPortRangeSetMeet
#print axioms SSV.C06.shape_DestPortSetMeet
#print axioms SSV.C06.shape_DestDomainMeet
#print axioms SSV.C06.shape_DestIPMeet
#print axioms SSV.C06.shape_DestResolvedIPMeet
#print axioms SSV.C06.shape_RouterMatch
#print axioms SSV.C06.shape_RouteMatch
#print axioms SSV.C06.shape_serverHandleMethodSelection
#print axioms SSV.C06.shape_serverHandleUsernamePassword
#print axioms SSV.C06.shape_serverHandleRequest
#print axioms SSV.C06.shape_replyWithStatus
#print axioms SSV.C06.shape_hostHeaderToAddr
#print axioms SSV.C06.shape_serverHandleBasicAuth
#print axioms SSV.C06.shape_ShadowStreamConnRead
#print axioms SSV.C06.shape_StreamServerHandleStream
#print axioms SSV.C06.shape_ShadowStreamClientInitRead
#print axioms SSV.C06.shape_readOnceExpectFull
#print axioms SSV.C06.shape_clientNegotiateAuthMethod
#print axioms SSV.C06.shape_clientDoUsernamePasswordAuth
#print axioms SSV.C06.shape_clientDoRequest
#print axioms SSV.C06.audited_shape_ParseSessionIDAndPacketID
#print axioms SSV.C06.shape_dnsParseMsg
#print axioms SSV.C06.audited_shape_dnsDoTCP
#print axioms SSV.C06.audited_shape_dnsSendQueries
#print axioms SSV.C06.audited_shape_httpClientConnect
#print axioms SSV.C06.shape_ShadowPacketClientPack
#print axioms SSV.C06.shape_ShadowPacketServerPack
#print axioms SSV.C06.shape_PutUDPClientMessageHeader
#print axioms SSV.C06.shape_PutUDPServerMessageHeader
#print axioms SSV.C06.shape_intToUint16
#print axioms SSV.C06.shape_StreamClientDialStream
#print axioms SSV.C06.shape_PutTCPRequestVariableLengthHeader
#print axioms SSV.C06.shape_DirectClientPack
#print axioms SSV.C06.shape_NoneClientPack
#print axioms SSV.C06.shape_NoneServerPack
#print axioms SSV.C06.shape_Socks5ClientPack
#print axioms SSV.C06.shape_Socks5ServerPack
#print axioms SSV.C06.shape_WriteAddrFromConnAddr
#print axioms SSV.C06.shape_WriteAddrFromAddrPort
#print axioms SSV.C06.shape_LengthOfAddrFromConnAddr
#print axioms SSV.C06.shape_UDPRelayHeadroom
#print axioms SSV.C06.shape_MaxPacketSizeForAddr
#print axioms SSV.C06.shape_Socks5UDPClientNewSession
#print axioms SSV.C06.shape_Socks5UDPClientNewSessionInner
#print axioms SSV.C06.shape_Socks5AuthUDPClientNewSession
#print axioms SSV.C06.shape_NoneUDPClientNewSession
#print axioms SSV.C06.shape_SS2022UDPClientNewSession
#print axioms SSV.C06.shape_serverForwardResponses
#print axioms SSV.C06.shape_serverForwardRequests
#print axioms SSV.C06.shape_removeConnectionSpecificFields
#print axioms SSV.C06.shape_httpServerHandle
#print axioms SSV.C06.shape_ShadowStreamClientRead
#print axioms SSV.C06.shape_ShadowStreamClientReadFirstChunk
#print axioms SSV.C06.shape_lengthExtendSalt
