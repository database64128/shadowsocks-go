import SSV.Proofs.StreamAuth
import SSV.Proofs.StreamHandshake
import SSV.Proofs.StreamSticky
/-
C02 — Tampered, spliced or foreign SS2022 TCP traffic is never delivered as data.
The property theorems and the AEAD `authCrypto` of the `example`s (lemmas: SSV/Proofs/StreamAuth.lean,
StreamHandshake.lean, StreamSticky.lean; `failed_open_keeps_nonce` is proved here, on `readChunk`
itself, and decides the fact `decryptAdvancesOnlyOnSuccess`). The attacker is an arbitrary wire.
Hypotheses on the AEAD under the session key (`AeadAuth`): unforgeability relative to the genuine
peer's nonce→plaintext history (`honestOf`: the writer uses each nonce once, C01) and determinism.
`authCrypto` below is an instance, so the theorems are not vacuous.
-/
namespace SSV.C02
open SSV SSV.Stream SSV.Gen.C01

/-- an AEAD that opens exactly the genuine ciphertexts of a given history (non-vacuity witness) -/
def authCrypto (honest : Nat → Option Bytes) : Crypto where
  enc := fun _ _ p => p ++ List.replicate tagSize 0
  dec := fun _ n c => match honest n with
    | some p => if c = p ++ List.replicate tagSize 0 then some p else none
    | none => none
  kdf := fun psk salt => psk ++ salt
  eihEnc := fun _ _ b => b
  eihDec := fun _ _ b => b
  pskHash := fun psk => psk

theorem authCrypto_auth (honest : Nat → Option Bytes) (k : Bytes) : AeadAuth (authCrypto honest) k honest := by
  have key : ∀ n c p, (authCrypto honest).dec k n c = some p →
      honest n = some p ∧ c = (authCrypto honest).enc k n p := by
    intro n c p h
    simp only [authCrypto] at h ⊢
    split at h
    · split at h
      · cases h; exact ⟨‹_›, ‹_›⟩
      · cases h
    · cases h
  exact ⟨fun n c p h => (key n c p h).1, fun n c p h => (key n c p h).2⟩

/-- **reader_prefix**: for every wire the attacker presents and every reader schedule (Read with any
buffer sizes, WriteTo, tunnel copy, in any mixture; the schedule ends at the first error), the bytes
handed to the application are a prefix of what the genuine peer wrote. -/
theorem reader_prefix (C : Crypto) (k : Bytes) (n0 : Nat) (cs : List Bytes)
    (hA : AeadAuth C k (honestOf n0 cs)) (hv : ValidChunks cs) (wire : Bytes) (ops : List ROp) :
    ∃ rest, cs.flatten = ((Reader.run C ⟨k, n0, [], wire⟩ ops).map ROut.bytes).flatten ++ rest := by
  obtain ⟨j, rest, h⟩ := run_prefix hA hv ops ⟨k, n0, [], wire⟩ [] (Inv.iff.mpr ⟨0, by simp, Or.inr ⟨rfl, rfl⟩⟩)
  refine ⟨rest ++ (cs.drop j).flatten, ?_⟩
  have : cs.flatten = (cs.take j).flatten ++ (cs.drop j).flatten := by
    rw [← List.flatten_append, List.take_append_drop]
  rw [this, ← h]
  simp

example : ∃ C k, AeadAuth C k (honestOf 2 [[1, 2, 3]]) ∧ ValidChunks [[1, 2, 3]] :=
  ⟨authCrypto (honestOf 2 [[1, 2, 3]]), [], authCrypto_auth _ _, by
    intro p hp; simp at hp; subst hp; decide⟩

/-- **reader_fails_on_alteration**: a `read` that is positioned at chunk `j` of the genuine stream
returns data only if the bytes in front of it are byte-for-byte the genuine encoding of chunk `j`
(and then it returns exactly that chunk); it reports end of stream only if the wire ends at a
genuine AEAD-chunk boundary. Any alteration inside chunk `j` therefore makes the read fail. -/
theorem reader_fails_on_alteration (C : Crypto) (k : Bytes) (n0 : Nat) (cs : List Bytes)
    (hA : AeadAuth C k (honestOf n0 cs)) (hv : ValidChunks cs) (j : Nat) (w : Bytes) :
    (∀ p, (readChunk C k (n0 + 2 * j) w).res = .ok p →
        cs[j]? = some p ∧ ∃ rest, w = sealChunk C k (n0 + 2 * j) p ++ rest) ∧
    ((readChunk C k (n0 + 2 * j) w).res = .error .eof →
        w = [] ∨ ∃ p, cs[j]? = some p ∧ w = C.enc k (n0 + 2 * j) (be16 p.length)) := by
  have h := readChunk_honest hA hv j w
  exact ⟨fun p hp => ⟨(h.1 p hp).1, _, (h.1 p hp).2.1⟩, fun he => (h.2 he).2⟩

/-- one call keeps the invariant's first half, on any wire: what was handed over plus what is buffered
is a whole number of genuine chunks (`run_prefix` carries it along a schedule) -/
theorem reader_chunk_aligned (C : Crypto) (k : Bytes) (n0 : Nat) (cs : List Bytes)
    (hA : AeadAuth C k (honestOf n0 cs)) (hv : ValidChunks cs) (r : Reader) (delivered : Bytes)
    (hi : Inv k n0 cs r delivered) (op : ROp) :
    ∃ j, (delivered ++ (r.step C op).1.bytes) ++ (r.step C op).2.left = (cs.take j).flatten :=
  (step_inv hA hv r delivered hi op).imp fun _ h => h.1

/-- **no_request_without_key**: if `HandleStream` produces a request, then the fixed-length and the
variable-length header both opened (nonces 0 and 1) under the session key of a PSK the server holds
— its own, or that of the user the request is attributed to — for the salt on the wire; under the
unforgeability hypothesis for that key, both were sealed by the genuine holder of the key
(`honest 0`, `honest 1`), and target and payload are the ones in that genuine header. A handshake
altered anywhere in these two chunks, or made under a key the server does not hold, cannot yield a
request. -/
theorem no_request_without_key (C : Crypto) (cfg : ServerCfg) (now : Int) (segs : List Bytes)
    (req : Request) (r : Reader) (salt upsk : Bytes)
    (h : handle C cfg now segs = .request req r salt upsk)
    (honest : Nat → Option Bytes) (hA : AeadAuth C (C.kdf upsk salt) honest) :
    KeyHeld cfg upsk req.user ∧
    ∃ fh vh, honest 0 = some fh ∧ honest 1 = some vh ∧ parseVarHeader vh = .ok (req.addr, req.payload) ∧
      r.key = C.kdf upsk salt ∧ r.nonce = 2 ∧ r.left = [] := by
  have hs := handle_sound C cfg now segs
  rw [h] at hs
  obtain ⟨ct, c2, fh, vh, h0, h1, hp, hk, e1, e2, e3⟩ := hs
  exact ⟨hk, fh, vh, hA.uf _ _ _ h0, hA.uf _ _ _ h1, hp, e1, e2, e3⟩

/-- **fallback_untouched**: the bytes handed to the fallback destination are a prefix of the bytes
received, unmodified (no in-place decryption before authentication). -/
theorem fallback_untouched (C : Crypto) (cfg : ServerCfg) (now : Int) (segs : List Bytes) (p : Bytes)
    (h : handle C cfg now segs = .fallback p) : ∃ rest, received segs = p ++ rest := by
  have hs := handle_sound C cfg now segs
  rwa [h] at hs

/-- **response_bound**: a client's first `Read` returns data only if the response header opened under
the client's own key and carries the client's own request salt; under the unforgeability hypothesis
the genuine server sealed exactly that header, i.e. in answer to this request. A response recorded
from another session (other request salt, or other key) is rejected. -/
theorem response_bound (C : Crypto) (c : CReader) (now : Int) (n : Nat) (bs : Bytes)
    (hc : c.r = none) (h : (c.read C now n).1 = .data bs)
    (honest : Bytes → Nat → Option Bytes) (hA : ∀ salt', AeadAuth C (C.kdf c.psk salt') (honest salt')) :
    ∃ salt' hd, honest salt' 0 = some hd ∧ (hd.headD 0).toNat = HeaderTypeServerStream ∧
      (hd.drop 9).take c.reqSalt.length = c.reqSalt := by
  rw [CReader.read, hc] at h
  dsimp only at h
  split at h
  · cases h
  · rename_i len c' hi
    obtain ⟨ct, salt', hd, h0, h1, h2⟩ := initRead_bound C c now len c' hi
    exact ⟨salt', hd, (hA salt').uf _ _ _ h0, h1, h2⟩

example (honest : Nat → Option Bytes) : ∃ C, ∀ k, AeadAuth C k honest := ⟨authCrypto honest, authCrypto_auth honest⟩

/-- **reader_prefix_continued** (sticky `readErr`, finding F22): the attacker presents any
wire and the caller keeps calling — `Read` with any buffer sizes, `WriteTo`, tunnel copy, in any
mixture — also AFTER calls have failed. Everything the conn ever hands over is a prefix of what the
genuine peer wrote. (Without the sticky error this is false of the code: a read issued after an
authentication failure can open a genuine 2-byte payload chunk as a length chunk and hand the next
length field to the caller as data; the check reproduces that on a tree without the guard.)
Depends on the regenerated fact `readErrorsSticky`. -/
theorem reader_prefix_continued (C : Crypto) (k : Bytes) (n0 : Nat) (cs : List Bytes)
    (hA : AeadAuth C k (honestOf n0 cs)) (hv : ValidChunks cs) (wire : Bytes) (ops : List ROp) :
    ∃ rest, cs.flatten = ((SReader.run C ⟨⟨k, n0, [], wire⟩, none, []⟩ ops).map ROut.bytes).flatten ++ rest := by
  rw [srun_bytes]
  exact reader_prefix C k n0 cs hA hv wire ops

/-- after the first failed call every later call on the conn fails with the same error and hands
over nothing (server conn and client conn alike) -/
theorem failed_conn_stays_failed (C : Crypto) (r : Reader) (e : Err) (later : List Bytes) (ops : List ROp)
    (c : CReader) (hc : c.err = some e) (now : Int) :
    SReader.run C ⟨r, some e, later⟩ ops = ops.map (fun op => failedOut op e) ∧
    (∀ n, c.readS C now n = (.fail e, c)) ∧ c.writeToS C now = (.copied [] (some e), c) ∧
    (∀ st, c.tunnelS C now st = (.copied [] (some e), c)) :=
  ⟨failed_run C r e later ops, client_failed C c e hc now⟩

/-- **retryable_iff_nothing_consumed** (finding F22b), on any wire: (a) a transport deadline
that fires while nothing of the next chunk has been consumed leaves the conn exactly as it was (no
sticky error; the next call goes on with the next stretch of the transport); (b) once the sticky error
is set — by a failure that consumed bytes of an unfinished chunk or a chunk that did not authenticate —
every later call fails with it and hands over nothing. -/
theorem retryable_iff_nothing_consumed (C : Crypto) (s : SReader) (nx : Bytes) (rest : List Bytes)
    (herr : s.err = none) (hleft : s.r.left = []) (hwire : s.r.wire = []) (hlater : s.later = nx :: rest) (op : ROp)
    (r : Reader) (e : Err) (later : List Bytes) (ops : List ROp) :
    s.step C op = (failedOut op .timeout, { r := { s.r with wire := nx }, err := none, later := rest }) ∧
    SReader.run C ⟨r, some e, later⟩ ops = ops.map (fun op => failedOut op e) := by
  refine ⟨?_, failed_run C r e later ops⟩
  -- the call's first `read` finds the stretch exhausted: nothing consumed, nonce unchanged
  have hr := Reader.step_read_error hleft (by rw [hwire, readChunk_nil] : readChunk C s.r.key s.r.nonce s.r.wire = _) op
  have hend : (s.r.step C op).1.hitEnd = true := by rw [hr]; cases op <;> rfl
  rw [SReader.step_deadline C s op nx rest herr hlater hend, hr]
  cases op <;> simp [failedOut, ROut.asTimeout, ROut.err]

/-- **client_first_read_failure** (the continuation after a failed first read, whatever is on the
wire): a client conn that has no reader yet calls `Read` and gets an error other than end of stream —
prefix mismatch, a response header cut short or segmented, authentication failure, a header that is
not bound to the request, a bad first payload chunk. Then either the error is recorded and EVERY later
call of any kind returns it and hands over nothing, or nothing of the response was consumed and the
conn is exactly a fresh client conn on the same bytes (so the next call is a first call again, covered
by `response_bound` / `response_roundtrip`). In no case does a second attempt start in the middle of
the response. (First call = `Read`; the copy paths use the same `initRead` / first-payload code and
are tied by the tamper engine.) -/
theorem client_first_read_failure (C : Crypto) (c : CReader) (now : Int) (n : Nat) (e : Err)
    (hr : c.r = none) (he : c.err = none) (ht : c.touts = [])
    (hh : (c.readS C now n).1.hardErr = some e) (now' : Int) :
    ((∀ m, (c.readS C now n).2.readS C now' m = (.fail e, (c.readS C now n).2)) ∧
     (c.readS C now n).2.writeToS C now' = (.copied [] (some e), (c.readS C now n).2) ∧
     (∀ st, (c.readS C now n).2.tunnelS C now' st = (.copied [] (some e), (c.readS C now n).2))) ∨
    ((c.readS C now n).2.r = none ∧ (c.readS C now n).2.err = none ∧
      ¬ ((c.readS C now n).2.segs.flatten.length < c.segs.flatten.length)) := by
  rcases client_first_failure C c now n e hr he ht hh with h | h
  · exact Or.inl (client_failed C _ e h now')
  · exact Or.inr h

/-- **failed_open_keeps_nonce** (the nonce counter is only advanced by a successful open — the state
invariant the property's anchors name): a `read` that fails authentication leaves the counter at the
number of chunks it did open: unchanged if the length chunk did not open, advanced by one if the length
chunk opened and the payload chunk did not. Depends on the regenerated fact
`decryptAdvancesOnlyOnSuccess` (the three `Decrypt*` helpers increment inside `if err == nil`). A failed
conn refuses every later read (sticky `readErr`, finding F22), so a violation of this invariant alone cannot
be turned into delivered bytes; the check names this theorem as the broken obligation. -/
theorem failed_open_keeps_nonce (C : Crypto) (k : Bytes) (n : Nat) (w : Bytes)
    (h : (readChunk C k n w).res = .error .auth) :
    (readChunk C k n w).nonce = n ∨ (readChunk C k n w).nonce = n + 1 ∧ ∃ c1 lp, C.dec k n c1 = some lp := by
  have hf : decryptAdvancesOnlyOnSuccess = true := by decide
  have part : ∀ m len v, (openPart C k m len v).res = .error .auth → (openPart C k m len v).nonce = m := fun m len v hp => by
    rw [(openPart_inv C k m len v).2.2 hp, failNonce, if_pos hf]
  rw [readChunk_eq] at h ⊢
  cases h1 : (openPart C k n 2 w).res with
  | error e =>
    simp only [h1] at h ⊢
    exact Or.inl (part _ _ _ (h1.trans h))
  | ok lp =>
    -- the length part opened: whatever fails afterwards leaves the counter at `n + 1`
    obtain ⟨c1, hd, -⟩ := (openPart_inv C k n 2 w).1 lp h1
    simp only [h1] at h ⊢
    split at h
    · cases h
    · rename_i h0
      rw [if_neg h0]
      exact Or.inr ⟨part _ _ _ h, c1, lp, hd⟩

end SSV.C02

#print axioms SSV.C02.authCrypto_auth
#print axioms SSV.C02.reader_prefix
#print axioms SSV.C02.reader_fails_on_alteration
#print axioms SSV.C02.reader_chunk_aligned
#print axioms SSV.C02.no_request_without_key
#print axioms SSV.C02.fallback_untouched
#print axioms SSV.C02.response_bound
#print axioms SSV.C02.reader_prefix_continued
#print axioms SSV.C02.failed_conn_stays_failed
#print axioms SSV.C02.retryable_iff_nothing_consumed
#print axioms SSV.C02.client_first_read_failure
#print axioms SSV.C02.failed_open_keeps_nonce
