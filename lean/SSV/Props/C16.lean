import SSV.Proofs.HttpProxy
/-
C16 — Plain-HTTP proxying forwards messages intact minus hop-by-hop and proxy fields (PARTIAL: the filter, the 407
loop, and the two forwarding goroutines as a transition system are modelled and proved; net/http's parsing and
serialisation of messages are parameters of the model, tied by the correspondence check only).

Every `decide` in a `gen_*` theorem below is a finite side condition on the facts regenerated from httpproxy/server.go
(SSV.Gen.C16): if the source changes so that one of them is false, this file no longer elaborates.
-/
namespace SSV.C16
open SSV.HttpProxy SSV.Gen.C16

/-- the fields the statement wants removed from every forwarded request: RFC 9110 §7.6.1 hop-by-hop fields,
    `Upgrade`, and the proxy credentials (canonical spelling) -/
def specForbidden : List Str :=
  [['C', 'o', 'n', 'n', 'e', 'c', 't', 'i', 'o', 'n'],
   ['P', 'r', 'o', 'x', 'y', '-', 'C', 'o', 'n', 'n', 'e', 'c', 't', 'i', 'o', 'n'],
   ['K', 'e', 'e', 'p', '-', 'A', 'l', 'i', 'v', 'e'],
   ['T', 'e'],
   ['T', 'r', 'a', 'n', 's', 'f', 'e', 'r', '-', 'E', 'n', 'c', 'o', 'd', 'i', 'n', 'g'],
   ['U', 'p', 'g', 'r', 'a', 'd', 'e'],
   ['P', 'r', 'o', 'x', 'y', '-', 'A', 'u', 't', 'h', 'o', 'r', 'i', 'z', 'a', 't', 'i', 'o', 'n'],
   ['P', 'r', 'o', 'x', 'y', '-', 'A', 'u', 't', 'h', 'e', 'n', 't', 'i', 'c', 'a', 't', 'e'],
   ['P', 'r', 'o', 'x', 'y', '-', 'A', 'u', 't', 'h', 'e', 'n', 't', 'i', 'c', 'a', 't', 'i', 'o', 'n', '-', 'I', 'n', 'f', 'o']]

def closeLit : Str := ['C', 'l', 'o', 's', 'e']

/-- names removed from the header of request `r`: nominated by its Connection values (except the kept options),
    listed in the filter, or deleted next to it -/
def reqForbidden (r : Req) (k : Str) : Bool :=
  forbidden (values r.header connLit) k || reqExtraDeleted.contains k

/-- the repairs of F16 (trailer filtered at end of body), F17 (no invented User-Agent) and of the close test
    applied to interim responses are present in the source -/
theorem gen_repairs_present :
    trailerFilteredAtEOF = true ∧ suppressDefaultUserAgent = true ∧ closeTestFirst = false := by decide +kernel

/-- every field named by the statement is deleted by the code -/
theorem gen_covers_spec :
    specForbidden.all (fun k => deletedFields.contains k || reqExtraDeleted.contains k) = true := by decide +kernel

/-- an option the loop keeps is `Close`, or a name that is deleted anyway -/
theorem gen_kept_harmless :
    keptOptions.all (fun o => o == closeLit || deletedFields.contains o || reqExtraDeleted.contains o) = true := by decide +kernel

/-- order of the steps: filter and deletions before the announcement, the announcement before the write, the host and
    CONNECT tests before the next round; authentication is tested before the loop is left; the response is filtered
    before it is written; the queue holds 16 requests -/
theorem gen_step_order :
    fwdSteps.idxOf "filter" < fwdSteps.idxOf "announce" ∧ fwdSteps.idxOf "delete" < fwdSteps.idxOf "announce" ∧
    fwdSteps.idxOf "announce" < fwdSteps.idxOf "write" ∧ fwdSteps.idxOf "write" < fwdSteps.idxOf "read" ∧
    fwdSteps.idxOf "read" < fwdSteps.idxOf "checkConnect" ∧ fwdSteps.idxOf "checkConnect" < fwdSteps.length ∧
    fwdSteps.idxOf "checkHost" < fwdSteps.length ∧
    handleSteps = ["read", "readErr", "noAuthBreak", "check", "okBreak", "count", "send407", "closeReturn"] ∧
    respSteps.idxOf "filter" < respSteps.idxOf "write" ∧ respSteps.idxOf "redirectRule" < respSteps.idxOf "write" ∧
    queueCap = 16 ∧ canned = [(200, false), (400, true), (407, false), (502, true)] := by decide +kernel

/-- The forwarded request: its header is the original one minus exactly the removed names (values, order and all
    other fields untouched, nothing added), the same for the trailer (net/http forwards received trailer fields only
    if at least one was announced), method and host unchanged. -/
theorem filter_exact (r : Req) :
    (filterReq r).header = r.header.filter (fun f => !reqForbidden r f.1) ∧
    (filterReq r).trailer =
      (if r.announced.isEmpty then [] else r.trailer.filter (fun f => !forbidden (values r.header connLit) f.1)) ∧
    (filterReq r).method = r.method ∧ (filterReq r).host = r.host ∧ (filterReq r).close = r.close := by
  obtain ⟨hT, hU, _⟩ := gen_repairs_present
  refine ⟨?_, ?_, filterReq_method r, filterReq_host r, filterReq_close r⟩
  · simp only [filterReq, hU, Bool.not_true, Bool.false_and, Bool.false_eq_true, if_false]
    rw [removeHopByHop_eq_foldl, ← List.foldl_append, foldl_del]
    simp only [reqForbidden, forbidden_eq, List.contains_append]
  · simp only [filterReq, fwdTrailer, hT, if_true]
    split
    · rfl
    · rw [removeHopByHop_filter]

/-- Nothing the statement forbids reaches the origin: a forwarded field was sent by the client, is not one of the
    named hop-by-hop / Upgrade / credential fields, and is not nominated by a Connection option other than `close`. -/
theorem forbidden_never_forwarded (r : Req) (f : Field) (hf : f ∈ (filterReq r).header) :
    f ∈ r.header ∧ f.1 ∉ specForbidden ∧
    ∀ o ∈ options (values r.header connLit), o ≠ closeLit → f.1 ≠ o := by
  rw [(filter_exact r).1, List.mem_filter, reqForbidden, Bool.not_eq_true', Bool.or_eq_false_iff,
    forbidden_eq_false_iff] at hf
  obtain ⟨hmem, ⟨hdel, hnom⟩, hext⟩ := hf
  have hd : f.1 ∉ deletedFields := by simpa using hdel
  have he : f.1 ∉ reqExtraDeleted := by simpa using hext
  refine ⟨hmem, ?_, ?_⟩
  · intro hs
    have := (List.all_eq_true.mp gen_covers_spec) f.1 hs
    simp only [Bool.or_eq_true, List.contains_iff_mem] at this
    exact this.elim hd he
  · intro o ho hoc heq
    subst heq
    by_cases hk : keptOptions.contains f.1 = true
    · have := (List.all_eq_true.mp gen_kept_harmless) f.1 (by simpa using hk)
      simp only [Bool.or_eq_true, List.contains_iff_mem, beq_iff_eq] at this
      exact this.elim (·.elim hoc hd) he
    · exact hnom f.1 ho (by simpa using hk) rfl

/-- The same for the trailer of a forwarded request (this is F16's repair: true only with the end-of-body filter). -/
theorem forbidden_trailer_never_forwarded (r : Req) (f : Field) (hf : f ∈ (filterReq r).trailer) :
    f ∈ r.trailer ∧ deletedFields.contains f.1 = false ∧
    ∀ o ∈ options (values r.header connLit), keptOptions.contains o = false → f.1 ≠ o := by
  rw [(filter_exact r).2.1] at hf
  split at hf
  · simp at hf
  · rw [List.mem_filter, Bool.not_eq_true', forbidden_eq_false_iff] at hf
    exact ⟨hf.1, hf.2⟩

/-- Every other field arrives: an end-to-end field of the client is in the forwarded header. -/
theorem end_to_end_kept (r : Req) (f : Field) (hf : f ∈ r.header) (he : reqForbidden r f.1 = false) :
    f ∈ (filterReq r).header := by
  rw [(filter_exact r).1, List.mem_filter]
  exact ⟨hf, by simp [he]⟩

/-- With Basic authentication enabled, the request `ServerHandle` hands over for forwarding carries a valid token and
    is not CONNECT; every request before it failed the check, was answered with 407 (`k` of them) and kept the
    connection open. Any other outcome of `ServerHandle` creates no forwarding state at all (see `Handled`). -/
theorem nothing_before_auth (toks : List Str) (msgs : List ClientMsg) (k : Nat) (first : Req) (rest : List ClientMsg)
    (h : serverHandle (some toks) msgs 0 = .forward k first rest) :
    basicAuth toks first.header = true ∧ first.method ≠ connectLit ∧
    ∃ pre ok, msgs = pre ++ ClientMsg.req first ok :: rest ∧ k = pre.length ∧
      ∀ m ∈ pre, ∃ r ok', m = ClientMsg.req r ok' ∧ basicAuth toks r.header = false ∧ r.close = false := by
  obtain ⟨h1, h2, pre, ok, h3, h4, h5⟩ := serverHandle_forward h
  exact ⟨h1, h2, pre, ok, h3, by omega, h5⟩

/-- The test that switches authentication off is `usernameByToken == nil` (not a test of the map's length): a server
    configured with Basic authentication and an EMPTY user list keeps the gate closed (`auth = some []` in the model). -/
theorem gen_auth_gate : authDisabledTest = "usernameByToken == nil" := by decide +kernel

/-- Authentication enabled with no user at all: whatever the client sends (no, malformed or well-formed credentials),
    `ServerHandle` never hands a request over for forwarding and never grants a tunnel. -/
theorem nothing_before_auth_no_users (msgs : List ClientMsg) (n : Nat) :
    (∀ k first rest, serverHandle (some []) msgs n ≠ .forward k first rest) ∧
    (∀ k r, serverHandle (some []) msgs n ≠ .connect k r) := by
  -- `authOk (some []) _ = false`: only the two refusing arms of the loop are live, and neither hands anything over
  fun_induction serverHandle (some []) msgs n <;> simp_all [authOk, basicAuth_nil]

/-- In every reachable state of the forwarding system (any interleaving of the two goroutines, any behaviour of
    the origin), every request written to the origin has the first request's host and is not CONNECT. -/
theorem host_pinned (auth : Option (List Str)) (msgs : List ClientMsg) (k : Nat) (first : Req) (rest : List ClientMsg)
    (h : serverHandle auth msgs 0 = .forward k first rest) (s : St) (hr : Reachable first rest s) :
    ∀ r ∈ s.originIn, r.host = first.host ∧ r.method ≠ connectLit :=
  originIn_ok (serverHandle_forward h).2.1 hr

/-- A request for another host, a CONNECT, or a malformed request is never accepted. -/
theorem violating_request_refused (fh : Str) (m : ClientMsg) :
    accepts fh m = none ↔
      (m = ClientMsg.garbage ∨ ∃ r ok, m = ClientMsg.req r ok ∧ (r.method = connectLit ∨ r.host ≠ fh)) := by
  cases m with
  | garbage => simp [accepts]
  | req q ok => simp [accepts, Decidable.or_iff_not_imp_left]

/-- Such a request ends the request forwarder instead: from a state that is about to read such a request, the only step of
    the request forwarder leads to `done`, writes nothing to the origin and closes the queue. -/
theorem violating_request_ends (s t : St) (m : ClientMsg) (rest : List ClientMsg) (hs : Step s t)
    (hp : s.fphase = .read) (hc : s.clientIn = m :: rest) (ha : accepts s.fixedHost m = none)
    (hf : t.fphase ≠ s.fphase) : t.fphase = .done ∧ t.originIn = s.originIn ∧ t.chClosed = true := by
  -- from `fphase = .read` the request forwarder can only take `fReadOk`, which `ha` refutes, or `fReadEnd`
  cases hs <;> simp_all

/-- The connection ends after a response exactly when the response is final and the request carried `close`, the
    response carried `close`, its body is delimited by close, or the Location rule applies. An interim response
    never ends it. -/
theorem close_rules (p : Resp) (q : Req) :
    (filterResp p q).2 =
      (isFinal p.status && (q.close || p.connClose || p.bodyEOF || redirectClose (ingestResp p) q.host)) := by
  have hc := gen_repairs_present.2.2
  simp only [filterResp, hc, Bool.false_or]
  cases h : p.connClose <;> simp [ingestResp, respClose, h, Bool.and_comm, Bool.or_assoc]

/-- After such a response (or an error) the response forwarder is done, and once it is done no step writes to the
    client any more; the queue of announced requests never exceeds its capacity. -/
theorem closed_stays_closed (first : Req) (rest : List ClientMsg) (hm : first.method ≠ connectLit) (s t : St)
    (hr : Reachable first rest s) (hs : Step s t) :
    (s.respDone = true → s.rphase = .done) ∧ (s.rphase = .done → t.rphase = .done ∧ t.clientOut = s.clientOut) ∧
    s.queue.length ≤ queueCap :=
  ⟨(pinv_reachable hr).doneIff.mpr, rphase_done_absorbing hs, (finv_reachable hr).qcap⟩

/-- FIFO pairing over the traces of the forwarding system. In every reachable state (any interleaving of the request
    forwarder, the response forwarder and the origin, any responses, solicited or not), for the i-th response
    written to the client, paired by the code with request `q` taken as the `idx`-th request from the queue:
    * `idx` is the number of FINAL responses written before it: the k-th final response is paired with request
      number k, and interim responses stay with the request of the final response that follows them;
    * request number `idx` of the client's forwardable sequence (the first request, then the following ones up to the
      first CONNECT / other host / malformed request, each after filtering) is `q`;
    * if a request was written to the origin at position `idx`, it is `q`. -/
theorem fifo_pairing (first : Req) (rest : List ClientMsg) (s : St) (hr : Reachable first rest s)
    (i : Nat) (h : i < s.clientOut.length) :
    (s.clientOut[i]).2.2 = countFinals (s.clientOut.take i) ∧
    (filterReq first :: forwardList first.host rest)[(s.clientOut[i]).2.2]? = some (s.clientOut[i]).2.1 ∧
    ∀ r, s.originIn[(s.clientOut[i]).2.2]? = some r → r = (s.clientOut[i]).2.1 := by
  have hp := pinv_reachable hr
  have hf := finv_reachable hr
  obtain ⟨h1, h2⟩ := hp.paired i h
  refine ⟨h1, prefix_getElem? hf.pre h2, ?_⟩
  intro r hr'
  have := prefix_getElem? hp.origSent.1 hr'
  rw [h2] at this
  exact (Option.some.inj this).symm

/-- The same pairing in the sequential reading used by the correspondence check (`respond`: the responses of the
    origin consumed against the announced requests): the final responses are paired, in order, with a prefix of the
    requests. -/
theorem fifo_pairing_sequential (qs : List Req) (ps : List Resp) : finalsOf (respond qs ps) <+: qs := by
  fun_induction respond qs ps with
  | case1 | case2 => exact List.nil_prefix
  | case3 q qs p ps p' hfr =>  -- closing response
    rw [finalsOf_cons]
    split <;> simp [finalsOf]
  | case4 q qs p ps p' close hfr hc hf ih =>  -- final, connection stays
    rw [finalsOf_cons, filterResp_status_of hfr, if_pos hf]
    exact (List.prefix_cons_inj q).mpr ih
  | case5 q qs p ps p' close hfr hc hf ih =>  -- interim
    rw [finalsOf_cons, filterResp_status_of hfr, if_neg hf]
    exact ih

def exReq : Req :=
  { method := "GET".toList, host := "example.com".toList, close := false,
    header := [("Connection".toList, "x-foo, close".toList), ("X-Foo".toList, "1".toList), ("Accept".toList, "*/*".toList),
               ("Proxy-Authorization".toList, "Basic aGVsbG86d29ybGQ=".toList), ("Te".toList, "trailers".toList)],
    announced := ["X-Foo".toList], trailer := [("X-Foo".toList, "s".toList), ("X-Sum".toList, "9".toList)] }

example : (filterReq exReq).header = [("Accept".toList, "*/*".toList)] := by decide +kernel
example : (filterReq exReq).trailer = [("X-Sum".toList, "9".toList)] := by decide +kernel
example : serverHandle (some ["aGVsbG86d29ybGQ=".toList])
    [.req { exReq with header := [] } true, .req exReq true] 0 = .forward 1 exReq [] := by decide +kernel
-- the empty token map: well-formed credentials of a user that does not exist are answered with 407
example : serverHandle (some []) [.req exReq true, .req { exReq with method := connectLit } true] 0 = .readErr 2 := by decide +kernel
example : serverHandle none [.req exReq true] 0 = .forward 0 exReq [] := rfl
example : ∃ s, Reachable exReq [] s ∧ s.originIn = [filterReq exReq] :=
  ⟨_, .step (.step .init (.fAnnounce _ [] (filterReq exReq) rfl rfl (by decide))) (.fWrite _ [] (filterReq exReq) rfl rfl), rfl⟩
example : ∃ s, Reachable exReq [] s ∧ s.clientOut.length = 1 :=
  ⟨_, .step (.step (.step (.step (.step .init (.fAnnounce _ [] (filterReq exReq) rfl rfl (by decide)))
      (.origin _ { status := 200, connClose := false, bodyEOF := false, header := [], announced := [], trailer := [], locHost := none }))
      (.rPeek _ rfl (by simp))) (.rTake _ (filterReq exReq) [] rfl rfl)) (.rRead _ _ [] (filterReq exReq) rfl rfl rfl), rfl⟩
example : accepts "example.com".toList (.req { exReq with host := "EXAMPLE.com".toList } true) = none := by decide +kernel

end SSV.C16

#print axioms SSV.C16.gen_repairs_present
#print axioms SSV.C16.gen_covers_spec
#print axioms SSV.C16.gen_kept_harmless
#print axioms SSV.C16.gen_step_order
#print axioms SSV.C16.filter_exact
#print axioms SSV.C16.forbidden_never_forwarded
#print axioms SSV.C16.forbidden_trailer_never_forwarded
#print axioms SSV.C16.end_to_end_kept
#print axioms SSV.C16.nothing_before_auth
#print axioms SSV.C16.gen_auth_gate
#print axioms SSV.C16.nothing_before_auth_no_users
#print axioms SSV.C16.host_pinned
#print axioms SSV.C16.violating_request_refused
#print axioms SSV.C16.violating_request_ends
#print axioms SSV.C16.close_rules
#print axioms SSV.C16.closed_stays_closed
#print axioms SSV.C16.fifo_pairing
#print axioms SSV.C16.fifo_pairing_sequential
