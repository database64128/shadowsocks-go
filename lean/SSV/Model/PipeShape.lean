import SSV.Model.Pipe
/-
C15 — the shape of netio/pipe.go that the model `SSV.Model.Pipe` mirrors, written as the source texts the
translator (`gen_c15`) is expected to extract.  `SSV/Props/C15.lean` proves `Gen = expected` by `rfl`;
a select that loses / gains an alternative, a reordered `Store; close`, a dropped lock, a changed wiring,
a re-armed deadline that no longer re-makes its channel … re-open that obligation.
-/
namespace SSV.Pipe.Shape

def Alt.readSrc : Alt → String
  | .data => "<-p.rdRx"
  | .done => "<-p.localDone"
  | .deadline => "<-p.readDeadline.wait()"

def Alt.writeSrc : Alt → String
  | .data => "p.wrTx <- b"
  | .done => "<-p.remoteDone"
  | .deadline => "<-p.writeDeadline.wait()"

/-- the pre-check switch tests `done` first, then the deadline (model: `rChk1`/`rChk2`, `wChk1`/`wChk2`) -/
def readPrecheck : List String := ["isClosedChan(p.localDone)", "isClosedChan(p.readDeadline.wait())"]
def writePrecheck : List String := ["isClosedChan(p.remoteDone)", "isClosedChan(p.writeDeadline.wait())"]
def readPrecheckRet : List String := ["return 0, p.readError.Load()", "return 0, os.ErrDeadlineExceeded"]
def writeToPrecheckRet : List String := ["return n, p.writeToReadCloseError()", "return n, os.ErrDeadlineExceeded"]
def writePrecheckRet : List String := ["return 0, p.writeCloseError()", "return 0, os.ErrDeadlineExceeded"]

/-- clause bodies: data clause = copy ; count-back send ; return   (model: `data` then `count`) -/
def readSelectBodies : List (List String) :=
  [["nr := copy(b, bw)", "p.rdTx <- nr", "return nr, nil"], ["return 0, p.readError.Load()"], ["return 0, os.ErrDeadlineExceeded"]]
def writeToSelectBodies : List (List String) :=
  [["nw, err := w.Write(bw)", "n += int64(nw)", "p.rdTx <- nw", "if err != nil { return n, err }"],
   ["return n, p.writeToReadCloseError()"], ["return n, os.ErrDeadlineExceeded"]]
def writeSelectBodies : List (List String) :=
  [["nw := <-p.wrRx", "b = b[nw:]", "n += nw"], ["return n, p.writeCloseError()"], ["return n, os.ErrDeadlineExceeded"]]

def writePrologue : List String := ["p.wrMu.Lock()", "defer p.wrMu.Unlock()"]
def writeEpilogue : List String := ["return n, nil"]
def writeLoop : List String := ["once := true", "once || len(b) > 0", "once = false"]
def writeToLoop : List String := ["", "", ""]

/-- model: `cStore e` then `cClose` -/
def closeReadSteps : List String := ["if err == nil { err = io.ErrClosedPipe }", "p.readError.Store(err)", "p.closeLocalDone()"]
def closeWriteSteps : List String := ["if err == nil { err = io.EOF }", "p.writeError.Store(err)", "p.closeRemoteDone()"]
def closeWithErrorSteps : List String := ["p.CloseReadWithError(err)", "p.CloseWriteWithError(err)"]
def closeReadBody : List String := ["p.CloseReadWithError(nil)", "return nil"]
def closeWriteBody : List String := ["p.CloseWriteWithError(nil)", "return nil"]
def closeBody : List String := ["p.CloseWithError(nil)", "return nil"]

/-- model: `dChk w k` then `dSet w k` -/
def setReadDeadlineSteps : List String :=
  ["if isClosedChan(p.localDone) && p.readError.Load() == io.ErrClosedPipe { return io.ErrClosedPipe }", "p.readDeadline.set(t)", "return nil"]
def setWriteDeadlineSteps : List String :=
  ["if isClosedChan(p.remoteDone) && p.writeError.Load() == io.EOF { return io.ErrClosedPipe }", "p.writeDeadline.set(t)", "return nil"]
def setDeadlineSteps : List String :=
  ["rerr := p.SetReadDeadline(t)", "werr := p.SetWriteDeadline(t)", "if rerr != nil { return rerr }", "return werr"]

def writeCloseErrorBody : List String := ["if werr := p.writeError.Load(); werr != io.EOF { return werr }", "return io.ErrClosedPipe"]
def writeToReadCloseErrorBody : List String := ["if rerr := p.readError.Load(); rerr != io.EOF { return rerr }", "return nil"]
def readWrapper : List String :=
  ["n, err := p.read(b)", "if err != nil && err != io.EOF && err != io.ErrClosedPipe { err = &net.OpError{Op: \"read\", Net: \"pipe\", Err: err} }", "return n, err"]
def writeWrapper : List String :=
  ["n, err := p.write(b)", "if err != nil && err != io.ErrClosedPipe { err = &net.OpError{Op: \"write\", Net: \"pipe\", Err: err} }", "return n, err"]
def writeToWrapper : List String :=
  ["n, err := p.writeTo(w)", "if err != nil && err != io.ErrClosedPipe { err = &net.OpError{Op: \"writeto\", Net: \"pipe\", Err: err} }", "return n, err"]
def onceStoreBody : List String := ["_ = a.err.CompareAndSwap(nil, &err)"]
def onceLoadBody : List String := ["return *a.err.Load()"]
def isClosedChanBody : List String := ["select { case <-c: return true default: return false }"]
def deadlineWaitBody : List String := ["d.mu.Lock()", "defer d.mu.Unlock()", "return d.cancel"]
/-- model: `DL.set` -/
def deadlineSetBody : List String :=
  ["d.mu.Lock()", "defer d.mu.Unlock()", "if d.timer != nil && !d.timer.Stop() { <-d.cancel }", "d.timer = nil",
   "closed := isClosedChan(d.cancel)", "if t.IsZero() { if closed { d.cancel = make(chan struct{}) } return }",
   "if dur := time.Until(t); dur > 0 { if closed { d.cancel = make(chan struct{}) } d.timer = time.AfterFunc(dur, func() { close(d.cancel) }) return }",
   "if !closed { close(d.cancel) }"]
def makeDeadlineBody : List String := ["return pipeDeadline{cancel: make(chan struct{})}"]
/-- the data and count-back channels are never closed; all channels are unbuffered -/
def closeCalls : List String := ["close(d.cancel)", "close(d.cancel)", "close(done1)", "close(done2)"]
def makeChans : List String :=
  ["cancel=make(chan struct{})", "d.cancel=make(chan struct{})", "d.cancel=make(chan struct{})", "cb1=make(chan []byte)",
   "cb2=make(chan []byte)", "cn1=make(chan int)", "cn2=make(chan int)", "done1=make(chan struct{})", "done2=make(chan struct{})"]
/-- two directions sharing nothing: (cb1, cn1, done1, oe1) and (cb2, cn2, done2, oe2) -/
def pipeLeft : List String :=
  ["rdRx=cb1", "rdTx=cn1", "wrTx=cb2", "wrRx=cn2", "localDone=done1", "remoteDone=done2", "closeLocalDone=closeDone1",
   "closeRemoteDone=closeDone2", "readError=oe1", "writeError=oe2", "readDeadline=makePipeDeadline()", "writeDeadline=makePipeDeadline()"]
def pipeRight : List String :=
  ["rdRx=cb2", "rdTx=cn2", "wrTx=cb1", "wrRx=cn1", "localDone=done2", "remoteDone=done1", "closeLocalDone=closeDone2",
   "closeRemoteDone=closeDone1", "readError=oe2", "writeError=oe1", "readDeadline=makePipeDeadline()", "writeDeadline=makePipeDeadline()"]
def onceFuncs : List String :=
  ["closeDone1 := sync.OnceFunc(func() { close(done1) })", "closeDone2 := sync.OnceFunc(func() { close(done2) })"]

end SSV.Pipe.Shape
